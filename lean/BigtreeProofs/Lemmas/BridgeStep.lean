import BigtreeProofs.Lemmas.BridgeEdit
import BigtreeProofs.Lemmas.StoreStep
/-!
# Bridge A→B: every accepted call of the structural API, read back, is its forest edit

The `forest_*` statements have the form: if `G` is the forest of `s` up to the order of its trees, then the
forest of the store after the accepted call is `Forest.apply G op` up to the order of its trees.
-/

namespace Store
open Tree

/-- the receiver guard of every entry point: an accepted call has passed it -/
theorem ok_guard {b : Prop} [Decidable b] {r : Store × Outcome} {s : Store}
    (h : (if b then r else (s, Outcome.rej)).2 = .ok) : b ∧ (if b then r else (s, Outcome.rej)) = r := by
  by_cases hb : b
  · exact ⟨hb, if_pos hb⟩
  · rw [if_neg hb] at h
    cases h

theorem of_guard {b : Prop} [Decidable b] {r : Store × Outcome} {s : Store} {P : Store × Outcome → Prop}
    (h : (if b then r else (s, Outcome.rej)).2 = .ok) (hP : b → r.2 = .ok → P r) :
    P (if b then r else (s, Outcome.rej)) := by
  obtain ⟨hb, e⟩ := ok_guard h
  rw [e] at h ⊢
  exact hP hb h

theorem setParent_accepted {s : Store} (hw : WF s) (c : Cfg) (hc : c.assertions = true) (v : Nat)
    (np : Option Nat) (f : Fault) (h : (setParent c s v np f).2 = .ok) :
    (setParent c s v np f).1 = reparent s v np ∧ ∀ p, np = some p → p < s.n ∧ ¬ Reach s v p := by
  obtain ⟨he, _, hg, _⟩ := setParent_ok_eq c v np f h
  refine ⟨he, ?_⟩
  intro p hp
  subst hp
  have := hg hc
  exact ⟨by simpa [checkParentType] using this.1, (checkParentLoop_iff hw v p).1 this.2⟩

theorem forest_setParent {s : Store} (hw : WF s) (c : Cfg) (hc : c.assertions = true) (v : Nat) (hv : v < s.n)
    (np : Option Nat) (f : Fault) (h : (setParent c s v np f).2 = .ok) (G : Forest) (hG : (forest s).Perm G) :
    (forest (setParent c s v np f).1).Perm (Forest.apply G (.setParent v np f)) := by
  obtain ⟨he, hp⟩ := setParent_accepted hw c hc v np f h
  rw [he]
  cases np with
  | none => exact (forest_reparent_none hw v hv).trans (Forest.toRoot_perm hG (nodup_preL_forest hw) v)
  | some p =>
    rw [forest_reparent_some hw v p hv (hp p rfl).1 (hp p rfl).2]
    exact Forest.move_perm hG (nodup_preL_forest hw) v p

theorem forest_assignParentOf {s : Store} (hw : WF s) (c : Cfg) (hc : c.assertions = true) (ch p : Nat)
    (f : Fault) (h : (assignParentOf c s ch p f).2 = .ok) (G : Forest) (hG : (forest s).Perm G) :
    (forest (assignParentOf c s ch p f).1).Perm (Forest.move G ch p) :=
  of_guard (P := fun r => (forest r.1).Perm (Forest.move G ch p)) h fun hv h =>
    forest_setParent hw c hc ch hv (some p) f h G hG

theorem assignParentOf_rej_id {s : Store} (hw : WF s) (c : Cfg) (ch p : Nat) (f : Fault)
    (h : (assignParentOf c s ch p f).2 = .rej) : (assignParentOf c s ch p f).1 = s := by
  unfold assignParentOf at h ⊢
  split
  · rename_i hv; rw [if_pos hv] at h; exact setParent_rej_id hw c ch (some p) f h
  · rfl

/-- `extend`, whatever its outcome: exactly the members before the first refused one have been moved
(all of them when the call is accepted) -/
theorem forest_extend_prefix {c : Cfg} (hc : c.assertions = true) (p : Nat) : ∀ (cs : List Nat) (s : Store)
    (f : Fault) (k : Nat), WF s → ∀ G : Forest, (forest s).Perm G →
    ∃ j, j ≤ cs.length ∧ ((extend c s p cs f k).2 = .ok → j = cs.length) ∧
      (forest (extend c s p cs f k).1).Perm ((cs.take j).foldl (fun G c => Forest.move G c p) G) := by
  intro cs
  induction cs with
  | nil => intro s f k _ G hG; exact ⟨0, Nat.le_refl _, fun _ => rfl, hG⟩
  | cons x xs ih =>
    intro s f k hw G hG
    rw [extend]
    cases ho : (assignParentOf c s x p (if k = 0 then f else .none)).2 with
    | rej =>
      refine ⟨0, Nat.zero_le _, fun h => ?_, ?_⟩
      · rw [ho] at h
        cases h
      · rw [assignParentOf_rej_id hw c x p _ ho]
        exact hG
    | ok =>
      obtain ⟨j, hj, hok, hperm⟩ := ih _ (if k = 0 then .none else f) (k - 1)
        (wf_assignParentOf hw c hc x p _) _ (forest_assignParentOf hw c hc x p _ ho G hG)
      exact ⟨j + 1, Nat.succ_le_succ hj, fun h => congrArg (· + 1) (hok h), hperm⟩

theorem forest_delItem {s : Store} (hw : WF s) (c : Cfg) (hc : c.assertions = true) (p : Nat) (hp : p < s.n)
    (nm : Str) (f : Fault)
    (h : (delItem c s p nm f).2 = .ok) (G : Forest) (hG : (forest s).Perm G) :
    (forest (delItem c s p nm f).1).Perm (Forest.delItem G p nm) := by
  refine List.Perm.trans ?_ (Forest.delItem_perm hG (nodup_preL_forest hw) p nm)
  unfold Forest.delItem
  rw [subtreeL_forest hw p hp]
  simp only
  rw [treeOf_children hw p s.n (Nat.le_refl _), List.filter_map]
  simp only [Function.comp_def, treeOf_name]
  unfold delItem findChildByName at h ⊢
  cases hfl : (s.children p).filter (fun c => s.name c == nm) with
  | nil => simp only [List.map_nil]; exact List.Perm.refl _
  | cons ch rest =>
    cases rest with
    | nil =>
      simp only [hfl] at h
      simp only [List.map_cons, List.map_nil, treeOf_id]
      have hmem : ch ∈ (s.children p).filter (fun c => s.name c == nm) := by rw [hfl]; simp
      have hch : ch < s.n := (hw.range ch p (hw.down p ch (List.mem_filter.1 hmem).1)).1
      exact forest_setParent hw c hc ch hch none f h (forest s) (List.Perm.refl _)
    | cons ch2 rest2 => simp only [hfl] at h; cases h

theorem forest_setSep (s : Store) (v : Nat) (x : Str) : forest (setSep s v x) = forest s :=
  List.map_congr_left fun r _ => treeOf_congr (s := s) (t := setSep s v x) rfl rfl s.n r

/-- every accepted call of the structural API, read back, is its documented forest edit
(`G`: the forest of `s` in any order) -/
theorem forest_step {s : Store} (hw : WF s) (c : Cfg) (hc : c.assertions = true) (op : Op)
    (h : (step c s op).2 = .ok) (G : Forest) (hG : (forest s).Perm G) :
    (forest (step c s op).1).Perm (Forest.apply G op) := by
  cases op with
  | setParent v np f =>
    exact of_guard (P := fun r => (forest r.1).Perm _) h fun hv h =>
      forest_setParent hw c hc v hv np f h G hG
  | setChildren v cs f =>
    refine of_guard (P := fun r => (forest r.1).Perm _) h fun hv h => ?_
    obtain ⟨he, _, hg, _⟩ := setChildren_ok_eq hw c v cs f (by simp [hc]) h
    obtain ⟨hn, hcs⟩ := (checkChildrenLoop_iff hw v cs).1 hg
    rw [he]
    exact forest_adopted hw v hv G hG cs hn hcs
  | setChildrenNonList v f => cases h
  | delChildren v =>
    refine of_guard (P := fun r => (forest r.1).Perm _) h fun hv _ => ?_
    rw [delChildren_eq hw]
    exact (forest_detached hw v hv).trans (Forest.delChildren_perm hG (nodup_preL_forest hw) v)
  | append p ch f =>
    exact of_guard (P := fun r => (forest r.1).Perm _) h fun _ h =>
      forest_assignParentOf hw c hc ch p f h G hG
  | extend p cs f k =>
    refine of_guard (P := fun r => (forest r.1).Perm _) h fun _ h => ?_
    obtain ⟨j, _, hok, hperm⟩ := forest_extend_prefix hc p cs s f k hw G hG
    rwa [hok h, List.take_length] at hperm
  | rshift p ch f =>
    exact of_guard (P := fun r => (forest r.1).Perm _) h fun _ h =>
      forest_assignParentOf hw c hc ch p f h G hG
  | lshift ch np f =>
    refine of_guard (P := fun r => (forest r.1).Perm _) h fun hv h => ?_
    cases np <;> exact forest_setParent hw c hc ch hv _ f h G hG
  | delItem p nm f =>
    exact of_guard (P := fun r => (forest r.1).Perm _) h fun hp h =>
      forest_delItem hw c hc p hp nm f h G hG
  | sort v ranks rev =>
    refine of_guard (P := fun r => (forest r.1).Perm _) h fun _ _ => ?_
    rw [forest_sortChildren hw]
    exact Forest.sortChildren_perm hG v ranks rev
  | setSep v x =>
    refine of_guard (P := fun r => (forest r.1).Perm G) h fun _ _ => ?_
    rw [forest_setSep]
    exact hG

end Store
