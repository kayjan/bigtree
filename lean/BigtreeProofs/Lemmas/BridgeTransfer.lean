import BigtreeProofs.Lemmas.BridgeIds
/-!
# Bridge A→B: helpers for the transfer corollaries (pre-order of a read-back tree)
-/

namespace Iter

/-- the configuration of a traversal without filter, stop condition and depth limit -/
def Cfg.all : Cfg := { filt := fun _ => true, stop := fun _ => false, maxDepth := 0 }

theorem gateL_all_of {d : Nat} {ts : List Tree} (h : ∀ t ∈ ts, gate Cfg.all d t = t) : gateL Cfg.all d ts = ts := by
  induction ts with
  | nil => rfl
  | cons t ts ih =>
    rw [gateL, if_pos (show Cfg.all.admit d t = true from rfl), h t List.mem_cons_self,
      ih fun t' ht' => h t' (List.mem_cons_of_mem _ ht')]

theorem gate_all : ∀ (d : Nat) (t : Tree), gate Cfg.all d t = t := by
  intro d t
  induction t using Tree.ind generalizing d with
  | h i n a cs ih => rw [gate, gateL_all_of fun c hc => ih c hc (d + 1)]

theorem gateL_all (d : Nat) (ts : List Tree) : gateL Cfg.all d ts = ts :=
  gateL_all_of fun t _ => gate_all d t

end Iter

namespace Store
open Iter

theorem pre_treeOf_infix {s : Store} (hw : WF s) (f : Nat) (hf : s.n ≤ f) {r p : Nat} (h : Reach s r p) :
    pre (treeOf s f p) <:+: pre (treeOf s f r) := by
  induction h with
  | refl => exact List.infix_rfl
  | @step p x _ hp ih =>
    refine List.IsInfix.trans ?_ ih
    rw [pre_treeOf hw p f hf, Tree.preL_eq_flatten, List.map_map]
    exact List.infix_cons (List.infix_of_mem_flatten (List.mem_map.2 ⟨x, hw.up x p hp, rfl⟩))

theorem pre_parent_before {s : Store} (hw : WF s) (f : Nat) (hf : s.n ≤ f) {r p x : Nat}
    (hr : Reach s r p) (hp : s.parent x = some p) :
    ∃ l1 l2 l3, pre (treeOf s f r) = l1 ++ p :: (l2 ++ x :: l3) := by
  obtain ⟨l1, l3, h⟩ := pre_treeOf_infix hw f hf hr
  have hx : x ∈ preL ((s.children p).map (treeOf s f)) :=
    Tree.mem_preL_map.2 ⟨x, hw.up x p hp, (mem_pre_treeOf hw f hf x x).2 (Reach.refl x)⟩
  obtain ⟨m1, m2, hm⟩ := List.append_of_mem hx
  refine ⟨l1, m1, m2 ++ l3, ?_⟩
  rw [← h, pre_treeOf hw p f hf, hm]
  simp only [List.append_assoc, List.cons_append]

end Store
