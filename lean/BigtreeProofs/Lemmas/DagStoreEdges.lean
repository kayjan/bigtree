import BigtreeProofs.Lemmas.DagStoreThms
/-!
# DagStore — which edges an operation adds, removes, refuses
-/

namespace DagStore

/-! ## what an accepted assignment adds -/

/-- the edges `(parent, child)` an operation asks for -/
def requested (s : DStore) : Op → List (Nat × Nat)
  | .setParents v a _ => (a.items.getD []).map fun p => (p, v)
  | .setChildren v a _ => (a.items.getD []).map fun c => (v, c)
  | .rshift v o _ => [(v, o)]
  | .lshift v o _ => [(o, v)]
  | .construct _ ps cs _ _ =>
    ((ps.items.getD []).map fun p => (p, s.n)) ++ ((cs.items.getD []).map fun c => (s.n, c))
  | .delChildren _ => []
  | .delItem _ _ => []

def Op.isAssign : Op → Bool
  | .delChildren _ => false
  | .delItem _ _ => false
  | _ => true

theorem setParents_adds {s : DStore} {v : Nat} {a : Arg} {f : Fault}
    (h : (setParents true s v a f).2 = .ok) (p c : Nat) :
    p ∈ (setParents true s v a f).1.parents c ↔
      p ∈ s.parents c ∨ (p, c) ∈ (a.items.getD []).map fun p => (p, v) := by
  obtain ⟨l, rfl, _, _, he⟩ := setParents_ok h
  rw [he, mem_after_parents]
  simp only [Arg.items, Option.getD_some, List.mem_map, Prod.mk.injEq]
  exact or_congr_right ⟨fun ⟨e, hm⟩ => ⟨p, hm, rfl, e.symm⟩, fun ⟨_, hm, e1, e2⟩ => e1 ▸ ⟨e2.symm, hm⟩⟩

theorem setChildren_adds {s : DStore} {v : Nat} {a : Arg} {f : Fault}
    (h : (setChildren true s v a f).2 = .ok) (p c : Nat) :
    p ∈ (setChildren true s v a f).1.parents c ↔
      p ∈ s.parents c ∨ (p, c) ∈ (a.items.getD []).map fun c => (v, c) := by
  obtain ⟨l, ha, _, _, he⟩ := setChildren_ok h
  rw [he, mem_after_children, ha]
  simp only [Option.getD_some, List.mem_map, Prod.mk.injEq]
  exact or_congr_right ⟨fun ⟨e, hm⟩ => ⟨c, hm, e.symm, rfl⟩, fun ⟨_, hm, e1, e2⟩ => e2 ▸ ⟨e1.symm, hm⟩⟩

theorem step_adds {s : DStore} (hs : DWF s) {op : Op} (h : (step true s op).2 = .ok)
    (ha : op.isAssign = true) (p c : Nat) :
    p ∈ (step true s op).1.parents c ↔ p ∈ s.parents c ∨ (p, c) ∈ requested s op :=
  step_cases (P := fun op r => r.2 = .ok → op.isAssign = true →
      (p ∈ r.1.parents c ↔ p ∈ s.parents c ∨ (p, c) ∈ requested s op))
    (fun _ h => nomatch h)
    (fun _ _ _ _ h _ => setParents_adds h p c) (fun _ _ _ _ h _ => setChildren_adds h p c)
    (fun _ _ _ _ _ h _ => setParents_adds h p c) (fun _ _ _ _ h _ => setParents_adds h p c)
    (fun _ _ _ ha => nomatch ha) (fun _ _ _ _ ha => nomatch ha)
    (fun nm ps cs fp fc h _ => by
      cases h1 : (setParents true (alloc s nm) s.n ps fp).2 with
      | rej => rw [construct_of_rej h1, h1] at h; cases h
      | ok =>
        rw [construct_of_ok h1] at h ⊢
        rw [setChildren_adds h, setParents_adds h1, alloc_parents hs.toDWF0, requested,
          List.mem_append, or_assoc]) op h ha

theorem setParents_prefix (s : DStore) (hs : DWF0 s) (v : Nat) (a : Arg) (f : Fault) (x : Nat) :
    s.parents x <+: (setParents true s v a f).1.parents x ∧
    s.children x <+: (setParents true s v a f).1.children x := by
  cases h : (setParents true s v a f).2 with
  | rej => rw [setParents_rej_id hs h]; exact ⟨List.prefix_refl _, List.prefix_refl _⟩
  | ok =>
    obtain ⟨l, _, _, _, he⟩ := setParents_ok h
    rw [he, addEs_parents, addEs_children]
    exact ⟨List.prefix_append _ _, List.prefix_append _ _⟩

theorem setChildren_prefix (s : DStore) (hs : DWF0 s) (v : Nat) (a : Arg) (f : Fault) (x : Nat) :
    s.parents x <+: (setChildren true s v a f).1.parents x ∧
    s.children x <+: (setChildren true s v a f).1.children x := by
  cases h : (setChildren true s v a f).2 with
  | rej => rw [setChildren_rej_id hs h]; exact ⟨List.prefix_refl _, List.prefix_refl _⟩
  | ok =>
    obtain ⟨l, _, _, _, he⟩ := setChildren_ok h
    rw [he, addEs_parents, addEs_children]
    exact ⟨List.prefix_append _ _, List.prefix_append _ _⟩

/-- assignments only add: whatever the outcome (accepted, refused, failed hook, half-built
constructor), every old list is a prefix of the new one -/
theorem step_prefix {s : DStore} (hs : DWF s) {op : Op} (ha : op.isAssign = true) (x : Nat) :
    s.parents x <+: (step true s op).1.parents x ∧
    s.children x <+: (step true s op).1.children x :=
  step_cases (P := fun op r => op.isAssign = true →
      s.parents x <+: r.1.parents x ∧ s.children x <+: r.1.children x)
    (fun _ _ => ⟨List.prefix_refl _, List.prefix_refl _⟩)
    (fun v a f _ _ => setParents_prefix s hs.toDWF0 v a f x)
    (fun v a f _ _ => setChildren_prefix s hs.toDWF0 v a f x)
    (fun _ o f _ _ _ => setParents_prefix s hs.toDWF0 o _ f x)
    (fun v _ f _ _ => setParents_prefix s hs.toDWF0 v _ f x)
    (fun _ _ ha => nomatch ha) (fun _ _ _ ha => nomatch ha)
    (fun nm ps cs fp fc _ => by
      have h0 := dwf_alloc hs nm
      have h1 := setParents_prefix (alloc s nm) h0.toDWF0 s.n ps fp x
      rw [alloc_parents hs.toDWF0, alloc_children hs.toDWF0] at h1
      cases h : (setParents true (alloc s nm) s.n ps fp).2 with
      | rej => rw [construct_of_rej h]; exact h1
      | ok =>
        rw [construct_of_ok h]
        have h2 := setChildren_prefix _ (dwf_setParents h0 (Nat.lt_succ_self _) ps fp).toDWF0 s.n cs fc x
        exact ⟨h1.1.trans h2.1, h1.2.trans h2.2⟩) op ha

/-! ## list-exact form of an accepted assignment -/

theorem addEs_parentEdges_parents (s : DStore) (v : Nat) (A : List Nat) (x : Nat) :
    (addEs s (A.map fun p => (p, v))).parents x = if x = v then s.parents v ++ A else s.parents x := by
  rw [addEs_parents, List.filter_map, List.map_map]
  by_cases h : v = x
  · subst x; simp [Function.comp_def]
  · simp [h, Ne.symm h, Function.comp_def]

theorem addEs_childEdges_children (s : DStore) (v : Nat) (A : List Nat) (x : Nat) :
    (addEs s (A.map fun c => (v, c))).children x = if x = v then s.children v ++ A else s.children x := by
  rw [addEs_children, List.filter_map, List.map_map]
  by_cases h : v = x
  · subst x; simp [Function.comp_def]
  · simp [h, Ne.symm h, Function.comp_def]

theorem addEs_parentEdges_children (s : DStore) (v p : Nat) {A : List Nat} (hA : A.Nodup) :
    (addEs s (A.map fun q => (q, v))).children p = s.children p ++ if p ∈ A then [v] else [] := by
  rw [addEs_children, List.filter_map, List.map_map]
  show _ ++ ((A.filter (· = p)).map fun _ => v) = _
  rw [List.filter_eq, List.map_replicate, hA.count]
  split <;> rfl

theorem setParents_ok_parents {s : DStore} {v : Nat} {l : List Nat} {f : Fault}
    (h : (setParents true s v (.list l) f).2 = .ok) (x : Nat) :
    (setParents true s v (.list l) f).1.parents x =
      if x = v then s.parents v ++ l.filter (fun p => decide (p ∉ s.parents v)) else s.parents x := by
  obtain ⟨l', hl', _, _, he⟩ := setParents_ok h
  cases hl'
  rw [he, newParentEdges, addEs_parentEdges_parents]

theorem setChildren_ok_children {s : DStore} {v : Nat} {a : Arg} {f : Fault}
    (h : (setChildren true s v a f).2 = .ok) (x : Nat) :
    (setChildren true s v a f).1.children x =
      if x = v then s.children v ++ (a.items.getD []).filter (fun c => decide (v ∉ s.parents c))
      else s.children x := by
  obtain ⟨l, ha, _, _, he⟩ := setChildren_ok h
  rw [he, newChildEdges, addEs_childEdges_children, ha]
  rfl

/-! ## what a deletion removes -/

/-- the edges a deletion names -/
def removed (s : DStore) : Op → List (Nat × Nat)
  | .delChildren v => (s.children v).map fun c => (v, c)
  | .delItem v nm =>
    match (s.children v).filter (fun c => s.names c == nm) with
    | [c] => [(v, c)]
    | _ => []
  | _ => []

/-- a deletion removes exactly the named edges (and is accepted unless the name is ambiguous,
in which case nothing is named and nothing removed) -/
theorem step_removes {s : DStore} (hs : DWF s) {op : Op} (ha : op.isAssign = false) (p c : Nat) :
    p ∈ (step true s op).1.parents c ↔ p ∈ s.parents c ∧ (p, c) ∉ removed s op := by
  cases op with
  | delChildren v =>
    have hm : (p, c) ∈ (s.children v).map (fun c => (v, c)) ↔ p = v ∧ c ∈ s.children v :=
      List.mem_map.trans ⟨fun ⟨_, h, e⟩ => by cases e; exact ⟨rfl, h⟩, fun ⟨e, h⟩ => ⟨c, h, e ▸ rfl⟩⟩
    rw [step, removed, hm]
    by_cases hv : v < s.n
    · rw [if_pos hv, delChildren, delChildrenLoop_parents v (hs.ndc v)]
      by_cases hc : c ∈ s.children v
      · rw [if_pos hc, (hs.ndp c).mem_erase_iff]
        exact ⟨fun h => ⟨h.2, fun h' => h.1 h'.1⟩, fun h => ⟨fun e => h.2 ⟨e, hc⟩, h.1⟩⟩
      · rw [if_neg hc]
        exact ⟨fun h => ⟨h, fun h' => hc h'.2⟩, And.left⟩
    · -- a receiver that is not a node has no children
      rw [if_neg hv, hs.children_nil (Nat.le_of_not_lt hv)]
      exact ⟨fun h => ⟨h, fun h' => nomatch h'.2⟩, And.left⟩
  | delItem v nm =>
    rw [step, removed]
    by_cases hv : v < s.n
    · rw [if_pos hv, delItem]
      cases (s.children v).filter (fun c => s.names c == nm) with
      | nil => exact ⟨fun h => ⟨h, List.not_mem_nil⟩, And.left⟩
      | cons c' t =>
        cases t with
        | nil =>
          refine (mem_delE_parents hs.toDWF0).trans (and_congr_right fun _ => not_congr ?_)
          rw [List.mem_singleton, Prod.mk.injEq, and_comm]
        | cons _ _ => exact ⟨fun h => ⟨h, List.not_mem_nil⟩, And.left⟩
    · rw [if_neg hv, hs.children_nil (Nat.le_of_not_lt hv)]
      exact ⟨fun h => ⟨h, List.not_mem_nil⟩, And.left⟩
  | _ => cases ha

/-! ## what is refused -/

theorem setParents_ok_spec {s : DStore} (hs : DWF s) {v : Nat} {a : Arg} {f : Fault}
    (h : (setParents true s v a f).2 = .ok) :
    ∃ l, a = .list l ∧ l.Nodup ∧ ∀ p ∈ l, p < s.n ∧ p ≠ v ∧ ¬ Anc s v p := by
  obtain ⟨l, rfl, hl, _, _⟩ := setParents_ok h
  exact ⟨l, rfl, checkParentLoop_anc hs hl⟩

theorem setChildren_ok_spec {s : DStore} (hs : DWF s) {v : Nat} {a : Arg} {f : Fault}
    (h : (setChildren true s v a f).2 = .ok) :
    ∃ l, a.items = some l ∧ l.Nodup ∧ ∀ c ∈ l, c < s.n ∧ c ≠ v ∧ ¬ Anc s c v := by
  obtain ⟨l, ha, hl, _, _⟩ := setChildren_ok h
  exact ⟨l, ha, checkChildrenLoop_anc hs hl⟩

/-- first-principles reading of "would create a self-loop, a cycle or a repeated member" (or
names something that is not a node) -/
def Refusable (s : DStore) : Op → Prop
  | .setParents v a _ =>
    ∃ l, a.items = some l ∧ (¬ l.Nodup ∨ v ∈ l ∨ (∃ p ∈ l, Anc s v p) ∨ ∃ p ∈ l, s.n ≤ p)
  | .setChildren v a _ =>
    ∃ l, a.items = some l ∧ (¬ l.Nodup ∨ v ∈ l ∨ (∃ c ∈ l, Anc s c v) ∨ ∃ c ∈ l, s.n ≤ c)
  | .rshift v o _ => v = o ∨ Anc s o v
  | .lshift v o _ => v = o ∨ Anc s v o ∨ s.n ≤ o
  | .construct _ ps cs _ _ =>
    ∃ lp lc, ps.items = some lp ∧ cs.items = some lc ∧
      (¬ lp.Nodup ∨ ¬ lc.Nodup ∨ ∃ p ∈ lp, ∃ c ∈ lc, c = p ∨ Anc s c p)
  | _ => False

/-- what `setParents_ok_spec` / `setChildren_ok_spec` say of the members excludes each of the
four defects `Refusable` lists (`R`: the reachability that would close a cycle) -/
theorem not_refusable {s : DStore} {v : Nat} {R : Nat → Prop} {l : List Nat}
    (hl : l.Nodup ∧ ∀ p ∈ l, p < s.n ∧ p ≠ v ∧ ¬ R p) :
    ¬(¬ l.Nodup ∨ v ∈ l ∨ (∃ p ∈ l, R p) ∨ ∃ p ∈ l, s.n ≤ p) := by
  rintro (hb | hb | ⟨p, hp, hb⟩ | ⟨p, hp, hb⟩)
  · exact hb hl.1
  · exact (hl.2 v hb).2.1 rfl
  · exact (hl.2 p hp).2.2 hb
  · exact Nat.not_le.2 (hl.2 p hp).1 hb

theorem reject_loops {s : DStore} (hs : DWF s) {op : Op} (h : Refusable s op) :
    (step true s op).2 = .rej := by
  cases hr : (step true s op).2 with
  | rej => rfl
  | ok =>
    refine absurd h (step_cases (P := fun op r => r.2 = .ok → ¬ Refusable s op)
      (fun _ h => nomatch h)
      (fun v a f _ hr h => by
        obtain ⟨l, rfl, hl⟩ := setParents_ok_spec hs hr
        obtain ⟨_, hl', hbad⟩ := h
        cases hl'
        exact not_refusable hl hbad)
      (fun v a f _ hr h => by
        obtain ⟨l, ha, hl⟩ := setChildren_ok_spec hs hr
        obtain ⟨_, hl', hbad⟩ := h
        cases ha.symm.trans hl'
        exact not_refusable hl hbad)
      (fun v o f _ _ hr h => by
        obtain ⟨l, e, _, hl⟩ := setParents_ok_spec hs hr
        cases e
        have := hl v (List.mem_singleton_self v)
        exact h.elim this.2.1 this.2.2)
      (fun v o f _ hr h => by
        obtain ⟨l, e, _, hl⟩ := setParents_ok_spec hs hr
        cases e
        have := hl o (List.mem_singleton_self o)
        exact h.elim (fun e => this.2.1 e.symm) fun h => h.elim this.2.2 (Nat.not_le.2 this.1))
      (fun _ _ _ h => h) (fun _ _ _ _ h => h)
      (fun nm ps cs fp fc hr h => by
        obtain ⟨lp', lc', e1, e2, hbad⟩ := h
        cases h1 : (setParents true (alloc s nm) s.n ps fp).2 with
        | rej => rw [construct_of_rej h1, h1] at hr; cases hr
        | ok =>
          rw [construct_of_ok h1] at hr
          have h0 := dwf_alloc hs nm
          obtain ⟨lp, rfl, hnp, hlp⟩ := setParents_ok_spec h0 h1
          obtain ⟨lc, hac, hnc, hlc⟩ :=
            setChildren_ok_spec (dwf_setParents h0 (Nat.lt_succ_self _) _ fp) hr
          cases e1
          cases hac.symm.trans e2
          rcases hbad with hb | hb | ⟨p, hp, c, hc, hb⟩
          · exact hb hnp
          · exact hb hnc
          · -- `p` is by now a parent of the new node: a child at or above `p` would close a cycle
            have hpn := (setParents_adds h1 p s.n).2 (.inr (List.mem_map.2 ⟨p, hp, rfl⟩))
            have hmono : ∀ q x, q ∈ s.parents x →
                q ∈ (setParents true (alloc s nm) s.n _ fp).1.parents x :=
              fun q x hq => (setParents_adds h1 q x).2 (.inl (by rwa [alloc_parents hs.toDWF0]))
            exact (hlc c hc).2.2 (hb.elim (fun e => e ▸ .base hpn) fun hb => .step (hb.mono hmono) hpn))
      op hr)

end DagStore
