import BigtreeModel.Search
import BigtreeProofs.Lemmas.SearchPaths
/-! C09 for separators of ANY length: `find_full_path_iff` / `find_full_path (path_name v) = v` for
separators such as `"::"` or `"->"`, from the laws of `Strings` (names share no character with the separator). -/

namespace Search
open Query

/-- `find_full_path` finds `v` iff the names from the root to `v`, joined by the separator, are the query
without its leading / trailing separator characters — for EVERY non-empty separator; the names share no
character with it -/
theorem findFullPath_iff_multi {R : Tree} (sp : Str) (hsp : sp ≠ []) (a : Addr) (q : Str)
    (hfree : ∀ (x : Addr) (t : Tree), sub R x = some t → Store.Free sp t.name) (hu : SibUnique R) (v : Addr) :
    findFullPath R sp a q = .ok (some v) ↔
      (sub R v).isSome ∧ join sp (pathNames R v) = lstrip sp (rstrip sp q) := by
  rw [findFullPath_iff_split sp a q hu v, split_eq_strings, join_eq_intercalate]
  refine and_congr_right fun hv => Strings.split_eq_iff hsp (pathNames_ne_nil R v) (fun w hw => ?_) _
  obtain ⟨x, t, hx, rfl⟩ := pathNames_mem hv hw
  exact hfree x t hx

/-- looking up a node's own `path_name` finds that node, for every non-empty separator (names non-empty and
sharing no character with it), also with further separator characters in front of / behind the path -/
theorem findFullPath_pathName_multi {R : Tree} (sp : Str) (hsp : sp ≠ []) (a v : Addr) (lead trail : Str)
    (hl : ∀ x ∈ lead, x ∈ sp) (ht : ∀ x ∈ trail, x ∈ sp)
    (hfree : ∀ (x : Addr) (t : Tree), sub R x = some t → Store.Free sp t.name)
    (hne : ∀ (x : Addr) (t : Tree), sub R x = some t → t.name ≠ [])
    (hu : SibUnique R) (hv : (sub R v).isSome) :
    findFullPath R sp a (lead ++ pathName R sp v ++ trail) = .ok (some v) := by
  have hn : ∀ w ∈ pathNames R v, w ≠ [] ∧ Store.Free sp w := fun w hw => by
    obtain ⟨x, t, hx, rfl⟩ := pathNames_mem hv hw
    exact ⟨hne x t hx, hfree x t hx⟩
  have hlead : ∀ x ∈ lead ++ sp, x ∈ sp := fun x hx => (List.mem_append.1 hx).elim (hl x) id
  rw [findFullPath_iff_multi sp hsp a _ hfree hu v, pathName_eq, ← List.append_assoc lead, join_eq_intercalate]
  exact ⟨hv, (Strings.strip_join_pad sp _ (pathNames_ne_nil R v) hn (lead ++ sp) trail hlead ht).1.symm⟩

end Search
