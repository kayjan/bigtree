import BigtreeProofs.Lemmas.BridgeBasic
import BigtreeProofs.Lemmas.BridgeTree
/-!
# Bridge A→B: the identities of the read-back tree are exactly the descendants, each once;
the forest partitions the node set
-/

namespace Store
open Iter Tree

theorem pre_treeOf {s : Store} (hw : WF s) (r f : Nat) (hf : s.n ≤ f) :
    pre (treeOf s f r) = r :: preL ((s.children r).map (treeOf s f)) := by
  rw [treeOf_unfold hw r f hf]
  rfl

theorem mem_pre_treeOf {s : Store} (hw : WF s) (f : Nat) (hf : s.n ≤ f) (r x : Nat) :
    x ∈ pre (treeOf s f r) ↔ Reach s r x := by
  induction r using children_induction hw generalizing x with
  | h r ih =>
    rw [pre_treeOf hw r f hf, reach_top_iff hw, List.mem_cons, mem_preL_map]
    exact or_congr Iff.rfl (exists_congr fun c => and_congr_right fun hc => ih c hc x)

theorem siblings_disjoint {s : Store} (hw : WF s) {r c1 c2 x : Nat} (h1 : c1 ∈ s.children r)
    (h2 : c2 ∈ s.children r) (hx1 : Reach s c1 x) (hx2 : Reach s c2 x) : c1 = c2 := by
  -- one of the two is above the other; a child of `r` strictly above a child of `r` would be above `r`
  have key : ∀ a b, a ∈ s.children r → b ∈ s.children r → Reach s a b → a = b := by
    intro a b ha hb hr
    rcases reach_iff.1 hr with h | ⟨p, hp, hrp⟩
    · exact h
    · rw [hw.down r b hb] at hp
      cases hp
      exact absurd hrp (not_reach_parent hw (hw.down r a ha))
  rcases Reach.comparable hx1 hx2 with h | h
  · exact key c1 c2 h1 h2 h
  · exact (key c2 c1 h2 h1 h).symm

theorem nodup_pre_treeOf {s : Store} (hw : WF s) (f : Nat) (hf : s.n ≤ f) (r : Nat) :
    (pre (treeOf s f r)).Nodup := by
  induction r using children_induction hw with
  | h r ih =>
    rw [pre_treeOf hw r f hf]
    refine List.nodup_cons.2 ⟨fun hm => ?_, nodup_preL_map (hw.nodup r) ih fun a ha b hb x hxa hxb => ?_⟩
    · obtain ⟨c, hc, hx⟩ := mem_preL_map.1 hm
      exact not_reach_parent hw (hw.down r c hc) ((mem_pre_treeOf hw f hf c r).1 hx)
    · exact siblings_disjoint hw ha hb ((mem_pre_treeOf hw f hf a x).1 hxa) ((mem_pre_treeOf hw f hf b x).1 hxb)

theorem mem_roots {s : Store} (r : Nat) : r ∈ roots s ↔ r < s.n ∧ s.parent r = none := by
  rw [roots, List.mem_filter, List.mem_range, Option.isNone_iff_eq_none]

theorem roots_sorted (s : Store) : (roots s).Pairwise (· < ·) :=
  List.Pairwise.filter _ List.pairwise_lt_range

theorem roots_nodup (s : Store) : (roots s).Nodup :=
  (roots_sorted s).imp Nat.ne_of_lt

theorem mem_pre_root {s : Store} (hw : WF s) {r : Nat} (hr : r ∈ roots s) (x : Nat) :
    x ∈ pre (treeOf s s.n r) ↔ x < s.n ∧ rootOf s s.n x = r := by
  obtain ⟨hrn, hrp⟩ := (mem_roots r).1 hr
  rw [mem_pre_treeOf hw s.n (Nat.le_refl _)]
  constructor
  · intro h
    refine ⟨?_, rootOf_spec hw h hrp⟩
    cases h with
    | refl => exact hrn
    | step _ hp => exact (hw.range _ _ hp).1
  · rintro ⟨_, rfl⟩
    exact (rootOf_is_root hw x).2

theorem rootOf_mem_roots {s : Store} (hw : WF s) {x : Nat} (hx : x < s.n) : rootOf s s.n x ∈ roots s :=
  (mem_roots _).2 ⟨reach_lt hw (rootOf_is_root hw x).2 hx, (rootOf_is_root hw x).1⟩

theorem mem_preL_forest {s : Store} (hw : WF s) (x : Nat) : x ∈ preL (forest s) ↔ x < s.n := by
  rw [forest, mem_preL_map]
  constructor
  · rintro ⟨r, hr, hx⟩
    exact ((mem_pre_root hw hr x).1 hx).1
  · intro hx
    have hr := rootOf_mem_roots hw hx
    exact ⟨_, hr, (mem_pre_root hw hr x).2 ⟨hx, rfl⟩⟩

theorem nodup_preL_forest {s : Store} (hw : WF s) : (preL (forest s)).Nodup :=
  nodup_preL_map (roots_nodup s) (fun r _ => nodup_pre_treeOf hw s.n (Nat.le_refl _) r)
    fun _ ha _ hb x hxa hxb => ((mem_pre_root hw ha x).1 hxa).2.symm.trans ((mem_pre_root hw hb x).1 hxb).2

end Store
