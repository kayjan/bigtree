import BigtreeModel.Search
import BigtreeProofs.Lemmas.SearchPaths
/-! Decidable sufficient checks for the hypotheses of `C09.find_full_path_iff`
(sibling-unique names, separator in no name), used by the non-vacuity examples. -/

namespace Search
open Query

mutual
/-- `P` holds at every node of the tree -/
def allSub (P : Tree → Bool) : Tree → Bool
  | .node i n a cs => P (.node i n a cs) && allSubL P cs
def allSubL (P : Tree → Bool) : List Tree → Bool
  | [] => true
  | c :: cs => allSub P c && allSubL P cs
end

theorem allSubL_eq_true {P : Tree → Bool} {cs : List Tree} :
    allSubL P cs = true ↔ ∀ c ∈ cs, allSub P c = true := by
  induction cs with
  | nil => simp [allSubL]
  | cons d ds ih => rw [allSubL, Bool.and_eq_true, ih, List.forall_mem_cons]

theorem allSub_sub (P : Tree → Bool) : ∀ (x : Addr) (R t : Tree),
    allSub P R = true → sub R x = some t → P t = true := by
  intro x
  induction x with
  | nil =>
    intro R t h hs
    cases R
    rw [allSub, Bool.and_eq_true] at h
    cases hs
    exact h.1
  | cons k ks ih =>
    intro R t h hs
    rw [sub_cons, Option.bind_eq_some_iff] at hs
    obtain ⟨c, hc, hs⟩ := hs
    cases R
    rw [allSub, Bool.and_eq_true] at h
    exact ih c t (allSubL_eq_true.1 h.2 c (List.mem_of_getElem? hc)) hs

/-- children names pairwise distinct at this node -/
def childNamesDistinct (t : Tree) : Bool := decide ((t.children.map Tree.name).Nodup)

theorem sibUnique_of_check (R : Tree) (h : allSub childNamesDistinct R = true) : SibUnique R := by
  intro p j k hj hk hn
  cases hp : sub R p with
  | none =>
    have := sub_isSome_of_append hj
    rw [hp] at this; cases this
  | some t =>
    have hnd : (t.children.map Tree.name).Nodup := of_decide_eq_true (allSub_sub childNamesDistinct p R t h hp)
    have hjl : j < (t.children.map Tree.name).length := by
      rw [List.length_map]; exact (sub_snoc_isSome hp j).1 hj
    rw [nameAt, nameAt, sub_snoc, sub_snoc, hp] at hn
    exact (List.getElem?_inj hjl hnd).1 (by rw [List.getElem?_map, List.getElem?_map]; exact hn)

theorem noSep_of_check (s : Char) (R : Tree) (h : allSub (fun t => !t.name.contains s) R = true) :
    ∀ (x : Addr) (t : Tree), sub R x = some t → s ∉ t.name :=
  fun x t hs => by simpa using allSub_sub _ x R t h hs

end Search
