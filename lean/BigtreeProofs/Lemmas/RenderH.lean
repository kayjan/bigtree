import BigtreeProofs.Lemmas.RenderHAsm
/-!
# Horizontal rendering (`hyield_tree` / `_hprint_branch`): where the nodes are shown

`hplace` against `hblock`, by induction along `hblock` (`hblock.mutual_induct`); the rows of the children sit in
the parent's block as `joinGap_head` / `joinGap_tail` say, behind the prefix column (`hblock_framed`).
`h_bands` needs the names of inner nodes to fit the padding (`HFits`, which `padOf` meets; false without it:
`h_bands_block_unpadded_false`).
-/

namespace Render

/-! ### `hplace` with offset 0 -/

/-- move a placement `k` rows down -/
def Placed.shift (k : Nat) (p : Placed) : Placed := { p with row := k + p.row }

@[simp] theorem Placed.shift_row (k : Nat) (p : Placed) : (p.shift k).row = k + p.row := rfl
@[simp] theorem Placed.shift_depth (k : Nat) (p : Placed) : (p.shift k).depth = p.depth := rfl
@[simp] theorem Placed.shift_isLeaf (k : Nat) (p : Placed) : (p.shift k).isLeaf = p.isLeaf := rfl
@[simp] theorem Placed.shift_name (k : Nat) (p : Placed) : (p.shift k).name = p.name := rfl
theorem Placed.shift_shift (j k : Nat) (p : Placed) : (p.shift k).shift j = p.shift (j + k) := by
  simp [Placed.shift, Nat.add_assoc]
theorem Placed.shift_zero (p : Placed) : p.shift 0 = p := by simp [Placed.shift]

theorem hplace_shift (S : HStyle) (inter : Bool) (pad : Nat → Nat) :
    (∀ (d : Nat) (t : HTree), ∀ off, hplace S inter pad d off t = (hplace S inter pad d 0 t).map (Placed.shift off)) ∧
    (∀ (d : Nat) (cs : List HTree), ∀ off gap,
      hplaceL S inter pad d off gap cs = (hplaceL S inter pad d 0 gap cs).map (Placed.shift off)) := by
  apply hblock.mutual_induct S inter pad
  · intro d off
    simp [hplace, Placed.shift]
  · intro d n cs h off
    simp only [Bool.not_eq_eq_eq_not, Bool.not_true] at h
    simp [hplace, h, Placed.shift]
  · intro d n cs h ih off
    simp only [Bool.not_eq_eq_eq_not, Bool.not_true, Bool.not_eq_false] at h
    simp only [hplace, h, Bool.not_true, Bool.false_eq_true, ↓reduceIte, List.map_cons]
    rw [ih off]
    simp [Placed.shift]
  · intro d off gap
    simp [hplaceL]
  · intro d c cs ih1 ih2 off gap
    simp only [hplaceL, List.map_append]
    rw [ih1 off, ih2 (off + _ + _), ih2 (0 + _ + _), List.map_map]
    congr 1
    apply List.map_congr_left
    intro p _
    simp [Placed.shift_shift, Nat.add_assoc]

theorem hplace_hole0 (S : HStyle) (inter : Bool) (pad : Nat → Nat) (d : Nat) :
    hplace S inter pad d 0 .hole = [⟨d, 0, true, [' ', ' ']⟩] := by simp [hplace]

theorem hplace_leaf0 (S : HStyle) (inter : Bool) (pad : Nat → Nat) (d : Nat) (n : Str) (cs : List HTree)
    (h : (!cs.any HTree.isReal) = true) :
    hplace S inter pad d 0 (.node n cs) = [⟨d, 0, true, n⟩] := by
  simp only [Bool.not_eq_eq_eq_not, Bool.not_true] at h
  simp [hplace, h]

theorem hplace_inner0 (S : HStyle) (inter : Bool) (pad : Nat → Nat) (d : Nat) (n : Str) (cs : List HTree)
    (h : ¬(!cs.any HTree.isReal) = true) :
    hplace S inter pad d 0 (.node n cs) =
      ⟨d, (hblock S inter pad d (.node n cs)).2, false, n⟩ ::
        hplaceL S inter pad (d + 1) 0 (gapInserted (hblockL S inter pad (d + 1) cs)) cs := by
  simp only [Bool.not_eq_eq_eq_not, Bool.not_true, Bool.not_eq_false] at h
  simp [hplace, h]

theorem mem_hplaceL_cons0 {S : HStyle} {inter : Bool} {pad : Nat → Nat} {d : Nat} {gap : Bool} {c : HTree}
    {cs : List HTree} {p : Placed} (hp : p ∈ hplaceL S inter pad d 0 gap (c :: cs)) :
    p ∈ hplace S inter pad d 0 c ∨ ∃ q ∈ hplaceL S inter pad d 0 gap cs,
      p = q.shift ((hblock S inter pad d c).1.length + (if gap then 1 else 0)) := by
  rw [hplaceL, (hplace_shift S inter pad).2 d cs (0 + _ + _), Nat.zero_add, List.mem_append, List.mem_map] at hp
  exact hp.imp_right fun ⟨q, hq, e⟩ => ⟨q, hq, e.symm⟩

/-! ### rows stay inside the block -/

theorem hplace_row_lt_aux (S : HStyle) (inter : Bool) (pad : Nat → Nat) :
    (∀ (d : Nat) (t : HTree), ∀ p ∈ hplace S inter pad d 0 t, p.row < (hblock S inter pad d t).1.length) ∧
    (∀ (d : Nat) (cs : List HTree), ∀ gap, ∀ p ∈ hplaceL S inter pad d 0 gap cs,
      p.row < (joinGap gap (hblockL S inter pad d cs)).length) := by
  apply hblock.mutual_induct S inter pad
  · intro d p hp
    rw [hplace_hole0, List.mem_singleton] at hp
    rw [hp, hblock_hole]
    exact Nat.one_pos
  · intro d n cs h p hp
    rw [hplace_leaf0 _ _ _ _ _ _ h, List.mem_singleton] at hp
    rw [hp, hblock_leaf _ _ _ _ _ _ h]
    exact Nat.one_pos
  · intro d n cs h ih p hp
    rw [hplace_inner0 _ _ _ _ _ _ h, List.mem_cons] at hp
    rcases hp with rfl | hp
    · exact ((hblock_inv S inter pad).1 d _).lt
    · rw [(hblock_framed S inter pad d n cs h).length]
      exact ih _ p hp
  · intro d gap p hp
    simp [hplaceL] at hp
  · intro d c cs ih1 ih2 gap p hp
    rw [hblockL]
    rcases mem_hplaceL_cons0 hp with hp | ⟨q, hq, rfl⟩
    · have := (joinGap_head gap _ (hblockL S inter pad d cs)).lt (ih1 p hp)
      rwa [Nat.zero_add] at this
    · exact (joinGap_tail gap _ _).lt (ih2 gap q hq)

theorem hplace_row_lt (S : HStyle) (inter : Bool) (pad : Nat → Nat) (d : Nat) (t : HTree) :
    ∀ p ∈ hplace S inter pad d 0 t, p.row < (hblock S inter pad d t).1.length :=
  (hplace_row_lt_aux S inter pad).1 d t

/-! ### leaf order -/

/-- the leaves of a placement list occupy strictly increasing rows -/
def LeafInc (pl : List Placed) : Prop := ((pl.filter (·.isLeaf)).map (·.row)).Pairwise (· < ·)

theorem leafInc_append (A B : List Placed) :
    LeafInc (A ++ B) ↔ LeafInc A ∧ LeafInc B ∧
      ∀ x ∈ A, x.isLeaf = true → ∀ y ∈ B, y.isLeaf = true → x.row < y.row := by
  simp only [LeafInc, List.filter_append, List.map_append, List.pairwise_append, List.mem_map,
    List.mem_filter]
  constructor
  · rintro ⟨h1, h2, h3⟩
    exact ⟨h1, h2, fun x hx hxl y hy hyl => h3 _ ⟨x, ⟨hx, hxl⟩, rfl⟩ _ ⟨y, ⟨hy, hyl⟩, rfl⟩⟩
  · rintro ⟨h1, h2, h3⟩
    refine ⟨h1, h2, ?_⟩
    rintro _ ⟨x, ⟨hx, hxl⟩, rfl⟩ _ ⟨y, ⟨hy, hyl⟩, rfl⟩
    exact h3 x hx hxl y hy hyl

theorem leafInc_shift (k : Nat) (B : List Placed) : LeafInc (B.map (Placed.shift k)) ↔ LeafInc B := by
  simp [LeafInc, List.filter_map, List.pairwise_map, Function.comp_def]

theorem hplace_leafInc_aux (S : HStyle) (inter : Bool) (pad : Nat → Nat) :
    (∀ (d : Nat) (t : HTree), LeafInc (hplace S inter pad d 0 t)) ∧
    (∀ (d : Nat) (cs : List HTree), ∀ gap, LeafInc (hplaceL S inter pad d 0 gap cs)) := by
  apply hblock.mutual_induct S inter pad
  · intro d
    simp [hplace_hole0, LeafInc]
  · intro d n cs h
    simp [hplace_leaf0 _ _ _ _ _ _ h, LeafInc]
  · intro d n cs h ih
    rw [hplace_inner0 _ _ _ _ _ _ h]
    exact ih (gapInserted (hblockL S inter pad (d + 1) cs))
  · intro d gap
    simp [hplaceL, LeafInc]
  · intro d c cs ih1 ih2 gap
    rw [hplaceL, (hplace_shift S inter pad).2 d cs (0 + _ + _), leafInc_append, leafInc_shift]
    refine ⟨ih1, ih2 gap, ?_⟩
    intro x hx _ y hy _
    have := hplace_row_lt S inter pad d c x hx
    obtain ⟨q, _, rfl⟩ := List.mem_map.mp hy
    rw [Placed.shift_row]
    omega

/-- `h_leaf_order`: the leaves (pre-order) occupy strictly increasing rows -/
theorem h_leaf_order_block (S : HStyle) (inter : Bool) (pad : Nat → Nat) (d : Nat) (t : HTree) :
    (((hplace S inter pad d 0 t).filter (·.isLeaf)).map (·.row)).Pairwise (· < ·) :=
  (hplace_leafInc_aux S inter pad).1 d t

/-! ### `h_bands`: every node is shown at the column of its depth -/

mutual
/-- with intermediate node names, the name of every inner node (a node with a real child) is
    no longer than the padding of its depth (`d` = depth of the root of `t`) -/
def HFits (inter : Bool) (pad : Nat → Nat) : Nat → HTree → Prop
  | _, .hole => True
  | d, .node n cs =>
    (inter = true → cs.any HTree.isReal = true → n.length ≤ pad d) ∧ HFitsL inter pad (d + 1) cs
def HFitsL (inter : Bool) (pad : Nat → Nat) : Nat → List HTree → Prop
  | _, [] => True
  | d, c :: cs => HFits inter pad d c ∧ HFitsL inter pad d cs
end

theorem center_length (s : Str) (w : Nat) (h : s.length ≤ w) : (center s w).length = w := by
  unfold center
  split
  · omega
  · -- the left margin is at most the whole margin: the odd blank is added at most once
    have hx : (w - s.length) % 2 * (w % 2) ≤ (w - s.length) % 2 := by
      have := Nat.mul_le_mul_left ((w - s.length) % 2) (Nat.le_of_lt_succ (Nat.mod_lt w (by decide : 0 < 2)))
      rwa [Nat.mul_one] at this
    simp only [List.length_append, List.length_replicate]
    generalize (w - s.length) % 2 * (w % 2) = e at hx ⊢
    omega

/-- `center` leaves a too long name unchanged, hence the hypothesis: then `nodeStr.length + 1 = bandWidth` -/
theorem hlabel_inner_length (S : HStyle) (inter : Bool) (pad : Nat → Nat) (d : Nat) (n : Str)
    (h : inter = true → n.length ≤ pad d) :
    (hlabel S inter pad d n false).length + 1 = bandWidth inter pad d := by
  cases inter with
  | false => rfl
  | true => simp [hlabel, bandWidth, center_length n (pad d) (h rfl)]

theorem hcol_succ (inter : Bool) (pad : Nat → Nat) (d k : Nat) :
    hcol inter pad d (k + 1) = bandWidth inter pad d + hcol inter pad (d + 1) k := by
  induction k with
  | zero => simp [hcol]
  | succ k ih => rw [hcol, ih, hcol, Nat.add_assoc, Nat.add_assoc d, Nat.add_comm 1 k]

/-- `p` (a node of depth `p.depth` in a block whose root has depth `d`) is shown in `rows` at its row,
    at the column of its depth -/
def BandOK (S : HStyle) (inter : Bool) (pad : Nat → Nat) (d : Nat) (rows : List Str) (p : Placed) : Prop :=
  d ≤ p.depth ∧
  ∃ row, rows[p.row]? = some row ∧
    hlabel S inter pad p.depth p.name p.isLeaf <+: row.drop (hcol inter pad d (p.depth - d)) ∧
    (p.isLeaf = true → row.drop (hcol inter pad d (p.depth - d)) = hlabel S inter pad p.depth p.name true)

section
variable {S : HStyle} {inter : Bool} {pad : Nat → Nat}

theorem BandOK.rowsAt {d : Nat} {A B : List Str} {k : Nat} {p : Placed} (h : BandOK S inter pad d B p)
    (hAB : RowsAt A k B) : BandOK S inter pad d A (p.shift k) :=
  ⟨h.1, h.2.imp fun row hrow => ⟨hAB _ row hrow.1, hrow.2⟩⟩

theorem BandOK.frame {d : Nat} {ns : Str} {res : List Str} {out : List Str × Nat} {p : Placed}
    (hf : Framed ns res out) (hw : ns.length + 1 = bandWidth inter pad d)
    (h : BandOK S inter pad (d + 1) res p) : BandOK S inter pad d out.1 p := by
  obtain ⟨h1, row, h2, h3⟩ := h
  obtain ⟨pre, hpre, hrow⟩ := hf.row h2
  refine ⟨by omega, pre ++ row, hrow, ?_⟩
  rw [show p.depth - d = (p.depth - (d + 1)) + 1 by omega, hcol_succ, ← hw, ← hpre, ← List.drop_drop,
    List.drop_left]
  exact h3

theorem BandOK.leafRow (d : Nat) (n : Str) :
    BandOK S inter pad d [hlabel S inter pad d n true] ⟨d, 0, true, n⟩ := by
  refine ⟨Nat.le_refl _, _, rfl, ?_⟩
  simp [hcol]

end

theorem h_bands_aux (S : HStyle) (inter : Bool) (pad : Nat → Nat) :
    (∀ (d : Nat) (t : HTree), HFits inter pad d t →
      ∀ p ∈ hplace S inter pad d 0 t, BandOK S inter pad d (hblock S inter pad d t).1 p) ∧
    (∀ (d : Nat) (cs : List HTree), HFitsL inter pad d cs → ∀ gap, ∀ p ∈ hplaceL S inter pad d 0 gap cs,
      BandOK S inter pad d (joinGap gap (hblockL S inter pad d cs)) p) := by
  apply hblock.mutual_induct S inter pad
  · intro d _ p hp
    rw [hplace_hole0, List.mem_singleton] at hp
    rw [hp, hblock_hole]
    exact BandOK.leafRow d _
  · intro d n cs h _ p hp
    rw [hplace_leaf0 _ _ _ _ _ _ h, List.mem_singleton] at hp
    rw [hp, hblock_leaf _ _ _ _ _ _ h]
    exact BandOK.leafRow d _
  · intro d n cs h ih hfit p hp
    rw [hplace_inner0 _ _ _ _ _ _ h, List.mem_cons] at hp
    have hfr := hblock_framed S inter pad d n cs h
    rw [HFits] at hfit
    rcases hp with rfl | hp
    · obtain ⟨row, hrow, hpre⟩ := hfr.idxRow
      refine ⟨Nat.le_refl _, row, hrow, ?_, by simp⟩
      simpa [hcol] using hpre
    · exact BandOK.frame hfr (hlabel_inner_length S inter pad d n (fun hi => hfit.1 hi (by simpa using h)))
        (ih hfit.2 _ p hp)
  · intro d _ gap p hp
    simp [hplaceL] at hp
  · intro d c cs ih1 ih2 hfit gap p hp
    rw [HFitsL] at hfit
    rw [hblockL]
    rcases mem_hplaceL_cons0 hp with hp | ⟨q, hq, rfl⟩
    · have := (ih1 hfit.1 p hp).rowsAt (joinGap_head gap _ (hblockL S inter pad d cs))
      rwa [Placed.shift_zero] at this
    · exact (ih2 hfit.2 gap q hq).rowsAt (joinGap_tail gap _ _)

/-- `h_bands`: every node of depth e is shown at column `hcol inter pad d (e - d)` of its row — the
    column depends on the depth only; a leaf's label is the rest of its row.
    Without `HFits` the statement is false, see `h_bands_block_unpadded_false`. -/
theorem h_bands_block (S : HStyle) (inter : Bool) (pad : Nat → Nat) (d : Nat) (t : HTree)
    (hfit : HFits inter pad d t) :
    ∀ p ∈ hplace S inter pad d 0 t,
      d ≤ p.depth ∧
      ∃ row, (hblock S inter pad d t).1[p.row]? = some row ∧
        hlabel S inter pad p.depth p.name p.isLeaf <+: row.drop (hcol inter pad d (p.depth - d)) ∧
        (p.isLeaf = true → row.drop (hcol inter pad d (p.depth - d)) = hlabel S inter pad p.depth p.name true) :=
  (h_bands_aux S inter pad).1 d t hfit

/-! ### `HFits` holds for the padding `hyield_tree` computes (`padOf`), and trivially without intermediate names -/

theorem padAt_node_zero (n : Str) (cs : List HTree) : padAt (.node n cs) 0 = n.length := by
  rw [padAt]
theorem padAt_node_succ (n : Str) (cs : List HTree) (k : Nat) :
    padAt (.node n cs) (k + 1) = padAt.padAtL cs k := by
  rw [padAt]
theorem padAtL_cons (c : HTree) (cs : List HTree) (k : Nat) :
    padAt.padAtL (c :: cs) k = max (padAt c k) (padAt.padAtL cs k) := by
  rw [padAt.padAtL]

mutual
theorem HFits_of_padAt_le (inter : Bool) (pad : Nat → Nat) : ∀ (t : HTree) (d : Nat),
    (inter = true → ∀ k, padAt t k ≤ pad (d + k)) → HFits inter pad d t
  | .hole, _, _ => by rw [HFits]; trivial
  | .node n cs, d, h => by
    rw [HFits]
    refine ⟨fun hi _ => padAt_node_zero n cs ▸ h hi 0, HFitsL_of_padAtL_le inter pad cs (d + 1) fun hi k => ?_⟩
    rw [← padAt_node_succ n, Nat.add_assoc, Nat.add_comm 1 k]
    exact h hi (k + 1)
theorem HFitsL_of_padAtL_le (inter : Bool) (pad : Nat → Nat) : ∀ (cs : List HTree) (d : Nat),
    (inter = true → ∀ k, padAt.padAtL cs k ≤ pad (d + k)) → HFitsL inter pad d cs
  | [], _, _ => by rw [HFitsL]; trivial
  | c :: cs, d, h => by
    rw [HFitsL]
    exact ⟨HFits_of_padAt_le inter pad c d fun hi k =>
        Nat.le_trans (padAtL_cons c cs k ▸ Nat.le_max_left _ _) (h hi k),
      HFitsL_of_padAtL_le inter pad cs d fun hi k =>
        Nat.le_trans (padAtL_cons c cs k ▸ Nat.le_max_right _ _) (h hi k)⟩
end

theorem HFits_false (pad : Nat → Nat) (d : Nat) (t : HTree) : HFits false pad d t :=
  HFits_of_padAt_le false pad t d (fun h => nomatch h)

theorem HFits_padOf (inter : Bool) (t : HTree) : HFits inter (padOf inter t) 1 t :=
  HFits_of_padAt_le inter _ t 1 fun hi k => by simp [padOf, hi]

theorem h_bands_block_nointer (S : HStyle) (pad : Nat → Nat) (d : Nat) (t : HTree) :
    ∀ p ∈ hplace S false pad d 0 t,
      d ≤ p.depth ∧
      ∃ row, (hblock S false pad d t).1[p.row]? = some row ∧
        hlabel S false pad p.depth p.name p.isLeaf <+: row.drop (hcol false pad d (p.depth - d)) ∧
        (p.isLeaf = true → row.drop (hcol false pad d (p.depth - d)) = hlabel S false pad p.depth p.name true) :=
  h_bands_block S false pad d t (HFits_false pad d t)

/-- a root whose name is longer than the padding `fun _ => 0`: the counterexample to `h_bands_block` without `HFits` -/
def cxTree : HTree := .node ['x', 'y', 'z'] [.node ['q'] []]
def cxStyle : HStyle := ⟨'a', 'b', 'c', 'd', 'e', '|', '-'⟩

/-- the statement of `h_bands_block` without `HFits` (arbitrary `pad`) is false: `center` leaves a name
    longer than the padding unchanged, so the band of the root is wider than `bandWidth` -/
theorem h_bands_block_unpadded_false :
    ¬ (∀ (S : HStyle) (inter : Bool) (pad : Nat → Nat) (d : Nat) (t : HTree),
      ∀ p ∈ hplace S inter pad d 0 t,
        d ≤ p.depth ∧
        ∃ row, (hblock S inter pad d t).1[p.row]? = some row ∧
          hlabel S inter pad p.depth p.name p.isLeaf <+: row.drop (hcol inter pad d (p.depth - d)) ∧
          (p.isLeaf = true → row.drop (hcol inter pad d (p.depth - d)) = hlabel S inter pad p.depth p.name true)) := by
  intro h
  obtain ⟨_, row, hrow, hpre, _⟩ := h cxStyle true (fun _ => 0) 1 cxTree ⟨2, 0, true, ['q']⟩ (by decide +kernel)
  have hb : (hblock cxStyle true (fun _ => 0) 1 cxTree).1 =
      [['-', ' ', 'x', 'y', 'z', ' ', '-', '-', '-', ' ', 'q']] := by decide +kernel
  rw [hb] at hrow
  simp only [List.getElem?_cons_zero, Option.some.injEq] at hrow
  subst hrow
  revert hpre
  decide +kernel

/-! ### the statements for `hyield_tree` itself (no side condition) -/

theorem h_bands_hyield (S : HStyle) (inter : Bool) (md : Nat) (t : HTree) :
    let t' := hprune md t
    let pad := padOf inter t'
    ∀ p ∈ hplace S inter pad 1 0 t',
      1 ≤ p.depth ∧
      ∃ row, (hyieldTree S inter md t)[p.row]? = some row ∧
        hlabel S inter pad p.depth p.name p.isLeaf <+: row.drop (hcol inter pad 1 (p.depth - 1)) ∧
        (p.isLeaf = true → row.drop (hcol inter pad 1 (p.depth - 1)) = hlabel S inter pad p.depth p.name true) := by
  intro t' pad
  exact h_bands_block S inter pad 1 t' (HFits_padOf inter t')

theorem h_leaf_order_hyield (S : HStyle) (inter : Bool) (md : Nat) (t : HTree) :
    (((hplace S inter (padOf inter (hprune md t)) 1 0 (hprune md t)).filter (·.isLeaf)).map (·.row)).Pairwise
      (· < ·) :=
  h_leaf_order_block S inter _ 1 _

theorem hplace_row_lt_hyield (S : HStyle) (inter : Bool) (md : Nat) (t : HTree) :
    ∀ p ∈ hplace S inter (padOf inter (hprune md t)) 1 0 (hprune md t),
      p.row < (hyieldTree S inter md t).length :=
  hplace_row_lt S inter _ 1 _

/-! ### the gap assertion; the parent's row inside the span of its children -/

/-- the Python `assert len(result) == 2` in the gap case can never fail -/
theorem h_gap_assert (S : HStyle) (inter : Bool) (pad : Nat → Nat) (d : Nat) (a b : HTree) :
    gapInserted (hblockL S inter pad d [a, b]) = true →
      ((hblockL S inter pad d [a, b]).flatMap (·.1)).length = 2 := by
  intro h
  obtain ⟨ra, rb, e⟩ := gap_shape _ ((hblock_inv S inter pad).2 d [a, b]) h
  rw [e]
  rfl

/-- the invariant behind it: a block is one row (the node's own), or the node's row is strictly inside -/
theorem hblock_shape (S : HStyle) (inter : Bool) (pad : Nat → Nat) (d : Nat) (t : HTree) :
    ((hblock S inter pad d t).1.length = 1 ∧ (hblock S inter pad d t).2 = 0) ∨
    (0 < (hblock S inter pad d t).2 ∧ (hblock S inter pad d t).2 + 1 < (hblock S inter pad d t).1.length) :=
  (hblock_inv S inter pad).1 d t

/-- rows (inside the parent's block, first row `off`) at which the children themselves are placed -/
def childRows (S : HStyle) (inter : Bool) (pad : Nat → Nat) (d off : Nat) (gap : Bool) : List HTree → List Nat
  | [] => []
  | c :: cs =>
    (off + (hblock S inter pad d c).2) ::
      childRows S inter pad d (off + (hblock S inter pad d c).1.length + (if gap then 1 else 0)) gap cs

/-- the first entry of `hplace … d off t` is `t` itself, on row `off + idx`. `hplaceL` and `childRows` advance `off`
    by the same amount from child to child, so `childRows` lists these rows for the children. -/
theorem hplace_head_row (S : HStyle) (inter : Bool) (pad : Nat → Nat) (d off : Nat) (t : HTree) :
    (hplace S inter pad d off t).head?.map (·.row) = some (off + (hblock S inter pad d t).2) := by
  cases t with
  | hole => simp [hplace, hblock]
  | node n cs =>
    by_cases h : (!cs.any HTree.isReal) = true
    · rw [hblock_leaf _ _ _ _ _ _ h]
      simp only [Bool.not_eq_eq_eq_not, Bool.not_true] at h
      simp [hplace, h]
    · simp only [Bool.not_eq_eq_eq_not, Bool.not_true, Bool.not_eq_false] at h
      simp [hplace, h]

theorem childRows_eq_cRows (S : HStyle) (inter : Bool) (pad : Nat → Nat) (d : Nat) (gap : Bool)
    (cs : List HTree) : ∀ off, childRows S inter pad d off gap cs = cRows off gap (hblockL S inter pad d cs) := by
  induction cs with
  | nil =>
    intro off
    simp [childRows, cRows, hblockL]
  | cons c cs ih =>
    intro off
    simp [childRows, cRows, hblockL, ih]

/-- `h_parent_in_span`: the row of an inner node lies between the rows of its first and its last
    child (strictly, when it has at least two child slots) -/
theorem h_parent_in_span (S : HStyle) (inter : Bool) (pad : Nat → Nat) (d : Nat) (n : Str) (cs : List HTree)
    (h : cs.any HTree.isReal = true) (f l : Nat)
    (hf : (childRows S inter pad (d + 1) 0 (gapInserted (hblockL S inter pad (d + 1) cs)) cs).head? = some f)
    (hl : (childRows S inter pad (d + 1) 0 (gapInserted (hblockL S inter pad (d + 1) cs)) cs).getLast? = some l) :
    f ≤ (hblock S inter pad d (.node n cs)).2 ∧ (hblock S inter pad d (.node n cs)).2 ≤ l ∧
    (2 ≤ cs.length → f < (hblock S inter pad d (.node n cs)).2 ∧ (hblock S inter pad d (.node n cs)).2 < l) := by
  rw [childRows_eq_cRows] at hf hl
  rcases hblock_inner_cases S inter pad d n cs (by simp [h]) with ⟨c, rfl, pre, -, -, h3, -⟩ |
    ⟨-, pre, first, last, -, -, hcc, hhead, hlast, -⟩
  · rw [h3]
    simp only [hblockL, cRows, Nat.zero_add, List.head?_cons, List.getLast?_singleton, Option.some.injEq] at hf hl
    subst hf hl
    exact ⟨Nat.le_refl _, Nat.le_refl _, fun h2 => by simp at h2⟩
  · rw [hhead] at hf
    rw [hlast] at hl
    cases hf
    cases hl
    exact ⟨Nat.le_of_lt hcc.lt1, Nat.le_of_lt hcc.lt2, fun _ => ⟨hcc.lt1, hcc.lt2⟩⟩

/-! ### non-vacuity -/

/-- the gap case is reachable: two leaves under one parent -/
example : gapInserted (hblockL cxStyle true (fun _ => 1) 2 [.node ['q'] [], .node ['r'] []]) = true := by decide +kernel

/-- `HFits` is satisfiable with intermediate names on a tree with an inner node -/
example : HFits true (fun _ => 3) 1 cxTree := by
  simp [cxTree, HFits, HFitsL]

/-- an inner node with three children, one of them inner: parent row strictly inside the span -/
example : (hblock cxStyle false (fun _ => 0) 1
    (.node ['r'] [.node ['a'] [], .node ['b'] [.node ['c'] [], .node ['d'] []], .hole])).2 = 2 := by decide +kernel

end Render
