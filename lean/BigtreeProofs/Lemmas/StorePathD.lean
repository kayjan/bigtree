import BigtreeProofs.Lemmas.StorePathA
/-!
# Paths on the pointer store: `path_name`, `depth`, `sep`, `find_full_path`
-/

namespace Store

theorem depthAux_eq (s : Store) : ∀ (f v : Nat), depthAux s f v = (anc s f v).length + 1 := by
  intro f
  induction f with
  | zero => intro v; rfl
  | succ f ih =>
    intro v
    simp only [depthAux, anc]
    cases s.parent v with
    | none => rfl
    | some p => simp [ih p]

theorem depth_eq_length (s : Store) (v : Nat) : depth s v = (pathNames s v).length := by
  simp [depth, depthAux_eq, pathNames, pathNodes]

theorem pathName_eq (s : Store) (v : Nat) :
    pathName s v = sep s v ++ join (sep s v) (pathNames s v) := by
  simp only [pathName, sep, rootOf_eq_getLast]

theorem pathNames_ne_nil (s : Store) (v : Nat) : pathNames s v ≠ [] := by
  simp [pathNames, pathNodes]

theorem filter_unique {l : List Nat} {b : Nat} {q : Nat → Bool} (hn : l.Nodup) (hb : b ∈ l) (hq : q b = true)
    (hu : ∀ c ∈ l, q c = true → c = b) : l.filter q = [b] := by
  -- on `l` the test `q` is "equal to `b`", and `b` occurs exactly once
  have hcount : l.count b = 1 := Nat.le_antisymm (List.nodup_iff_count.1 hn b) (List.one_le_count_iff.2 hb)
  have hq' : ∀ c ∈ l, q c = (c == b) := fun c hc => by
    by_cases hcb : c = b
    · rw [hcb, hq, beq_self_eq_true]
    · rw [beq_eq_false_iff_ne.2 hcb]
      exact Bool.eq_false_iff.2 fun h => hcb (hu c hc h)
  rw [List.filter_congr hq', List.filter_beq, hcount]
  rfl

theorem findChildByName_child {s : Store} (hw : WF s) (hu : SibUnique s) (a b : Nat)
    (h : s.parent b = some a) : findChildByName s a (s.name b) = some (some b) := by
  have hb := hw.up b a h
  have : (s.children a).filter (fun c => s.name c == s.name b) = [b] :=
    filter_unique (hw.nodup a) hb (by simp) (fun c hc hq => hu a c b hc hb (by simpa using hq))
  simp [findChildByName, this]

theorem descend_chain {s : Store} (hw : WF s) (hu : SibUnique s) : ∀ (t : List Nat) (a : Nat),
    Down s (a :: t) → descend s a (t.map s.name) = some ((a :: t).getLast? ) := by
  intro t
  induction t with
  | nil => intro a _; rfl
  | cons b t ih =>
    intro a hd
    simp only [List.map_cons, descend, findChildByName_child hw hu a b hd.1]
    rw [ih b hd.2]
    simp [List.getLast?_cons_cons]

/-- the descent of `find_full_path` is a left inverse of `pathNames` -/
theorem descend_pathNames {s : Store} (hw : WF s) (hu : SibUnique s) (v : Nat) :
    ∃ rest, pathNames s v = s.name (rootOf s s.n v) :: rest ∧
      descend s (rootOf s s.n v) rest = some (some v) := by
  have hh := pathNodes_head s v
  have hl := pathNodes_getLast s v
  have hd := down_pathNodes hw v
  unfold pathNames
  cases hL : pathNodes s v with
  | nil => rw [hL] at hh; cases hh
  | cons r t =>
    rw [hL] at hh hl hd
    cases hh
    exact ⟨t.map s.name, rfl, by rw [descend_chain hw hu t _ hd, hl]⟩

theorem pathNames_injective {s : Store} (hw : WF s) (hu : SibUnique s) (u v : Nat)
    (hst : SameTree s u v) (h : pathNames s u = pathNames s v) : u = v := by
  have hroot : rootOf s s.n u = rootOf s s.n v := hst
  obtain ⟨ru, hu', du⟩ := descend_pathNames hw hu u
  obtain ⟨rv, hv', dv⟩ := descend_pathNames hw hu v
  rw [hu', hv'] at h
  rw [hroot, (List.cons.inj h).2, dv] at du
  exact (Option.some.inj (Option.some.inj du)).symm

/-! ## the separator is the root's -/

theorem sep_of_root {s : Store} (hw : WF s) {r v : Nat} (hr : Reach s r v) (hroot : s.parent r = none) :
    sep s v = s.sepOf r := by
  simp only [sep, rootOf_spec hw hr hroot]

theorem sep_parent {s : Store} (hw : WF s) (v p : Nat) (h : s.parent v = some p) : sep s v = sep s p := by
  simp only [sep, rootOf_step hw v p h]

theorem rootOf_setSep (s : Store) (v : Nat) (x : Str) : ∀ (f u : Nat),
    rootOf (setSep s v x) f u = rootOf s f u := by
  intro f
  induction f with
  | zero => intro u; rfl
  | succ f ih =>
    intro u
    simp only [rootOf]
    show (match s.parent u with | none => u | some p => rootOf (setSep s v x) f p) = _
    cases s.parent u with
    | none => rfl
    | some p => exact ih p

theorem sep_setSep (s : Store) (v : Nat) (x : Str) (u : Nat) :
    sep (setSep s v x) u = if SameTree s u v then x else sep s u := by
  simp only [sep, SameTree]
  rw [rootOf_setSep]
  show (setSep s v x).sepOf (rootOf s s.n u) = _
  simp only [setSep]

end Store
