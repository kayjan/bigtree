import BigtreeProofs.Lemmas.DiffRebuild
/-!
# C15: `add_dict_to_tree_by_path` — the value pairs, then the ` (~)` renames
-/
namespace Helper

theorem addPath_mapN (c : Char) (u : Upd) (fn : List Str → Str → Str) (fa : List Str → Attrs → Attrs)
    (T : Tree) (p : List Str) (hs : SibU T) (hp : p ∈ keys T)
    (hg : ∀ n ∈ p, n ≠ [] ∧ c ∉ n)
    (hd : ∀ q n, ∀ x ∈ p, fn q n = x → n = x)
    (hc : ∀ q n, q <+: p → fn q n = n) :
    addPath [c] u (mapN fn fa [] T) (pathName [c] p) =
      .ok (mapN (updFn u p fn) (updFa u p fa) [] T) := by
  obtain ⟨rest, rfl⟩ := keys_head T p hp
  rw [pathName, addPath_join c u _ [c] T.name rest (fun _ => List.mem_singleton.mp) hg, mapN_name,
    hc ([] ++ [T.name]) _ (⟨rest, rfl⟩ : [] ++ [T.name] <+: T.name :: rest), bne_self_eq_false,
    if_neg Bool.false_ne_true]
  exact ins_mapN u fn fa (T.name :: rest) hc rest T [] rfl hs hp
    fun q n x hx => hd q n x (List.mem_cons_of_mem _ hx)

/-! ## the value pairs -/

theorem fold_pairs (c : Char) (T : Tree) (hs : SibU T) : ∀ (us : List (List Str × Upd)) (fa : List Str → Attrs → Attrs),
    (∀ pu ∈ us, (∃ k x y, pu.2 = .pair k x y) ∧ pu.1 ∈ keys T ∧ ∀ n ∈ pu.1, n ≠ [] ∧ c ∉ n) →
    applyUpdates [c] (us.map fun pu => (pathName [c] pu.1, pu.2)) (mapN (fun _ n => n) fa [] T) =
      .ok (mapN (fun _ n => n) (us.foldl (fun fa pu => updFa pu.2 pu.1 fa) fa) [] T) := by
  intro us
  induction us with
  | nil => intro fa _; rfl
  | cons pu us ih =>
    intro fa h
    obtain ⟨⟨k, x, y, hu⟩, hk, hg⟩ := h pu (List.mem_cons_self ..)
    rw [applyUpdates, List.map_cons, List.foldlM_cons,
      addPath_mapN c pu.2 _ fa T pu.1 hs hk hg (fun _ _ _ _ e => e) (fun _ _ _ => rfl),
      show updFn pu.2 pu.1 (fun _ n => n) = fun _ n => n by rw [hu]; rfl]
    exact ih _ fun pu' hpu' => h pu' (List.mem_cons_of_mem _ hpu')

/-! ## the renames -/

/-- the name function of `mapN` after the ` (~)` renames of the paths in `S` (the changed paths
    handled so far) have landed -/
def fnS (S : List (List Str)) : List Str → Str → Str :=
  fun q n => if q ∈ S then q.getLastD [] ++ sufChanged else n

theorem fnS_nil : fnS [] = fun _ n => n :=
  funext fun _ => funext fun _ => if_neg List.not_mem_nil

theorem eq_of_fnS_eq_unmarked (S : List (List Str)) (q : List Str) (n x : Str) (hx : ¬ sufChanged <:+ x)
    (e : fnS S q n = x) : n = x := by
  by_cases h : q ∈ S
  · rw [fnS, if_pos h] at e
    exact absurd (e ▸ List.suffix_append _ _) hx
  · exact (if_neg h).symm.trans e

theorem updFn_fnS (S : List (List Str)) (p : List Str) :
    updFn (.name (p.getLastD [] ++ sufChanged)) p (fnS S) = fnS (p :: S) := by
  funext q n
  by_cases h : q = p
  · simp only [updFn, fnS, h, if_true, List.mem_cons_self]
  · simp only [updFn, fnS, List.mem_cons, h, if_false, false_or]

theorem fold_renames (c : Char) (T : Tree) (hs : SibU T) (fa : List Str → Attrs → Attrs) :
    ∀ (L S : List (List Str)),
    L.Pairwise (fun a b => ¬ a <+: b) →
    (∀ p ∈ L, p ∈ keys T ∧ ∀ n ∈ p, n ≠ [] ∧ c ∉ n ∧ ¬ sufChanged <:+ n) →
    (∀ p ∈ L, ∀ s ∈ S, ¬ s <+: p) →
    applyUpdates [c] (L.map fun p => (pathName [c] p, Upd.name (p.getLastD [] ++ sufChanged)))
        (mapN (fnS S) fa [] T) = .ok (mapN (fnS (L.reverse ++ S)) fa [] T) := by
  intro L
  induction L with
  | nil => intro S _ _ _; rfl
  | cons p L ih =>
    intro S hpw hL hS
    rw [List.pairwise_cons] at hpw
    obtain ⟨hk, hg⟩ := hL p (List.mem_cons_self ..)
    have hc : ∀ q n, q <+: p → fnS S q n = n := fun q n hq =>
      if_neg fun hqs => hS p (List.mem_cons_self ..) q hqs hq
    rw [applyUpdates, List.map_cons, List.foldlM_cons,
      addPath_mapN c _ (fnS S) fa T p hs hk (fun n hn => ⟨(hg n hn).1, (hg n hn).2.1⟩)
        (fun q n x hx => eq_of_fnS_eq_unmarked S q n x (hg x hx).2.2) hc, updFn_fnS,
      show updFa (Upd.name (p.getLastD [] ++ sufChanged)) p fa = fa from rfl,
      List.reverse_cons, List.append_assoc, List.singleton_append]
    refine ih (p :: S) hpw.2 (fun p' hp' => hL p' (List.mem_cons_of_mem _ hp')) fun p' hp' s hs' => ?_
    rcases List.mem_cons.mp hs' with rfl | hs'
    · exact hpw.1 p' hp'
    · exact hS p' (List.mem_cons_of_mem _ hp') s hs'

/-! ## preimages of the sorted deque -/

theorem exists_preimage_list {α β} (f : α → β) (S : List α) : ∀ (L : List β), (∀ x ∈ L, ∃ a ∈ S, f a = x) →
    ∃ Lc : List α, L = Lc.map f ∧ ∀ a ∈ Lc, a ∈ S := by
  intro L
  induction L with
  | nil => exact fun _ => ⟨[], rfl, nofun⟩
  | cons x L ih =>
    intro h
    obtain ⟨a, ha, rfl⟩ := h x (List.mem_cons_self ..)
    obtain ⟨Lc, rfl, hS⟩ := ih fun y hy => h y (List.mem_cons_of_mem _ hy)
    exact ⟨a :: Lc, rfl, List.forall_mem_cons.mpr ⟨ha, hS⟩⟩

/-- the renames as a list of component paths in an order where no path comes before one of its
    extensions -/
theorem renames_eq (c : Char) (attrList : List Str) (t1 t2 : Tree) (h : DiffOK c t1 t2) :
    ∃ Lc : List (List Str),
      renames [c] ((dequeC attrList t1 t2).map (pathName [c])) =
        Lc.map (fun p => (pathName [c] p, Upd.name (p.getLastD [] ++ sufChanged))) ∧
      (∀ q, q ∈ Lc ↔ q ∈ dequeC attrList t1 t2) ∧
      Lc.Pairwise (fun a b => ¬ a <+: b) := by
  have hgood : ∀ q ∈ dequeC attrList t1 t2, q ≠ [] ∧ ∀ n ∈ q, c ∉ n := fun q hq =>
    have := allPaths_good c t1 t2 h q (dequeC_both attrList t1 t2 q hq).1
    ⟨this.1, fun n hn => (this.2 n hn).2.1⟩
  obtain ⟨Lc, hLc, hsub⟩ := exists_preimage_list (pathName [c]) (dequeC attrList t1 t2)
    (sortedDesc ((dequeC attrList t1 t2).map (pathName [c])))
    fun x hx => List.mem_map.mp ((mem_sortedDesc _ x).mp hx)
  refine ⟨Lc, ?_, fun q => ⟨hsub q, fun hq => ?_⟩, ?_⟩
  · rw [renames, hLc, List.map_map]
    refine List.map_congr_left fun p hp => ?_
    have gp := hgood p (hsub p hp)
    obtain ⟨a, p', rfl⟩ := List.exists_cons_of_ne_nil gp.1
    rw [Function.comp_apply, split_pathName c _ gp.1 gp.2]
    rfl
  · have : pathName [c] q ∈ Lc.map (pathName [c]) :=
      hLc ▸ (mem_sortedDesc _ _).mpr (List.mem_map_of_mem hq)
    obtain ⟨q', hq', he⟩ := List.mem_map.mp this
    have gq := hgood q hq
    have gq' := hgood q' (hsub q' hq')
    exact pathName_inj c q' q gq'.1 gq.1 gq'.2 gq.2 he ▸ hq'
  · have h1 := sortedDesc_no_prefix ((dequeC attrList t1 t2).map (pathName [c]))
    rw [hLc, List.pairwise_map] at h1
    refine h1.imp_of_mem fun {a b} ha _ hab hpre => hab ?_
    obtain ⟨t, rfl⟩ := hpre
    exact pathName_prefix [c] a t (hgood a (hsub a ha)).1

/-! ## what the value pairs leave at a node -/

/-- what `applyUpd u` does to the attributes of a node -/
def applyUpdAttrs : Upd → Attrs → Attrs
  | .pair k x y, a => setPair a k x y
  | _, a => a

theorem foldl_updFa (m : List Str) : ∀ (us : List (List Str × Upd)) (fa : List Str → Attrs → Attrs) (a : Attrs),
    (us.foldl (fun fa pu => updFa pu.2 pu.1 fa) fa) m a =
      (us.filter fun pu => pu.1 == m).foldl (fun a pu => applyUpdAttrs pu.2 a) (fa m a) := by
  intro us
  induction us with
  | nil => intro _ _; rfl
  | cons pu us ih =>
    intro fa a
    obtain ⟨q, u⟩ := pu
    rw [List.foldl_cons, List.filter_cons, ih]
    by_cases hm : q = m
    · subst hm
      rw [if_pos (beq_self_eq_true q), List.foldl_cons]
      cases u with
      | pair k x y =>
        exact congrArg (List.foldl _ · _) (if_pos rfl : (if q = q then setPair (fa q a) k x y else fa q a) = _)
      | _ => rfl
    · rw [if_neg (mt beq_iff_eq.mp hm), updFa_ne u q m fa fun e => hm e.symm]

theorem filter_fst_beq {β} (g : List Str → β) (m : List Str) : ∀ (l : List (List Str)), l.Nodup →
    (l.map fun p => (p, g p)).filter (fun pu => pu.1 == m) = if m ∈ l then [(m, g m)] else [] := by
  intro l
  induction l with
  | nil => intro _; rfl
  | cons a l ih =>
    intro hn
    have ⟨ha, hl⟩ := List.nodup_cons.mp hn
    rw [List.map_cons, List.filter_cons, ih hl]
    by_cases e : a = m
    · subst e
      rw [if_pos (beq_self_eq_true a), if_neg ha, if_pos (List.mem_cons_self ..)]
    · rw [if_neg (mt beq_iff_eq.mp e)]
      simp only [List.mem_cons, Ne.symm e, false_or]

theorem flatMap_ite_singleton {α β} (p : α → Bool) (f : α → β) (l : List α) :
    (l.flatMap fun k => if p k then [f k] else []) = (l.filter p).map f := by
  induction l with
  | nil => rfl
  | cons k l ih =>
    rw [List.flatMap_cons, ih, List.filter_cons]
    cases p k <;> rfl

theorem pairUpdsC_filter (c : Char) (attrList : List Str) (t1 t2 : Tree) (h : DiffOK c t1 t2) (m : List Str)
    (hm : m ∈ allPaths t1 t2) :
    (pairUpdsC attrList t1 t2).filter (fun pu => pu.1 == m) =
      (attrList.filter fun k => diffAt t1 t2 k m).map fun k => (m, pairOf t1 t2 k m) := by
  rw [pairUpdsC, List.filter_flatMap, ← flatMap_ite_singleton]
  refine congrArg List.flatten (List.map_congr_left fun k _ => ?_)
  rw [filter_fst_beq _ m _ ((allPaths_nodup c t1 t2 h).filter _)]
  simp only [List.mem_filter, hm, true_and]

theorem setPair_fresh (a : Attrs) (k : Str) (x y : Val) (h : ∀ kv ∈ a, kv.1 ≠ k) :
    setPair a k x y = a ++ [(k, x), (k, y)] := by
  rw [setPair, List.filter_eq_self.mpr fun kv hkv => bne_iff_ne.mpr (h kv hkv)]

theorem foldl_setPair (m : List Str) (f g : Str → Val) : ∀ (ks : List Str) (a : Attrs), ks.Nodup →
    (∀ kv ∈ a, kv.1 ∉ ks) →
    (ks.map fun k => (m, Upd.pair k (f k) (g k))).foldl (fun a pu => applyUpdAttrs pu.2 a) a =
      a ++ ks.flatMap fun k => [(k, f k), (k, g k)] := by
  intro ks
  induction ks with
  | nil => intro a _ _; exact (List.append_nil a).symm
  | cons k ks ih =>
    intro a hn ha
    rw [List.nodup_cons] at hn
    rw [List.map_cons, List.foldl_cons, List.flatMap_cons, ← List.append_assoc]
    rw [show applyUpdAttrs (Upd.pair k (f k) (g k)) a = setPair a k (f k) (g k) from rfl,
      setPair_fresh a k _ _ fun kv hkv e => ha kv hkv (e ▸ List.mem_cons_self ..)]
    refine ih _ hn.2 fun kv hkv hk => ?_
    rcases List.mem_append.mp hkv with hkv | hkv
    · exact ha kv hkv (List.mem_cons_of_mem _ hk)
    · have : kv.1 = k := by
        rcases List.mem_cons.mp hkv with rfl | hkv
        · rfl
        · exact List.mem_singleton.mp hkv ▸ rfl
      exact hn.1 (this ▸ hk)

theorem pairs_at (c : Char) (attrList : List Str) (hA : attrList.Nodup) (t1 t2 : Tree) (h : DiffOK c t1 t2)
    (p : List Str) (hp : p ∈ allPaths t1 t2) :
    ((pairUpdsC attrList t1 t2).foldl (fun fa pu => updFa pu.2 pu.1 fa) (fun _ a => a))
      (markPM t1 t2 p) [] = carried attrList t1 t2 p := by
  rw [foldl_updFa]
  by_cases hd : p ∈ dequeC attrList t1 t2
  · obtain ⟨a1, a2, h1, h2, _⟩ := (mem_dequeC_iff_changedAttrs attrList t1 t2 p).mp hd
    rw [markPM_both t1 t2 p hp (dequeC_both attrList t1 t2 p hd).2, pairUpdsC_filter c attrList t1 t2 h p hp,
      carried_of_some attrList t1 t2 p a1 a2 h1 h2]
    exact foldl_setPair p _ _ _ [] (hA.filter _) nofun
  · have h1 : (pairUpdsC attrList t1 t2).filter (fun pu => pu.1 == markPM t1 t2 p) = [] :=
      List.filter_eq_nil_iff.mpr fun pu hpu e => hd <|
        (markPM_mem_dequeC c attrList t1 t2 h p hp).mp (eq_of_beq e ▸ List.mem_map_of_mem hpu)
    rw [h1, carried_of_not_mem attrList t1 t2 p hd]
    rfl

/-! ## what the renames leave as the name of a kept path -/

theorem names_at (c : Char) (attrList : List Str) (t1 t2 : Tree) (h : DiffOK c t1 t2) (S : List (List Str))
    (hS : ∀ q, q ∈ S ↔ q ∈ dequeC attrList t1 t2)
    (p : List Str) (hp : p ∈ allPaths t1 t2) :
    relabel (fnS S) [] (markPM t1 t2 p) = markFull (status attrList t1 t2) p := by
  rw [markPM, markFull_eq_relabel, markFull_eq_relabel]
  refine (relabel_relabel (fnS S) (fun q n => n ++ (stPM t1 t2 q).suffix) [] p).trans ?_
  refine relabel_congr_prefix _ _ [] p fun r n hr => ?_
  have hq : r ++ [n] ∈ allPaths t1 t2 :=
    allPaths_prefix_closed t1 t2 p _ hp hr (List.append_ne_nil_of_right_ne_nil _ (List.cons_ne_nil _ _))
  rw [List.nil_append, ← markFull_eq_relabel, ← markPM, fnS, status_eq]
  by_cases hch : r ++ [n] ∈ dequeC attrList t1 t2
  · rw [if_pos ((hS _).mpr ((markPM_mem_dequeC c attrList t1 t2 h _ hq).mpr hch)), if_pos hch,
      markPM_both t1 t2 _ hq (dequeC_both attrList t1 t2 _ hch).2, List.getLastD_concat]
    rfl
  · rw [if_neg fun hin => hch ((markPM_mem_dequeC c attrList t1 t2 h _ hq).mp ((hS _).mp hin)), if_neg hch]

end Helper
