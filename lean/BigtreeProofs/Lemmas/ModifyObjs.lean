import BigtreeProofs.Lemmas.ModifyTree
/-!
# C08 helper lemmas: the objects of a tree

The *objects* of a tree are the pairs (identity, attributes) of its nodes, paths forgotten.  An edit at an
address yields objects of the old tree or objects of the edited node; removals only lose objects.
No hypothesis on the tree (sibling names may repeat).
-/
namespace Modify

theorem mem_objs {t : Tree} {x : Nat × Attrs} :
    x ∈ objs t ↔ x = (t.id, t.attrs) ∨ ∃ c ∈ t.children, x ∈ objs c := by
  simp only [objs, flat_eq t, List.map_cons, List.mem_cons, List.mem_map, mem_flatL]
  refine or_congr Iff.rfl ⟨?_, ?_⟩
  · rintro ⟨_, ⟨c, hc, e, he, rfl⟩, rfl⟩; exact ⟨c, hc, e, he, rfl⟩
  · rintro ⟨c, hc, e, he, rfl⟩; exact ⟨_, ⟨c, hc, e, he, rfl⟩, rfl⟩

theorem objs_child {t c : Tree} (hc : c ∈ t.children) {x} (hx : x ∈ objs c) : x ∈ objs t :=
  mem_objs.2 (.inr ⟨c, hc, hx⟩)

theorem objs_getRel (p : List Str) (t X : Tree) (h : getRel p t = some X) : ∀ x ∈ objs X, x ∈ objs t := by
  obtain ⟨A, B, h1, -, -⟩ := flat_zip h
  intro x hx
  simp only [objs, h1, List.map_append, List.map_map, List.mem_append]
  exact .inl (.inr hx)

theorem objs_nodesRel : ∀ (t : Tree) (pr : List Str × Tree), pr ∈ nodesRel t → ∀ x ∈ objs pr.2, x ∈ objs t := by
  intro t
  induction t using Tree.ind with
  | h i n a cs ih =>
    intro pr hpr x hx
    rw [nodesRel_node, List.mem_cons] at hpr
    rcases hpr with rfl | hpr
    · exact hx
    · obtain ⟨c, hc, pr', hpr', rfl⟩ := mem_nodesRelL.1 hpr
      exact objs_child (t := .node i n a cs) hc (ih c hc pr' hpr' x hx)

theorem objs_modifyAt {g : Tree → Tree} (hname : ∀ X, (g X).name = X.name) (p : List Str) (t : Tree)
    {x : Nat × Attrs} (hx : x ∈ objs (modifyAt p g t)) :
    x ∈ objs t ∨ ∃ X, getRel p t = some X ∧ x ∈ objs (g X) := by
  cases hX : getRel p t with
  | none => rw [modifyAt_none hX] at hx; exact .inl hx
  | some X =>
    obtain ⟨A, B, h1, h2, -⟩ := flat_zip hX
    simp only [objs, h1, h2 g (hname X), List.map_append, List.map_map, List.mem_append] at hx ⊢
    rcases hx with (h | h) | h
    · exact .inl (.inl (.inl h))
    · exact .inr ⟨X, rfl, h⟩
    · exact .inl (.inr h)

theorem objs_setKids_nil (c : Tree) : ∀ x ∈ objs (setKids [] c), x ∈ objs c := by
  cases c
  intro x hx
  rcases mem_objs.1 hx with h | ⟨_, h, _⟩
  · exact mem_objs.2 (.inl h)
  · cases h

theorem objs_eraseKid (n : Str) (X : Tree) : ∀ x ∈ objs (eraseKid n X), x ∈ objs X := by
  cases X
  intro x hx
  rcases mem_objs.1 hx with h | ⟨c, hc, h⟩
  · exact mem_objs.2 (.inl h)
  · exact objs_child ((eraseChild_sublist n _).subset hc) h

theorem objs_appendKid (c t : Tree) : ∀ x ∈ objs (appendKid c t), x ∈ objs t ∨ x ∈ objs c := by
  intro x hx
  rw [objs, flat_appendKid, List.map_append, List.map_map, List.mem_append] at hx
  exact hx

theorem objs_removeAt_sub (p : List Str) (t : Tree) : ∀ x ∈ objs (removeAt p t), x ∈ objs t := by
  rcases removeAt_eq p t with h | ⟨q, n, X, -, -, h⟩ <;> rw [h]
  · exact fun x hx => hx
  · exact fun x hx => (objs_modifyAt (eraseKid_name n) q t hx).elim id fun ⟨X, hX, h⟩ =>
      objs_getRel q t X hX x (objs_eraseKid n X x h)

theorem objs_removeAll_sub : ∀ (ps : List (List Str)) (t : Tree), ∀ x ∈ objs (removeAll ps t), x ∈ objs t
  | [], _ => fun _ hx => hx
  | p :: ps, t => fun x hx => objs_removeAt_sub p t x (objs_removeAll_sub ps _ x hx)

/-- the objects a result may contain: those of `O`, or fresh ones from `[lo, hi)` -/
def Known (O : List (Nat × Attrs)) (lo hi : Nat) (x : Nat × Attrs) : Prop :=
  x ∈ O ∨ (lo ≤ x.1 ∧ x.1 < hi)

end Modify
