import BigtreeProofs.Lemmas.DiffWalk
/-!
# C15: path insertion (`ins`) — creation of missing nodes, and updates of existing nodes of a
relabelled tree (`mapN`)
-/
namespace Helper

theorem ins_nil (u : Upd) (t : Tree) : ins u [] t = .ok (applyUpd u t) := by
  cases t; rfl

theorem applyUpd_nothing (t : Tree) : applyUpd .nothing t = t := by
  cases t; rfl

theorem ins_leaf (u : Upd) (c : Str) (rest : List Str) :
    ins u rest (.node 0 c [] []) = .ok (chain u c rest) := by
  cases rest <;> rfl

/-! ## the child named `c` -/

/-- the children named `c` replaced by `t'` -/
def setChild (c : Str) (t' : Tree) (cs : List Tree) : List Tree :=
  cs.map fun x => if x.name == c then t' else x

theorem filter_name_of_mem (cs : List Tree) (hn : (cs.map Tree.name).Nodup) (t : Tree) (ht : t ∈ cs) :
    cs.filter (fun x => x.name == t.name) = [t] := by
  induction cs with
  | nil => nomatch ht
  | cons x xs ih =>
    rw [List.map_cons, List.nodup_cons] at hn
    rw [List.filter_cons]
    rcases List.mem_cons.mp ht with rfl | ht
    · rw [if_pos (beq_self_eq_true _), List.filter_eq_nil_iff.mpr]
      intro y hy e
      exact hn.1 (eq_of_beq e ▸ List.mem_map_of_mem hy)
    · rw [if_neg, ih hn.2 ht]
      intro e
      exact hn.1 (eq_of_beq e ▸ List.mem_map_of_mem ht)

section
variable {c : Str} {t : Tree} {cs : List Tree}

theorem exists_mem_of_filter (hf : cs.filter (fun x => x.name == c) = [t]) (P : Tree → Prop) :
    (∃ y ∈ cs, P y) ↔ P t ∨ ∃ y ∈ cs, y.name ≠ c ∧ P y := by
  have ht : t ∈ cs ∧ (t.name == c) = true := List.mem_filter.mp (hf ▸ List.mem_singleton_self t)
  constructor
  · rintro ⟨y, hy, hp⟩
    by_cases e : y.name = c
    · have hyt : y ∈ cs.filter (fun x => x.name == c) := List.mem_filter.mpr ⟨hy, beq_iff_eq.mpr e⟩
      rw [hf] at hyt
      exact .inl (List.mem_singleton.mp hyt ▸ hp)
    · exact .inr ⟨y, hy, e, hp⟩
  · rintro (hp | ⟨y, hy, -, hp⟩)
    · exact ⟨t, ht.1, hp⟩
    · exact ⟨y, hy, hp⟩

theorem mem_setChild (hf : cs.filter (fun x => x.name == c) = [t]) (t' y : Tree) :
    y ∈ setChild c t' cs ↔ y = t' ∨ (y ∈ cs ∧ y.name ≠ c) := by
  have ht : t ∈ cs ∧ (t.name == c) = true := List.mem_filter.mp (hf ▸ List.mem_singleton_self t)
  simp only [setChild, List.mem_map]
  constructor
  · rintro ⟨x, hx, rfl⟩
    by_cases e : x.name = c
    · exact .inl (if_pos (beq_iff_eq.mpr e))
    · rw [if_neg (mt beq_iff_eq.mp e)]; exact .inr ⟨hx, e⟩
  · rintro (rfl | h)
    · exact ⟨t, ht.1, if_pos ht.2⟩
    · exact ⟨y, h.1, if_neg (mt beq_iff_eq.mp h.2)⟩

theorem map_name_setChild (t' : Tree) (h : t'.name = c) (cs : List Tree) :
    (setChild c t' cs).map Tree.name = cs.map Tree.name := by
  rw [setChild, List.map_map]
  apply List.map_congr_left
  intro x _
  by_cases e : x.name = c
  · simp only [Function.comp_apply, e, beq_self_eq_true, if_true, h]
  · simp only [Function.comp_apply, beq_eq_false_iff_ne.mpr e, Bool.false_eq_true, if_false]

theorem setChild_eq_self (h : cs.filter (fun x => x.name == c) = []) (t' : Tree) :
    setChild c t' cs = cs := by
  rw [setChild]
  conv => rhs; rw [← List.map_id cs]
  apply List.map_congr_left
  intro x hx
  rw [if_neg (List.filter_eq_nil_iff.mp h x hx)]; rfl

theorem insL_found (u : Upd) (rest : List Str) :
    cs.filter (fun x => x.name == c) = [t] →
    insL u c rest cs = (ins u rest t).map fun t' => setChild c t' cs := by
  induction cs with
  | nil => intro h; nomatch h
  | cons x xs ih =>
    intro h
    rw [List.filter_cons] at h
    rw [insL]
    by_cases hx : (x.name == c) = true
    · rw [if_pos hx, List.cons.injEq] at h
      rw [if_pos hx, h.1]
      congr 1
      funext t'
      rw [setChild, List.map_cons, h.1.symm, if_pos hx, ← setChild, setChild_eq_self h.2]
    · rw [if_neg hx] at h
      rw [if_neg hx, ih h]
      cases ins u rest t <;> simp only [Except.map, setChild, List.map_cons, if_neg hx]

theorem ins_cons_found (u : Upd) (rest : List Str) (i : Nat) (n : Str) (av : Attrs)
    (hf : cs.filter (fun x => x.name == c) = [t]) :
    ins u (c :: rest) (.node i n av cs) =
      (ins u rest t).map fun t' => .node i n av (setChild c t' cs) := by
  have hany : (cs.any fun x => x.name == c) = true :=
    List.any_eq_true.mpr ⟨t, List.mem_filter.mp (hf ▸ List.mem_singleton_self t)⟩
  simp only [ins, hf, List.length_singleton, Nat.lt_irrefl, if_false, hany, if_true, insL_found u rest hf]
  cases ins u rest t <;> rfl

theorem ins_cons_missing (u : Upd) (rest : List Str) (i : Nat) (n : Str) (av : Attrs)
    (h : cs.filter (fun x => x.name == c) = []) :
    ins u (c :: rest) (.node i n av cs) = .ok (.node i n av (cs ++ [chain u c rest])) := by
  have hany : (cs.any fun x => x.name == c) = false :=
    List.any_eq_false.mpr (List.filter_eq_nil_iff.mp h)
  simp only [ins, h, hany, List.length_nil, Nat.not_lt_zero, if_false, Bool.false_eq_true]

end

/-! ## `ins .nothing`: the missing prefixes are created, nothing else changes -/

/-- what `dataframe_to_tree` builds: distinct sibling names, no attributes -/
def Bare (t : Tree) : Prop := AllSub (fun s => (s.children.map Tree.name).Nodup ∧ s.attrs = []) t

theorem Bare.sibU {t : Tree} (h : Bare t) : SibU t := AllSub.imp (fun _ hs => hs.1) t h

theorem Bare.rows {t : Tree} (h : Bare t) : rows t = (keys t).map fun q => (q, []) := by
  rw [keys, List.map_map]
  conv => lhs; rw [← List.map_id (Helper.rows t)]
  apply List.map_congr_left
  intro r hr
  exact Prod.ext rfl (rows_attrs (· = []) t (AllSub.imp (fun _ hs => hs.2) t h) r hr)

theorem keys_node_grow (i : Nat) (n : Str) (av : Attrs) (cs cs' : List Tree) (path : List Str)
    (h : ∀ r, (∃ y ∈ cs', r ∈ keys y) ↔ (∃ y ∈ cs, r ∈ keys y) ∨ (r ≠ [] ∧ r <+: path)) (q : List Str) :
    q ∈ keys (.node i n av cs') ↔ q ∈ keys (.node i n av cs) ∨ (q ≠ [] ∧ q <+: n :: path) := by
  cases q with
  | nil => simp only [nil_not_mem_keys, ne_eq, not_true_eq_false, false_and, or_self]
  | cons x r =>
    rw [cons_mem_keys, cons_mem_keys, h, List.cons_prefix_cons]
    by_cases hr : r = []
    · subst hr; simp only [true_or, and_true, List.nil_prefix, ne_eq, reduceCtorEq, not_false_eq_true, true_and, or_self]
    · simp only [hr, false_or, ne_eq, not_false_eq_true, true_and, reduceCtorEq, and_or_left]

theorem ins_nothing_spec : ∀ (rest : List Str) (T : Tree), Bare T →
    ∃ T', ins .nothing rest T = .ok T' ∧ Bare T' ∧ T'.name = T.name ∧
      ∀ q, q ∈ keys T' ↔ q ∈ keys T ∨ (q ≠ [] ∧ q <+: T.name :: rest) := by
  intro rest
  induction rest with
  | nil =>
    intro T hb
    refine ⟨T, by rw [ins_nil, applyUpd_nothing], hb, rfl, fun q => ⟨.inl, ?_⟩⟩
    rintro (h | ⟨hne, hp⟩)
    · exact h
    · obtain ⟨x, r, rfl⟩ := List.exists_cons_of_ne_nil hne
      obtain ⟨rfl, hr⟩ := List.cons_prefix_cons.mp hp
      rw [List.prefix_nil.mp hr]; exact root_mem_keys T
  | cons c rest ih =>
    intro T hb
    cases T with | node i n av cs =>
    have hb' := (AllSub.node_iff _ i n av cs).mp hb
    by_cases hex : ∃ t ∈ cs, t.name = c
    · obtain ⟨t, htm, rfl⟩ := hex
      have hf := filter_name_of_mem cs hb'.1.1 t htm
      obtain ⟨t', ht', hbt', hnt', hkt'⟩ := ih t (hb'.2 t htm)
      refine ⟨.node i n av (setChild t.name t' cs), by rw [ins_cons_found _ _ _ _ _ hf, ht']; rfl,
        (AllSub.node_iff ..).mpr ⟨⟨?_, hb'.1.2⟩, ?_⟩, rfl, keys_node_grow i n av cs _ _ ?_⟩
      · rw [Tree.children_node, map_name_setChild t' hnt']; exact hb'.1.1
      · intro y hy
        rcases (mem_setChild hf t' y).mp hy with rfl | hy
        · exact hbt'
        · exact hb'.2 y hy.1
      · intro r
        simp only [mem_setChild hf, or_and_right, exists_or, exists_eq_left, and_assoc, hkt',
          exists_mem_of_filter hf fun y => r ∈ keys y]
        exact or_right_comm
    · have hf : cs.filter (fun x => x.name == c) = [] :=
        List.filter_eq_nil_iff.mpr fun x hx e => hex ⟨x, hx, eq_of_beq e⟩
      obtain ⟨t', ht', hbt', hnt', hkt'⟩ := ih (.node 0 c [] []) (.mk _ _ _ _ ⟨.nil, rfl⟩ nofun)
      rw [ins_leaf] at ht'
      cases ht'
      refine ⟨_, ins_cons_missing _ _ _ _ _ hf, (AllSub.node_iff ..).mpr ⟨⟨?_, hb'.1.2⟩, ?_⟩, rfl,
        keys_node_grow i n av cs _ _ ?_⟩
      · rw [Tree.children_node, List.map_append, List.nodup_append]
        refine ⟨hb'.1.1, List.pairwise_singleton _ _, ?_⟩
        rintro a ha b hb rfl
        obtain ⟨x, hx, rfl⟩ := List.mem_map.mp ha
        exact hex ⟨x, hx, (List.mem_singleton.mp hb).trans hnt'⟩
      · intro y hy
        rcases List.mem_append.mp hy with hy | hy
        · exact hb'.2 y hy
        · exact List.mem_singleton.mp hy ▸ hbt'
      · intro r
        simp only [List.mem_append, List.mem_singleton, or_and_right, exists_or, exists_eq_left, hkt',
          keys_node, List.flatMap_nil, List.map_nil, Tree.name_node]
        refine or_congr_right (or_iff_right_of_imp ?_)
        rintro rfl
        exact ⟨List.cons_ne_nil _ _, List.cons_prefix_cons.mpr ⟨rfl, List.nil_prefix⟩⟩

/-! ## relabelled trees (`mapN`) -/

theorem mapN_node (fn : List Str → Str → Str) (fa : List Str → Attrs → Attrs) (anc : List Str)
    (i : Nat) (n : Str) (av : Attrs) (cs : List Tree) :
    mapN fn fa anc (.node i n av cs) =
      .node i (fn (anc ++ [n]) n) (fa (anc ++ [n]) av) (cs.map (mapN fn fa (anc ++ [n]))) := by
  rw [mapN]
  congr 1
  induction cs with
  | nil => rfl
  | cons c cs ih => rw [mapNL, ih]; rfl

theorem mapN_name (fn : List Str → Str → Str) (fa : List Str → Attrs → Attrs) (anc : List Str) (t : Tree) :
    (mapN fn fa anc t).name = fn (anc ++ [t.name]) t.name := by
  cases t; rfl

theorem mapN_congr (fn fn' : List Str → Str → Str) (fa fa' : List Str → Attrs → Attrs) :
    ∀ (T : Tree) (anc : List Str),
      (∀ q, (anc ++ [T.name]) <+: q → fn q = fn' q ∧ fa q = fa' q) →
      mapN fn fa anc T = mapN fn' fa' anc T := by
  intro T
  induction T using Tree.ind with
  | h i n av cs ih =>
    intro anc h
    have h0 := h (anc ++ [n]) (List.prefix_refl _)
    rw [mapN_node, mapN_node, h0.1, h0.2]
    congr 1
    exact List.map_congr_left fun c hc =>
      ih c hc _ fun q hq => h q ((List.prefix_append _ _).trans hq)

theorem mapN_id (T : Tree) (anc : List Str) : mapN (fun _ n => n) (fun _ a => a) anc T = T := by
  induction T using Tree.ind generalizing anc with
  | h i n av cs ih =>
    rw [mapN_node]
    congr 1
    conv => rhs; rw [← List.map_id cs]
    exact List.map_congr_left fun c hc => ih c hc _

theorem rows_mapN (fn : List Str → Str → Str) (fa : List Str → Attrs → Attrs) :
    ∀ (T : Tree) (anc : List Str),
      rows (mapN fn fa anc T) = (rows T).map fun r => (relabel fn anc r.1, fa (anc ++ r.1) r.2) := by
  intro T
  induction T using Tree.ind with
  | h i n av cs ih =>
    intro anc
    have hcs : (cs.map (mapN fn fa (anc ++ [n]))).map rows = cs.map fun c =>
        (rows c).map fun r => (relabel fn (anc ++ [n]) r.1, fa (anc ++ [n] ++ r.1) r.2) := by
      rw [List.map_map]
      exact List.map_congr_left fun c hc => ih c hc _
    simp only [mapN_node, rows, rowsL_eq_flatMap, List.flatMap_def, hcs, List.map_cons, List.map_map,
      List.map_flatten, relabel, List.append_assoc, List.singleton_append, Function.comp_def]

/-! ## updates of existing nodes through `ins` on a relabelled tree -/

/-- the name function of `mapN` after update `u` has landed on the node whose original path is `p` -/
def updFn (u : Upd) (p : List Str) (fn : List Str → Str → Str) : List Str → Str → Str :=
  match u with
  | .name s => fun q n => if q = p then s else fn q n
  | _ => fn

/-- the attribute function of `mapN` after update `u` has landed on the node whose original path is `p` -/
def updFa (u : Upd) (p : List Str) (fa : List Str → Attrs → Attrs) : List Str → Attrs → Attrs :=
  match u with
  | .pair k x y => fun q a => if q = p then setPair (fa q a) k x y else fa q a
  | _ => fa

theorem updFn_ne (u : Upd) (p q : List Str) (fn : List Str → Str → Str) (h : q ≠ p) :
    updFn u p fn q = fn q := by
  cases u with
  | name s => exact funext fun _ => if_neg h
  | _ => rfl

theorem updFa_ne (u : Upd) (p q : List Str) (fa : List Str → Attrs → Attrs) (h : q ≠ p) :
    updFa u p fa q = fa q := by
  cases u with
  | pair k x y => exact funext fun _ => if_neg h
  | _ => rfl

theorem applyUpd_node (u : Upd) (fn : List Str → Str → Str) (fa : List Str → Attrs → Attrs)
    (p : List Str) (i : Nat) (n : Str) (av : Attrs) (cs : List Tree) :
    applyUpd u (.node i (fn p n) (fa p av) cs) = .node i (updFn u p fn p n) (updFa u p fa p av) cs := by
  cases u with
  | nothing => rfl
  | pair k x y => exact congrArg (Tree.node i _ · cs) (if_pos rfl).symm
  | name s => exact congrArg (Tree.node i · _ cs) (if_pos rfl).symm

/-- `ins` on a relabelled tree, when the path exists in the original tree, the route is not yet
    relabelled, and no relabelled name can be taken for a route name: the update lands on the node
    whose original path is `p` -/
theorem ins_mapN (u : Upd) (fn : List Str → Str → Str) (fa : List Str → Attrs → Attrs) (p : List Str)
    (hc : ∀ q n, q <+: p → fn q n = n) :
    ∀ (rest : List Str) (T : Tree) (anc : List Str), p = anc ++ T.name :: rest →
      SibU T → (T.name :: rest) ∈ keys T → (∀ q n, ∀ x ∈ rest, fn q n = x → n = x) →
      ins u rest (mapN fn fa anc T) = .ok (mapN (updFn u p fn) (updFa u p fa) anc T) := by
  have hfar : ∀ (y : Tree) (anc : List Str), ¬ (anc ++ [y.name]) <+: p →
      mapN fn fa anc y = mapN (updFn u p fn) (updFa u p fa) anc y := fun y anc hy =>
    mapN_congr _ _ _ _ y anc fun q hq =>
      have hne : q ≠ p := fun e => hy (e ▸ hq)
      ⟨(updFn_ne u p q fn hne).symm, (updFa_ne u p q fa hne).symm⟩
  intro rest
  induction rest with
  | nil =>
    intro T anc hp _ _ _
    cases T with | node i n av cs =>
    have hp' : anc ++ [n] = p := hp.symm
    rw [ins_nil, mapN_node, mapN_node, hp', applyUpd_node]
    refine congrArg (Except.ok ∘ Tree.node _ _ _) (List.map_congr_left fun y _ => hfar y p fun h => ?_)
    exact absurd h.length_le (by rw [List.length_append]; exact Nat.not_succ_le_self _)
  | cons x rest ih =>
    intro T anc hp hs hk hx
    cases T with | node i n av cs =>
    have hs' := (SibU.node_iff i n av cs).mp hs
    obtain ⟨t, htm, htk⟩ := ((cons_mem_keys ..).mp hk).2.resolve_left (List.cons_ne_nil _ _)
    obtain ⟨r, hr⟩ := keys_head t _ htk
    obtain rfl : x = t.name := (List.cons.inj hr).1
    have hf := filter_name_of_mem cs hs'.1 t htm
    have hp2 : p = (anc ++ [n]) ++ t.name :: rest := hp.trans (List.append_cons anc n _)
    have hne0 : anc ++ [n] ≠ p := fun e =>
      nomatch (List.cons.inj (List.append_cancel_left (e.trans hp))).2
    -- the relabelled child named `t.name` is still the route child
    have hname : ∀ y : Tree, ((mapN fn fa (anc ++ [n]) y).name == t.name) = (y.name == t.name) := by
      intro y
      rw [mapN_name, Bool.eq_iff_iff, beq_iff_eq, beq_iff_eq]
      refine ⟨hx _ _ _ (List.mem_cons_self ..), fun e => ?_⟩
      rw [e]
      exact hc _ _ (hp2 ▸ ⟨rest, List.append_assoc ..⟩)
    have hf' : (cs.map (mapN fn fa (anc ++ [n]))).filter (fun y => y.name == t.name) =
        [mapN fn fa (anc ++ [n]) t] := by
      rw [List.filter_map, show ((fun y : Tree => y.name == t.name) ∘ mapN fn fa (anc ++ [n])) =
        fun y => y.name == t.name from funext hname, hf, List.map_singleton]
    rw [mapN_node, ins_cons_found _ _ _ _ _ hf', mapN_node,
      ih t (anc ++ [n]) hp2 (hs'.2 t htm) htk fun q m y hy => hx q m y (List.mem_cons_of_mem _ hy),
      updFn_ne u p _ fn hne0, updFa_ne u p _ fa hne0]
    refine congrArg (Except.ok ∘ Tree.node _ _ _) ?_
    rw [setChild, List.map_map]
    refine List.map_congr_left fun y hy => ?_
    rw [Function.comp_apply, hname]
    by_cases e : y.name = t.name
    · rw [if_pos (beq_iff_eq.mpr e)]
      have : y ∈ cs.filter (fun z => z.name == t.name) := List.mem_filter.mpr ⟨hy, beq_iff_eq.mpr e⟩
      rw [hf] at this
      rw [List.mem_singleton.mp this]
    · rw [if_neg (mt beq_iff_eq.mp e)]
      refine hfar y _ fun h => e ?_
      rw [hp2, List.prefix_append_right_inj, List.cons_prefix_cons] at h
      exact h.1

end Helper
