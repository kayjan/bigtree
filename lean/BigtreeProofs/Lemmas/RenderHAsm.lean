import BigtreeModel.Render
/-!
# `assemble` (the part of `_hprint_branch` after the recursive calls)

Every case of `assemble` returns the children's rows (`joinGap`: one under the other, with the blank row of the
gap case) behind a prefix column `pre` of constant width, and `pre` is a column of glyph rows `padRow ns g` in
which the node's own row has been replaced by `ns ++ [connector]`. The facts about the glyph rows are proved for
the column before that replacement and carried over (`PreCol.of_set`, `ConnCol.of_set`).
-/

namespace Render

/-- shape invariant of a block: one row, or the node's row is strictly inside -/
def PInv (p : List Str × Nat) : Prop := (p.1.length = 1 ∧ p.2 = 0) ∨ (0 < p.2 ∧ p.2 + 1 < p.1.length)

theorem PInv.lt {p : List Str × Nat} (h : PInv p) : p.2 < p.1.length := by
  unfold PInv at h
  omega

/-! ### prefix columns -/

/-- a prefix row that carries only a glyph in the connector column -/
def padRow (ns : Str) (g : Char) : Str := List.replicate ns.length ' ' ++ [g]

/-- the prefix column of an inner node: `nodeStr` plus connector on the node's row, padding plus one glyph elsewhere -/
structure PreCol (ns : Str) (pre : List Str) (idx : Nat) (g : Char) : Prop where
  hidx : pre[idx]? = some (ns ++ [g])
  hpad : ∀ (r : Nat) (x : Str), pre[r]? = some x → r ≠ idx → ∃ g', x = padRow ns g'

theorem PreCol.length {ns : Str} {pre : List Str} {idx : Nat} {g : Char} (h : PreCol ns pre idx g) :
    ∀ (j : Nat) (x : Str), pre[j]? = some x → x.length = ns.length + 1 := by
  intro j x hx
  by_cases hj : j = idx
  · subst hj
    rw [h.hidx] at hx
    cases hx
    simp
  · obtain ⟨g', rfl⟩ := h.hpad j x hx hj
    simp [padRow]

theorem PreCol.of_set {ns : Str} {base : List Str} {mid : Nat} (g : Char)
    (hbase : ∀ x ∈ base, ∃ g', x = padRow ns g') (hmid : mid < base.length) :
    PreCol ns (base.set mid (ns ++ [g])) mid g where
  hidx := List.getElem?_set_self hmid
  hpad r x hx hr := by
    rw [List.getElem?_set_ne (Ne.symm hr)] at hx
    exact hbase x (List.mem_of_getElem? hx)

/-- `out` is `result` with a prefix column of constant width `nodeStr.length + 1` in front;
    the prefix of the returned row is `nodeStr` plus one glyph -/
def Framed (nodeStr : Str) (result : List Str) (out : List Str × Nat) : Prop :=
  ∃ pre : List Str, out.1 = List.zipWith (· ++ ·) pre result ∧ pre.length = result.length ∧
    (∀ x ∈ pre, x.length = nodeStr.length + 1) ∧ (∃ g, pre[out.2]? = some (nodeStr ++ [g]))

theorem PreCol.framed {ns : Str} {pre res : List Str} {out : List Str × Nat} {g : Char}
    (h : PreCol ns pre out.2 g) (hout : out.1 = List.zipWith (· ++ ·) pre res) (hlen : pre.length = res.length) :
    Framed ns res out :=
  ⟨pre, hout, hlen, fun x hx => by
    obtain ⟨j, hj⟩ := List.getElem?_of_mem hx
    exact h.length j x hj, g, h.hidx⟩

theorem Framed.length {ns : Str} {res : List Str} {out : List Str × Nat} (h : Framed ns res out) :
    out.1.length = res.length := by
  obtain ⟨pre, h1, h2, -, -⟩ := h
  simp [h1, h2]

theorem Framed.row {ns : Str} {res : List Str} {out : List Str × Nat} (h : Framed ns res out)
    {r : Nat} {row : Str} (hr : res[r]? = some row) :
    ∃ pre : Str, pre.length = ns.length + 1 ∧ out.1[r]? = some (pre ++ row) := by
  obtain ⟨pre, h1, h2, h3, -⟩ := h
  have hlt : r < pre.length := h2 ▸ (List.getElem?_eq_some_iff.mp hr).1
  refine ⟨pre[r], h3 _ (List.getElem_mem _), ?_⟩
  rw [h1, List.getElem?_zipWith, hr, List.getElem?_eq_getElem hlt]

theorem Framed.idxRow {ns : Str} {res : List Str} {out : List Str × Nat} (h : Framed ns res out) :
    ∃ row, out.1[out.2]? = some row ∧ ns <+: row := by
  obtain ⟨pre, h1, h2, h3, g, h4⟩ := h
  have hlt : out.2 < res.length := h2 ▸ (List.getElem?_eq_some_iff.mp h4).1
  refine ⟨(ns ++ [g]) ++ res[out.2], ?_, ?_⟩
  · rw [h1, List.getElem?_zipWith, h4, List.getElem?_eq_getElem hlt]
  · rw [List.append_assoc]
    exact List.prefix_append _ _

/-- the connector column of a node with at least two child slots: `firstChild` on row `first`, `lastChild` on
    row `last`, stems / subsequent-child glyphs strictly between, except on the node's own row `mid` -/
structure ConnCol (S : HStyle) (ns : Str) (pre : List Str) (first mid last : Nat) : Prop where
  lt1 : first < mid
  lt2 : mid < last
  lt3 : last < pre.length
  hfirst : pre[first]? = some (padRow ns S.firstChild)
  hlast : pre[last]? = some (padRow ns S.lastChild)
  hbetween : ∀ r, first < r → r < last → r ≠ mid →
    pre[r]? = some (padRow ns S.stem) ∨ pre[r]? = some (padRow ns S.subsequentChild)
  hmid : ∃ g, (g = S.splitBranch ∨ g = S.middleChild) ∧ PreCol ns pre mid g

theorem getElem?_at {α} (l1 : List α) (x : α) (l2 : List α) (n : Nat) (h : l1.length = n) :
    (l1 ++ x :: l2)[n]? = some x := by
  subst h
  simp

/-- blanks, `firstChild`, stems (`I`), `lastChild`, blanks — with the row `mid` among the stems replaced -/
theorem ConnCol.of_set (S : HStyle) (ns : Str) (A I E : List Str) (mid : Nat) (g : Char)
    (hg : g = S.splitBranch ∨ g = S.middleChild)
    (hA : ∀ y ∈ A, y = padRow ns ' ') (hE : ∀ y ∈ E, y = padRow ns ' ')
    (hI : ∀ y ∈ I, y = padRow ns S.stem ∨ y = padRow ns S.subsequentChild)
    (h1 : A.length < mid) (h2 : mid < A.length + (I.length + 1)) :
    ConnCol S ns ((A ++ padRow ns S.firstChild :: (I ++ padRow ns S.lastChild :: E)).set mid (ns ++ [g]))
      A.length mid (A.length + (I.length + 1)) := by
  have hall : ∀ y ∈ A ++ padRow ns S.firstChild :: (I ++ padRow ns S.lastChild :: E), ∃ g', y = padRow ns g' := by
    intro y hy
    simp only [List.mem_append, List.mem_cons] at hy
    rcases hy with hy | hy | hy | hy | hy
    · exact ⟨_, hA y hy⟩
    · exact ⟨_, hy⟩
    · rcases hI y hy with h | h
      · exact ⟨_, h⟩
      · exact ⟨_, h⟩
    · exact ⟨_, hy⟩
    · exact ⟨_, hE y hy⟩
  have hlast : (A ++ padRow ns S.firstChild :: (I ++ padRow ns S.lastChild :: E))[A.length + (I.length + 1)]?
      = some (padRow ns S.lastChild) := by
    rw [List.getElem?_append_right (Nat.le_add_right _ _), Nat.add_sub_cancel_left, List.getElem?_cons_succ]
    exact getElem?_at _ _ _ _ rfl
  have hlt := (List.getElem?_eq_some_iff.mp hlast).1
  refine ⟨h1, h2, by rwa [List.length_set], ?_, ?_, ?_, ⟨g, hg, .of_set g hall (Nat.lt_trans h2 hlt)⟩⟩
  · rw [List.getElem?_set_ne (Nat.ne_of_gt h1)]
    exact getElem?_at _ _ _ _ rfl
  · rw [List.getElem?_set_ne (Nat.ne_of_lt h2)]
    exact hlast
  · intro r hr1 hr2 hr3
    obtain ⟨i, rfl⟩ := Nat.exists_eq_add_of_lt hr1
    rw [Nat.add_assoc] at hr2 hr3 ⊢
    have hi : i < I.length := Nat.lt_of_succ_lt_succ (Nat.lt_of_add_lt_add_left hr2)
    rw [List.getElem?_set_ne (Ne.symm hr3), List.getElem?_append_right (Nat.le_add_right _ _),
      Nat.add_sub_cancel_left, List.getElem?_cons_succ, List.getElem?_append_left hi, List.getElem?_eq_getElem hi]
    exact (hI _ (List.getElem_mem hi)).imp (congrArg some) (congrArg some)

/-! ### the rows of the parts themselves; `first`, `total`, `last`, `mid` of `assemble` as functions of the parts -/

/-- rows of the children themselves, from the parts -/
def cRows (off : Nat) (gap : Bool) : List (List Str × Nat) → List Nat
  | [] => []
  | p :: ps => (off + p.2) :: cRows (off + p.1.length + (if gap then 1 else 0)) gap ps

@[simp] theorem cRows_false_cons (off : Nat) (p) (ps) :
    cRows off false (p :: ps) = (off + p.2) :: cRows (off + p.1.length) false ps := rfl

theorem cRows_shift (gap : Bool) (ps : List (List Str × Nat)) : ∀ off,
    cRows off gap ps = (cRows 0 gap ps).map (off + ·) := by
  induction ps with
  | nil =>
    intro off
    simp [cRows]
  | cons p ps ih =>
    intro off
    simp only [cRows, List.map_cons, Nat.zero_add]
    rw [ih (off + _ + _), ih (p.1.length + _), List.map_map]
    simp [Function.comp_def, Nat.add_assoc]

/-- `branch_idxs` of `_hprint_branch` -/
theorem branchIdxs_eq (ps : List (List Str × Nat)) : ∀ a,
    List.zipWith (· + ·) (ps.map (·.2)) (accum a (ps.map (·.1.length))) = cRows a false ps := by
  induction ps with
  | nil =>
    intro a
    rfl
  | cons p ps ih =>
    intro a
    simp [accum, ih, Nat.add_comm]

def aFirst (parts : List (List Str × Nat)) : Nat := (parts.map (·.2)).headD 0
def aTotal (parts : List (List Str × Nat)) : Nat := (parts.map (·.1.length)).sum
def aLast (parts : List (List Str × Nat)) : Nat :=
  aTotal parts + (parts.map (·.2)).getLastD 0 - (parts.map (·.1.length)).getLastD 0
def aMid (parts : List (List Str × Nat)) : Nat := (aFirst parts + aLast parts) / 2

theorem getLastD_le_sum (l : List Nat) : ∀ d, l.getLastD d ≤ l.sum + d := by
  induction l with
  | nil =>
    intro d
    simp
  | cons x l ih =>
    intro d
    have := ih x
    rw [List.getLastD_cons, List.sum_cons]
    omega

@[simp] theorem aTotal_cons (p) (ps) : aTotal (p :: ps) = p.1.length + aTotal ps := by simp [aTotal]
@[simp] theorem aFirst_cons (p) (ps) : aFirst (p :: ps) = p.2 := rfl
@[simp] theorem aLast_one (p : List Str × Nat) : aLast [p] = p.2 := by simp [aLast, aTotal]
theorem aLast_cons (p q) (r) : aLast (p :: q :: r) = p.1.length + aLast (q :: r) := by
  have := getLastD_le_sum ((q :: r).map (·.1.length)) 0
  simp only [aLast, aTotal, List.map_cons, List.sum_cons, List.getLastD_cons] at this ⊢
  omega

/-- the own row of every part is one of its rows -/
def Good (ps : List (List Str × Nat)) : Prop := ∀ p ∈ ps, p.2 < p.1.length

theorem Good.tail {p} {ps : List (List Str × Nat)} (h : Good (p :: ps)) : Good ps :=
  fun x hx => h x (List.mem_cons_of_mem _ hx)

theorem aLast_lt (ps : List (List Str × Nat)) (hne : ps ≠ []) (hg : Good ps) : aLast ps < aTotal ps := by
  induction ps with
  | nil => exact absurd rfl hne
  | cons p ps ih =>
    cases ps with
    | nil =>
      have := hg p List.mem_cons_self
      simp
      omega
    | cons q r =>
      rw [aLast_cons, aTotal_cons]
      have := ih (List.cons_ne_nil _ _) hg.tail
      omega

theorem aFirst_add_two_le_aLast (ps : List (List Str × Nat)) (hg : Good ps) (h2 : 2 ≤ ps.length)
    (hgap : gapInserted ps = false) : aFirst ps + 2 ≤ aLast ps := by
  match ps, hg, h2, hgap with
  | [a, b], hg, _, hgap =>
    have := hg a List.mem_cons_self
    simp only [gapInserted, beq_eq_false_iff_ne, ne_eq] at hgap
    simp only [aLast_cons, aLast_one, aFirst_cons]
    omega
  | a :: b :: c :: r, hg, _, _ =>
    have ha := hg a List.mem_cons_self
    have hb := hg b (List.mem_cons_of_mem _ List.mem_cons_self)
    rw [aLast_cons, aLast_cons, aFirst_cons]
    omega

theorem cRows_span (ps : List (List Str × Nat)) (hne : ps ≠ []) (hg : Good ps) : ∀ off,
    (cRows off false ps).head? = some (off + aFirst ps) ∧ (cRows off false ps).getLast? = some (off + aLast ps) ∧
    ∀ x ∈ cRows off false ps, off + aFirst ps ≤ x ∧ x ≤ off + aLast ps := by
  induction ps with
  | nil => exact absurd rfl hne
  | cons p ps ih =>
    intro off
    cases ps with
    | nil => simp [cRows]
    | cons q r =>
      obtain ⟨-, h2, h3⟩ := ih (List.cons_ne_nil _ _) hg.tail (off + p.1.length)
      have hp := hg p List.mem_cons_self
      rw [cRows_false_cons, aLast_cons, aFirst_cons]
      refine ⟨rfl, ?_, ?_⟩
      · rw [cRows_false_cons, List.getLast?_cons_cons, ← cRows_false_cons, h2, Nat.add_assoc]
      · intro x hx
        rcases List.mem_cons.mp hx with rfl | hx
        · omega
        · have := h3 x hx
          omega

/-! ### the many-children prefix column -/

/-- the prefix rows below `firstChild` down to `lastChild` in the many-children case; `B` = the children's own rows -/
def midSec (stemRow subs lastR : Str) (B : List Nat) : List Str :=
  let nStems := List.zipWith (fun a b => b - a - 1) B B.tail
  (nStems.dropLast.flatMap fun n => List.replicate n stemRow ++ [subs])
    ++ List.replicate (nStems.getLastD 0) stemRow ++ [lastR]

theorem midSec_two (x y z : Str) (b0 b1 : Nat) :
    midSec x y z [b0, b1] = List.replicate (b1 - b0 - 1) x ++ [z] := by
  simp [midSec]

theorem midSec_cons (x y z : Str) (b0 b1 b2 : Nat) (r : List Nat) :
    midSec x y z (b0 :: b1 :: b2 :: r) = List.replicate (b1 - b0 - 1) x ++ y :: midSec x y z (b1 :: b2 :: r) := by
  simp [midSec]

/-- the rows from below the own row of one block to the own row of the next -/
theorem stem_count (off x len y : Nat) (h : x < len) : x + ((off + len + y - (off + x) - 1) + 1) = len + y := by
  omega

theorem midSec_cRows (x y z : Str) (ps : List (List Str × Nat)) (h2 : 2 ≤ ps.length) (hg : Good ps) : ∀ off,
    ∃ I, midSec x y z (cRows off false ps) = I ++ [z] ∧ (∀ s ∈ I, s = x ∨ s = y) ∧
      aFirst ps + (I.length + 1) = aLast ps := by
  match ps, h2, hg with
  | [p, q], _, hg =>
    intro off
    have := hg p List.mem_cons_self
    refine ⟨_, midSec_two x y z (off + p.2) (off + p.1.length + q.2),
      fun s hs => Or.inl (List.mem_replicate.mp hs).2, ?_⟩
    rw [aLast_cons, aLast_one, aFirst_cons, List.length_replicate]
    exact stem_count off p.2 p.1.length q.2 this
  | p :: q :: s :: r, _, hg =>
    intro off
    obtain ⟨I, h1, h2, h3⟩ := midSec_cRows x y z (q :: s :: r) (by simp) hg.tail (off + p.1.length)
    have := hg p List.mem_cons_self
    refine ⟨List.replicate (off + p.1.length + q.2 - (off + p.2) - 1) x ++ y :: I, ?_, ?_, ?_⟩
    · rw [cRows_false_cons, cRows_false_cons, cRows_false_cons, midSec_cons, ← cRows_false_cons, ← cRows_false_cons,
        h1, List.append_assoc, List.cons_append]
    · intro t ht
      rcases List.mem_append.mp ht with ht | ht
      · exact Or.inl (List.mem_replicate.mp ht).2
      · rcases List.mem_cons.mp ht with rfl | ht
        · exact Or.inr rfl
        · exact h2 t ht
    · have hk := stem_count off p.2 p.1.length q.2 this
      rw [aFirst_cons] at h3
      rw [aLast_cons, aFirst_cons, List.length_append, List.length_replicate, List.length_cons]
      generalize off + p.1.length + q.2 - (off + p.2) - 1 = k at hk ⊢
      omega

/-! ### the cases of `assemble` -/

/-- children rows put one under the other, with the blank row of the gap case between them -/
def joinGap (gap : Bool) : List (List Str × Nat) → List Str
  | [] => []
  | [p] => p.1
  | p :: q :: r => p.1 ++ (if gap then [[]] else []) ++ joinGap gap (q :: r)

theorem joinGap_cons (gap : Bool) (p : List Str × Nat) (ps : List (List Str × Nat)) (h : ps ≠ []) :
    joinGap gap (p :: ps) = p.1 ++ (if gap then [[]] else []) ++ joinGap gap ps := by
  cases ps with
  | nil => exact absurd rfl h
  | cons q r => rfl

theorem joinGap_false (ps : List (List Str × Nat)) : joinGap false ps = ps.flatMap (·.1) := by
  induction ps with
  | nil => rfl
  | cons p ps ih =>
    cases ps with
    | nil => simp [joinGap]
    | cons q r => simp [joinGap, ih]

theorem set_mid {α} {A : List α} {f : α} {I1 : List α} {s x : α} {I2 R : List α} {n : Nat}
    (h : n = A.length + (I1.length + 1)) :
    (A ++ f :: ((I1 ++ s :: I2) ++ R)).set n x = A ++ f :: (I1 ++ x :: (I2 ++ R)) := by
  subst h
  simp

theorem assemble_one (S : HStyle) (ns : Str) (a : List Str × Nat) :
    assemble S ns [a] =
      (List.zipWith (· ++ ·)
        (List.replicate a.2 (padRow ns ' ') ++ (ns ++ [S.branch]) :: List.replicate (a.1.length - 1 - a.2) (padRow ns ' '))
        a.1, a.2) := by
  have e2 : (a.2 + a.2) / 2 = a.2 := by omega
  simp [assemble, padRow, e2]

theorem assemble_two_gap (S : HStyle) (ns : Str) (ra rb : Str) :
    assemble S ns [([ra], 0), ([rb], 0)] =
      (List.zipWith (· ++ ·) [padRow ns S.firstChild, ns ++ [S.splitBranch], padRow ns S.lastChild] [ra, [], rb], 1) := by
  simp [assemble, padRow]

theorem assemble_two_nogap (S : HStyle) (ns : Str) (a b : List Str × Nat)
    (h : ¬ a.1.length + b.2 - a.2 = 1) :
    assemble S ns [a, b] =
      (List.zipWith (· ++ ·)
        (List.replicate a.2 (padRow ns ' ') ++ padRow ns S.firstChild ::
          (List.replicate ((a.2 + (a.1.length + b.2)) / 2 - a.2 - 1) (padRow ns S.stem) ++ (ns ++ [S.splitBranch]) ::
            (List.replicate (a.1.length + b.2 - (a.2 + (a.1.length + b.2)) / 2 - 1) (padRow ns S.stem) ++
              padRow ns S.lastChild ::
                List.replicate (a.1.length + b.1.length - 1 - (a.1.length + b.2)) (padRow ns ' '))))
        (a.1 ++ b.1), (a.2 + (a.1.length + b.2)) / 2) := by
  have e : a.1.length + b.1.length + b.2 - b.1.length = a.1.length + b.2 := by omega
  simp only [assemble, List.map_cons, List.map_nil, List.headD_eq_head?_getD, List.head?_cons, Option.getD_some,
    List.sum_cons, List.sum_nil, Nat.add_zero, List.getLastD_eq_getLast?, List.getLast?_cons_cons,
    List.getLast?_singleton, e, beq_iff_eq, h, ↓reduceIte, List.flatMap_cons, List.flatMap_nil, List.append_nil,
    List.append_assoc, List.cons_append, List.nil_append, padRow]

theorem assemble_many (S : HStyle) (ns : Str) (a b c : List Str × Nat) (r : List (List Str × Nat)) :
    ∃ g, (g = S.splitBranch ∨ g = S.middleChild) ∧
      assemble S ns (a :: b :: c :: r) =
        (List.zipWith (· ++ ·)
          ((List.replicate (aFirst (a :: b :: c :: r)) (padRow ns ' ') ++ padRow ns S.firstChild ::
            (midSec (padRow ns S.stem) (padRow ns S.subsequentChild) (padRow ns S.lastChild)
                (cRows 0 false (a :: b :: c :: r)) ++
              List.replicate (aTotal (a :: b :: c :: r) - 1 - aLast (a :: b :: c :: r)) (padRow ns ' '))).set
            (aMid (a :: b :: c :: r)) (ns ++ [g]))
          ((a :: b :: c :: r).flatMap (·.1)), aMid (a :: b :: c :: r)) := by
  simp only [assemble, branchIdxs_eq, midSec, aMid, aFirst, aLast, aTotal, padRow, List.append_assoc,
    List.cons_append, List.nil_append]
  split
  · exact ⟨_, Or.inr rfl, by rw [List.set_set]⟩
  · exact ⟨_, Or.inl rfl, rfl⟩

/-- `mid = (first + last) // 2` of `_hprint_branch` is a row strictly between the first and the last child's -/
theorem mid_between (f l : Nat) (h : f + 2 ≤ l) : f < (f + l) / 2 ∧ (f + l) / 2 < l := by omega

/-- the pieces of the connector column (stems above `mid`, `mid`, stems below, `lastChild`) reach from `first`
    to `last`, and `mid` is the position `set_mid` replaces -/
theorem mid_split (f m l : Nat) (h1 : f < m) (h2 : m < l) :
    f + ((m - f - 1) + ((l - m - 1) + 1) + 1) = l ∧ m = f + ((m - f - 1) + 1) := by omega

/-- at least two parts, no gap: blanks above the first part's own row and below the last part's, the connector
    glyphs between, the node's row in the middle -/
theorem assemble_nogap (S : HStyle) (ns : Str) (ps : List (List Str × Nat)) (h2 : 2 ≤ ps.length) (hg : Good ps)
    (hgap : gapInserted ps = false) :
    ∃ g I, (g = S.splitBranch ∨ g = S.middleChild) ∧
      (∀ y ∈ I, y = padRow ns S.stem ∨ y = padRow ns S.subsequentChild) ∧
      aFirst ps + (I.length + 1) = aLast ps ∧
      assemble S ns ps =
        (List.zipWith (· ++ ·)
          ((List.replicate (aFirst ps) (padRow ns ' ') ++ padRow ns S.firstChild ::
            (I ++ padRow ns S.lastChild :: List.replicate (aTotal ps - 1 - aLast ps) (padRow ns ' '))).set
            (aMid ps) (ns ++ [g]))
          (ps.flatMap (·.1)), aMid ps) := by
  have hfl := aFirst_add_two_le_aLast ps hg h2 hgap
  match ps, h2, hg, hgap, hfl with
  | [a, b], _, hg, hgap, hfl =>
    rw [aFirst_cons, aLast_cons, aLast_one] at hfl
    simp only [gapInserted, beq_eq_false_iff_ne, ne_eq] at hgap
    have hmid : aMid [a, b] = (a.2 + (a.1.length + b.2)) / 2 := by rw [aMid, aLast_cons, aLast_one, aFirst_cons]
    obtain ⟨hm1, hm2⟩ := mid_between a.2 (a.1.length + b.2) hfl
    rw [assemble_two_nogap S ns a b hgap, hmid]
    generalize (a.2 + (a.1.length + b.2)) / 2 = m at hm1 hm2 ⊢
    obtain ⟨hs1, hs2⟩ := mid_split a.2 m (a.1.length + b.2) hm1 hm2
    refine ⟨S.splitBranch, List.replicate (m - a.2 - 1) (padRow ns S.stem) ++ padRow ns S.stem ::
      List.replicate (a.1.length + b.2 - m - 1) (padRow ns S.stem), Or.inl rfl, ?_, ?_, ?_⟩
    · intro y hy
      rcases List.mem_append.mp hy with h | h
      · exact Or.inl (List.mem_replicate.mp h).2
      · rcases List.mem_cons.mp h with h | h
        · exact Or.inl h
        · exact Or.inl (List.mem_replicate.mp h).2
    · rw [aFirst_cons, aLast_cons, aLast_one, List.length_append, List.length_replicate, List.length_cons,
        List.length_replicate]
      exact hs1
    · rw [set_mid (by
        rw [List.length_replicate, List.length_replicate, aFirst_cons]
        exact hs2)]
      simp [aLast_cons, aTotal]
  | a :: b :: c :: r, _, hg, _, _ =>
    obtain ⟨g, hg', hasm⟩ := assemble_many S ns a b c r
    obtain ⟨I, hI1, hI2, hI3⟩ := midSec_cRows (padRow ns S.stem) (padRow ns S.subsequentChild)
      (padRow ns S.lastChild) (a :: b :: c :: r) (by simp) hg 0
    rw [hI1, List.append_assoc, List.singleton_append] at hasm
    exact ⟨g, I, hg', hI2, hI3, hasm⟩

/-! ### what `assemble` returns -/

/-- one part `a`: the node sits on the row of its child, connector `branch` -/
def Framed1 (S : HStyle) (ns : Str) (a out : List Str × Nat) : Prop :=
  ∃ pre, out.1 = List.zipWith (· ++ ·) pre a.1 ∧ pre.length = a.1.length ∧ out.2 = a.2 ∧ PreCol ns pre a.2 S.branch

theorem assemble_single (S : HStyle) (ns : Str) (a : List Str × Nat) (ha : PInv a) :
    Framed1 S ns a (assemble S ns [a]) := by
  have hlt := ha.lt
  have hcol := PreCol.of_set (ns := ns) (mid := a.2) S.branch
    (base := List.replicate a.2 (padRow ns ' ') ++ padRow ns ' ' :: List.replicate (a.1.length - 1 - a.2) (padRow ns ' '))
    (fun x hx => by
      rcases List.mem_append.mp hx with h | h
      · exact ⟨_, (List.mem_replicate.mp h).2⟩
      · rcases List.mem_cons.mp h with h | h
        · exact ⟨_, h⟩
        · exact ⟨_, (List.mem_replicate.mp h).2⟩)
    (by simp)
  rw [List.set_append_right _ _ (by simp), List.length_replicate, Nat.sub_self, List.set_cons_zero] at hcol
  rw [assemble_one]
  refine ⟨_, rfl, ?_, rfl, hcol⟩
  simp
  omega

/-- at least two parts: the rows are the gap-joined parts behind a connector column that runs from the first
    part's own row to the last part's -/
def Framed2 (S : HStyle) (ns : Str) (ps : List (List Str × Nat)) (out : List Str × Nat) : Prop :=
  ∃ pre first last,
    out.1 = List.zipWith (· ++ ·) pre (joinGap (gapInserted ps) ps) ∧
    pre.length = (joinGap (gapInserted ps) ps).length ∧
    ConnCol S ns pre first out.2 last ∧
    (cRows 0 (gapInserted ps) ps).head? = some first ∧ (cRows 0 (gapInserted ps) ps).getLast? = some last ∧
    ∀ x ∈ cRows 0 (gapInserted ps) ps, first ≤ x ∧ x ≤ last

theorem framed2_nogap (S : HStyle) (ns : Str) (ps : List (List Str × Nat)) (h2 : 2 ≤ ps.length) (hg : Good ps)
    (hgap : gapInserted ps = false) : Framed2 S ns ps (assemble S ns ps) := by
  have hne : ps ≠ [] := by
    rintro rfl
    simp at h2
  have hfl := aFirst_add_two_le_aLast ps hg h2 hgap
  obtain ⟨g, I, hg', hI, hlen, hasm⟩ := assemble_nogap S ns ps h2 hg hgap
  obtain ⟨hs1, hs2, hs3⟩ := cRows_span ps hne hg 0
  have hlast := aLast_lt ps hne hg
  obtain ⟨hm1, hm2⟩ := mid_between _ _ hfl
  have hA : (List.replicate (aFirst ps) (padRow ns ' ')).length = aFirst ps := List.length_replicate
  have hcc := ConnCol.of_set S ns (List.replicate (aFirst ps) (padRow ns ' ')) I
    (List.replicate (aTotal ps - 1 - aLast ps) (padRow ns ' ')) (aMid ps) g hg'
    (fun y hy => (List.mem_replicate.mp hy).2) (fun y hy => (List.mem_replicate.mp hy).2) hI
    (hA.symm ▸ hm1) ((hA.symm ▸ hlen.symm) ▸ hm2)
  rw [hA, hlen] at hcc
  unfold Framed2
  rw [hgap, joinGap_false, hasm]
  simp only [Nat.zero_add] at hs1 hs2 hs3
  refine ⟨_, _, _, rfl, ?_, hcc, hs1, hs2, hs3⟩
  rw [List.length_set, List.length_flatMap, ← aTotal]
  simp only [List.length_append, List.length_cons, List.length_replicate]
  omega

theorem gap_shape (ps : List (List Str × Nat)) (hinv : ∀ p ∈ ps, PInv p) (h : gapInserted ps = true) :
    ∃ ra rb, ps = [([ra], 0), ([rb], 0)] := by
  match ps, hinv, h with
  | [a, b], hinv, h =>
    simp only [gapInserted, beq_iff_eq] at h
    rcases hinv a List.mem_cons_self with ⟨ha1, ha2⟩ | ⟨ha1, ha2⟩
    · rcases hinv b (List.mem_cons_of_mem _ List.mem_cons_self) with ⟨hb1, hb2⟩ | ⟨hb1, hb2⟩
      · obtain ⟨ra, hra⟩ := List.length_eq_one_iff.mp ha1
        obtain ⟨rb, hrb⟩ := List.length_eq_one_iff.mp hb1
        exact ⟨ra, rb, by rw [Prod.ext (y := ([ra], 0)) hra ha2, Prod.ext (y := ([rb], 0)) hrb hb2]⟩
      · omega
    · omega

theorem framed2_gap (S : HStyle) (ns : Str) (ra rb : Str) :
    Framed2 S ns [([ra], 0), ([rb], 0)] (assemble S ns [([ra], 0), ([rb], 0)]) := by
  have hcc := ConnCol.of_set S ns [] [padRow ns S.stem] [] 1 S.splitBranch (Or.inl rfl) (by simp) (by simp)
    (by simp) (by simp) (by simp)
  unfold Framed2
  rw [assemble_two_gap]
  exact ⟨_, 0, 2, rfl, rfl, hcc, rfl, rfl, by simp [cRows, gapInserted]⟩

theorem assemble_conn (S : HStyle) (ns : Str) (ps : List (List Str × Nat)) (h2 : 2 ≤ ps.length)
    (hinv : ∀ p ∈ ps, PInv p) : Framed2 S ns ps (assemble S ns ps) := by
  cases hgap : gapInserted ps with
  | false => exact framed2_nogap S ns ps h2 (fun p hp => (hinv p hp).lt) hgap
  | true =>
    obtain ⟨ra, rb, rfl⟩ := gap_shape ps hinv hgap
    exact framed2_gap S ns ra rb

theorem assemble_framed (S : HStyle) (nodeStr : Str) (ps : List (List Str × Nat)) (hne : ps ≠ [])
    (hinv : ∀ p ∈ ps, PInv p) :
    Framed nodeStr (joinGap (gapInserted ps) ps) (assemble S nodeStr ps) ∧ PInv (assemble S nodeStr ps) := by
  match ps, hne, hinv with
  | [a], _, hinv =>
    obtain ⟨pre, h1, h2, h3, h4⟩ := assemble_single S nodeStr a (hinv a List.mem_cons_self)
    refine ⟨(h3 ▸ h4).framed h1 h2, ?_⟩
    have := hinv a List.mem_cons_self
    unfold PInv at this ⊢
    rw [h3, h1, List.length_zipWith, h2, Nat.min_self]
    exact this
  | a :: b :: r, _, hinv =>
    obtain ⟨pre, first, last, h1, h2, h3, -⟩ := assemble_conn S nodeStr (a :: b :: r) (by simp) hinv
    obtain ⟨g, -, hpc⟩ := h3.hmid
    refine ⟨hpc.framed h1 h2, Or.inr ⟨Nat.lt_of_le_of_lt (Nat.zero_le _) h3.lt1, ?_⟩⟩
    rw [h1, List.length_zipWith, ← h2, Nat.min_self]
    exact Nat.lt_of_le_of_lt h3.lt2 h3.lt3

/-! ### rows of one list inside another -/

/-- `B` occurs in `A` from row `k` on -/
def RowsAt (A : List Str) (k : Nat) (B : List Str) : Prop := ∀ j row, B[j]? = some row → A[k + j]? = some row

theorem RowsAt.lt {A B : List Str} {k j : Nat} (h : RowsAt A k B) (hj : j < B.length) : k + j < A.length :=
  (List.getElem?_eq_some_iff.mp (h j _ (List.getElem?_eq_getElem hj))).1

theorem RowsAt.mem {A B : List Str} {k : Nat} (h : RowsAt A k B) {row : Str} (hr : row ∈ B) : row ∈ A := by
  obtain ⟨j, hj⟩ := List.getElem?_of_mem hr
  exact List.mem_of_getElem? (h j row hj)

theorem joinGap_head (gap : Bool) (p : List Str × Nat) (ps : List (List Str × Nat)) :
    RowsAt (joinGap gap (p :: ps)) 0 p.1 := by
  intro j row hj
  have hlt := (List.getElem?_eq_some_iff.mp hj).1
  rw [Nat.zero_add]
  cases ps with
  | nil => exact hj
  | cons q r =>
    rw [joinGap, List.append_assoc, List.getElem?_append_left hlt]
    exact hj

theorem length_append_gap (l : List Str) (gap : Bool) :
    (l ++ (if gap then [[]] else [])).length = l.length + (if gap then 1 else 0) := by
  cases gap <;> simp

theorem joinGap_tail (gap : Bool) (p : List Str × Nat) (ps : List (List Str × Nat)) :
    RowsAt (joinGap gap (p :: ps)) (p.1.length + (if gap then 1 else 0)) (joinGap gap ps) := by
  intro j row hj
  cases ps with
  | nil => simp [joinGap] at hj
  | cons q r =>
    have hlen := length_append_gap p.1 gap
    rw [joinGap, List.getElem?_append_right (hlen ▸ Nat.le_add_right _ j), hlen, Nat.add_sub_cancel_left]
    exact hj

/-! ### blocks -/

theorem hblock_hole (S : HStyle) (inter : Bool) (pad : Nat → Nat) (d : Nat) :
    hblock S inter pad d .hole = ([hlabel S inter pad d [' ', ' '] true], 0) := by
  simp [hblock, hlabel]

theorem hblock_leaf (S : HStyle) (inter : Bool) (pad : Nat → Nat) (d : Nat) (n : Str) (cs : List HTree)
    (h : (!cs.any HTree.isReal) = true) :
    hblock S inter pad d (.node n cs) = ([hlabel S inter pad d n true], 0) := by
  simp only [Bool.not_eq_eq_eq_not, Bool.not_true] at h
  simp [hblock, hlabel, h]

theorem hblock_inner (S : HStyle) (inter : Bool) (pad : Nat → Nat) (d : Nat) (n : Str) (cs : List HTree)
    (h : ¬(!cs.any HTree.isReal) = true) :
    hblock S inter pad d (.node n cs) =
      assemble S (hlabel S inter pad d n false) (hblockL S inter pad (d + 1) cs) := by
  simp only [Bool.not_eq_eq_eq_not, Bool.not_true, Bool.not_eq_false] at h
  simp [hblock, hlabel, h]

theorem hblockL_eq_map (S : HStyle) (inter : Bool) (pad : Nat → Nat) (d : Nat) (cs : List HTree) :
    hblockL S inter pad d cs = cs.map (hblock S inter pad d) := by
  induction cs with
  | nil => rfl
  | cons c cs ih => rw [hblockL, ih, List.map_cons]

theorem hblockL_ne (S : HStyle) (inter : Bool) (pad : Nat → Nat) (d : Nat) (cs : List HTree)
    (h : ¬(!cs.any HTree.isReal) = true) : hblockL S inter pad d cs ≠ [] := by
  cases cs with
  | nil => simp at h
  | cons c cs => simp [hblockL]

theorem hblock_inv (S : HStyle) (inter : Bool) (pad : Nat → Nat) :
    (∀ (d : Nat) (t : HTree), PInv (hblock S inter pad d t)) ∧
    (∀ (d : Nat) (cs : List HTree), ∀ p ∈ hblockL S inter pad d cs, PInv p) := by
  apply hblock.mutual_induct S inter pad
  · intro d
    rw [hblock_hole]
    exact Or.inl ⟨rfl, rfl⟩
  · intro d n cs h
    rw [hblock_leaf _ _ _ _ _ _ h]
    exact Or.inl ⟨rfl, rfl⟩
  · intro d n cs h ih
    rw [hblock_inner _ _ _ _ _ _ h]
    exact (assemble_framed S _ _ (hblockL_ne _ _ _ _ _ h) ih).2
  · intro d p hp
    simp [hblockL] at hp
  · intro d c cs ih1 ih2 p hp
    rw [hblockL, List.mem_cons] at hp
    rcases hp with rfl | hp
    · exact ih1
    · exact ih2 p hp

theorem hblock_framed (S : HStyle) (inter : Bool) (pad : Nat → Nat) (d : Nat) (n : Str) (cs : List HTree)
    (h : ¬(!cs.any HTree.isReal) = true) :
    Framed (hlabel S inter pad d n false)
      (joinGap (gapInserted (hblockL S inter pad (d + 1) cs)) (hblockL S inter pad (d + 1) cs))
      (hblock S inter pad d (.node n cs)) := by
  rw [hblock_inner _ _ _ _ _ _ h]
  exact (assemble_framed S _ _ (hblockL_ne _ _ _ _ _ h) ((hblock_inv S inter pad).2 _ _)).1

theorem hblock_inner_cases (S : HStyle) (inter : Bool) (pad : Nat → Nat) (d : Nat) (n : Str) (cs : List HTree)
    (h : ¬(!cs.any HTree.isReal) = true) :
    (∃ c, cs = [c] ∧
      Framed1 S (hlabel S inter pad d n false) (hblock S inter pad (d + 1) c) (hblock S inter pad d (.node n cs))) ∨
    (2 ≤ cs.length ∧
      Framed2 S (hlabel S inter pad d n false) (hblockL S inter pad (d + 1) cs) (hblock S inter pad d (.node n cs))) := by
  have hinv := (hblock_inv S inter pad).2 (d + 1) cs
  rw [hblock_inner _ _ _ _ _ _ h]
  match cs, h, hinv with
  | [], h, _ => simp at h
  | [c], _, hinv => exact .inl ⟨c, rfl, assemble_single S _ _ (hinv _ (by simp [hblockL]))⟩
  | a :: b :: r, _, hinv => exact .inr ⟨by simp, assemble_conn S _ _ (by simp [hblockL]) hinv⟩

end Render
