import BigtreeProofs.Lemmas.StringsBridge
import BigtreeProofs.Lemmas.ModifyFold
/-!
# C08 helper lemmas: path strings

The string functions of the modify model are those of `Strings` (`StringsBridge`), so a printed path is cut
into exactly its names: for a separator of any length (what `find_full_path` / `add_path_to_tree` see), and
in the single-character form the per-flag theorems use.
-/
namespace Modify

variable {c : Char}

theorem GoodNames.cons {n : Str} {ns : List Str} (h : GoodNames c (n :: ns)) :
    GoodName c n ∧ GoodNames c ns :=
  List.forall_mem_cons.1 h

theorem comps_pad (sp : Str) (hsp : sp ≠ []) (ns : List Str) (hne : ns ≠ [])
    (h : ∀ x ∈ ns, x ≠ [] ∧ Store.Free sp x) (lead trail : Str)
    (hl : ∀ x ∈ lead, x ∈ sp) (ht : ∀ x ∈ trail, x ∈ sp) :
    splitOn sp (stripL sp (stripR sp (lead ++ join sp ns ++ trail))) = ns ∧
    splitOn sp (stripR sp (stripL sp (lead ++ join sp ns ++ trail))) = ns := by
  have hs := Strings.strip_join_pad sp ns hne h lead trail hl ht
  have hj := Strings.split_join sp hsp ns hne fun x hx => (h x hx).2
  rw [splitOn_eq_strings sp hsp, splitOn_eq_strings sp hsp, join_eq_intercalate]
  exact ⟨(congrArg (Strings.split sp) hs.1).trans hj, (congrArg (Strings.split sp) hs.2).trans hj⟩

/-- the components `find_full_path` / `add_path_to_tree` walk for a printed path, with further separator
characters in front of / behind it, for every non-empty separator -/
theorem comps_pathName_multi_pad (sp : Str) (hsp : sp ≠ []) (n : Str) (ns : List Str)
    (h : ∀ x ∈ n :: ns, x ≠ [] ∧ Store.Free sp x) (lead trail : Str)
    (hl : ∀ x ∈ lead, x ∈ sp) (ht : ∀ x ∈ trail, x ∈ sp) :
    splitOn sp (stripL sp (stripR sp (lead ++ pathName sp (n :: ns) ++ trail))) = n :: ns := by
  rw [pathName, ← List.append_assoc lead]
  exact (comps_pad sp hsp _ (List.cons_ne_nil n ns) h (lead ++ sp) trail
    (fun x hx => (List.mem_append.1 hx).elim (hl x) id) ht).1

theorem comps_pathName_multi (sp : Str) (hsp : sp ≠ []) (n : Str) (ns : List Str)
    (h : ∀ x ∈ n :: ns, x ≠ [] ∧ Store.Free sp x) :
    splitOn sp (stripL sp (stripR sp (pathName sp (n :: ns)))) = n :: ns := by
  have := comps_pathName_multi_pad sp hsp n ns h [] [] (fun _ h => nomatch h) (fun _ h => nomatch h)
  rwa [List.nil_append, List.append_nil] at this

theorem splitOn_pathName (ns : List Str) (hne : ns ≠ []) (hc : ∀ n ∈ ns, c ∉ n) :
    splitOn [c] (pathName [c] ns) = [] :: ns := by
  rw [splitOn_eq_strings _ (List.cons_ne_nil c []), pathName, join_eq_intercalate]
  exact Strings.split_sep_join [c] (List.cons_ne_nil c []) ns hne fun x hx => (Store.free_singleton c x).2 (hc x hx)

/-- `path.rstrip(sep)` leaves a printed path alone -/
theorem stripR_pathName (ns : List Str) (hne : ns ≠ []) (h : GoodNames c ns) :
    stripR [c] (pathName [c] ns) = pathName [c] ns := by
  obtain ⟨_, c1, t1, hc1, h1⟩ := Strings.join_shape [c] ns hne (Store.forall_free_singleton h)
  rw [pathName, join_eq_intercalate, h1, ← List.append_assoc]
  exact Strings.rstrip_stop [c] _ c1 hc1

/-- `path.lstrip(sep)` removes exactly the leading separator of a printed path -/
theorem stripL_pathName (n : Str) (ns : List Str) (h : GoodNames c (n :: ns)) :
    stripL [c] (pathName [c] (n :: ns)) = join [c] (n :: ns) := by
  obtain ⟨⟨c0, t0, hc0, h0⟩, _⟩ := Strings.join_shape [c] (n :: ns) (List.cons_ne_nil n ns)
    (Store.forall_free_singleton h)
  rw [pathName, join_eq_intercalate, h0]
  exact (Strings.lstrip_append_of_mem (fun _ h => h) _).trans (Strings.lstrip_stop [c] c0 t0 hc0)

theorem replace_self (s : Str) : replace [c] [c] s = s := by
  rw [replace]
  induction s with
  | nil => rfl
  | cons x s ih =>
    rw [replaceGo]
    split
    · next h =>
      rw [List.isPrefixOf_cons_cons, List.isPrefixOf_nil_left, Bool.and_true, beq_iff_eq] at h
      rw [← h.2]
      exact congrArg (c :: ·) ih
    · exact congrArg (x :: ·) ih

theorem lastComp_pathName (ns : List Str) (hne : ns ≠ []) (h : GoodNames c ns) :
    lastComp [c] (pathName [c] ns) = ns.getLast hne := by
  rw [lastComp, splitOn_pathName ns hne fun n hn => (h n hn).2,
    List.getLast?_eq_some_getLast (List.cons_ne_nil [] ns), List.getLast_cons hne]
  rfl

theorem headComp_pathName (n : Str) (ns : List Str) (h : GoodNames c (n :: ns)) :
    headComp [c] (pathName [c] (n :: ns)) = n := by
  rw [headComp, stripL_pathName n ns h, splitOn_eq_strings _ (List.cons_ne_nil c []), join_eq_intercalate,
    Strings.split_join [c] (List.cons_ne_nil c []) _ (List.cons_ne_nil n ns) fun x hx =>
      (Store.free_singleton c x).2 (h x hx).2]
  rfl

/-- the components `find_full_path` / `add_path_to_tree` walk for a printed path -/
theorem comps_pathName (n : Str) (ns : List Str) (h : GoodNames c (n :: ns)) :
    splitOn [c] (stripL [c] (stripR [c] (pathName [c] (n :: ns)))) = n :: ns :=
  comps_pathName_multi [c] (List.cons_ne_nil c []) n ns (Store.forall_free_singleton h)

theorem comps_pathName_rl (n : Str) (ns : List Str) (h : GoodNames c (n :: ns)) :
    splitOn [c] (stripR [c] (stripL [c] (pathName [c] (n :: ns)))) = n :: ns := by
  have := (comps_pad [c] (List.cons_ne_nil c []) _ (List.cons_ne_nil n ns) (Store.forall_free_singleton h) [c] []
    (fun _ h => h) fun _ h => nomatch h).2
  rwa [List.append_nil] at this

/-- `tree_sep.join(to_path.split(tree_sep)[:-1])`: the printed path of the parent -/
theorem parent_pathName (n : Str) (ns : List Str) (l : Str) (h : GoodNames c (n :: ns ++ [l])) :
    join [c] (splitOn [c] (pathName [c] (n :: ns ++ [l]))).dropLast = pathName [c] (n :: ns) := by
  rw [splitOn_pathName (n :: ns ++ [l]) (List.cons_ne_nil n _) fun m hm => (h m hm).2]
  show join [c] (([] :: n :: ns) ++ [l]).dropLast = _
  rw [List.dropLast_concat]
  rfl

end Modify
