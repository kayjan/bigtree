import BigtreeProofs.Lemmas.DagStoreSet
/-!
# DagStore — the setters in normal form, the operations and whole histories

C10's invariant is preserved; the DAGNode parts of C02 (a raising call leaves the store as it was) and
of C20 (the `ASSERTIONS` switch only guards) are proved here too, `Properties/C02.lean` and
`Properties/C20.lean` only cite them.
-/

namespace DagStore

/-! ## normal forms of the setters -/

theorem setParents_check_false {s : DStore} {v : Nat} {a : Arg} (f : Fault)
    (h : checkParents s v a = false) : setParents true s v a f = (s, .rej) := by
  unfold setParents; rw [h]; rfl

/-- the members are distinct nodes and the guard, if it is on, has passed: the insertion loop
runs to its end, and only a hook can make the call fail -/
theorem setParents_nf {asrt : Bool} {s : DStore} {v : Nat} {a : Arg} {l : List Nat} (f : Fault)
    (ha : a.items = some l) (hc : asrt = true → checkParents s v a = true)
    (hl : l.Nodup ∧ ∀ p ∈ l, p < s.n) :
    setParents asrt s v a f =
      match f with
      | .none => (addEs s (newParentEdges s v l), .ok)
      | .pre => (s, .rej)
      | .post => (parentsRollback (s.parents v) (addEs s (newParentEdges s v l)) v l, .rej) := by
  have hg : (asrt && !checkParents s v a) = false := by cases asrt <;> simp [hc]
  cases f <;> simp [setParents, hg, ha, parentsLoop_eq hl]

theorem setChildren_check_false {s : DStore} {v : Nat} {a : Arg} (f : Fault)
    (h : checkChildren s v a = false) : setChildren true s v a f = (s, .rej) := by
  unfold setChildren; rw [h]; rfl

theorem setChildren_nf {asrt : Bool} {s : DStore} {v : Nat} {a : Arg} {l : List Nat} (f : Fault)
    (ha : a.items = some l) (hc : asrt = true → checkChildren s v a = true)
    (hl : l.Nodup ∧ ∀ c ∈ l, c < s.n) :
    setChildren asrt s v a f =
      match f with
      | .none => (addEs s (newChildEdges s v l), .ok)
      | .pre => (s, .rej)
      | .post => (childrenRollback (s.children v) (addEs s (newChildEdges s v l)) v l, .rej) := by
  have hg : (asrt && !checkChildren s v a) = false := by cases asrt <;> simp [hc]
  cases f <;> simp [setChildren, hg, ha, childrenLoop_eq hl]

theorem checkChildren_true {s : DStore} {v : Nat} {a : Arg} (h : checkChildren s v a = true) :
    ∃ l, a.items = some l ∧ checkChildrenLoop s v l [] = true := by
  cases a with
  | nonIter => cases h
  | tuple l => exact ⟨l, rfl, h⟩
  | list l => exact ⟨l, rfl, h⟩

theorem checkParents_true {s : DStore} {v : Nat} {a : Arg} (h : checkParents s v a = true) :
    ∃ l, a = .list l ∧ checkParentLoop s v l [] = true := by
  cases a with
  | nonIter => cases h
  | tuple l => cases h
  | list l => exact ⟨l, rfl, h⟩

theorem setParents_ok {s : DStore} {v : Nat} {a : Arg} {f : Fault}
    (h : (setParents true s v a f).2 = .ok) :
    ∃ l, a = .list l ∧ checkParentLoop s v l [] = true ∧ f = .none ∧
      (setParents true s v a f).1 = addEs s (newParentEdges s v l) := by
  cases hc : checkParents s v a with
  | false => rw [setParents_check_false f hc] at h; cases h
  | true =>
    obtain ⟨l, rfl, hl⟩ := checkParents_true hc
    rw [setParents_nf f rfl (fun _ => hc) (checkParentLoop_nodes hl)] at h ⊢
    cases f with
    | none => exact ⟨l, rfl, hl, rfl, rfl⟩
    | pre => cases h
    | post => cases h

theorem setChildren_ok {s : DStore} {v : Nat} {a : Arg} {f : Fault}
    (h : (setChildren true s v a f).2 = .ok) :
    ∃ l, a.items = some l ∧ checkChildrenLoop s v l [] = true ∧ f = .none ∧
      (setChildren true s v a f).1 = addEs s (newChildEdges s v l) := by
  cases hc : checkChildren s v a with
  | false => rw [setChildren_check_false f hc] at h; cases h
  | true =>
    obtain ⟨l, ha, hl⟩ := checkChildren_true hc
    rw [setChildren_nf f ha (fun _ => hc) (checkChildrenLoop_nodes hl)] at h ⊢
    cases f with
    | none => exact ⟨l, ha, hl, rfl, rfl⟩
    | pre => cases h
    | post => cases h

/-! ## C02: a rejected or failing assignment leaves the whole store as it was -/

/-- C02 for either setting of the switch -/
theorem setParents_rej_id_any {asrt : Bool} {s : DStore} (hs : DWF0 s) {v : Nat} {a : Arg}
    {l : List Nat} {f : Fault} (ha : a.items = some l)
    (hc : asrt = true → checkParents s v a = true) (hl : l.Nodup ∧ ∀ p ∈ l, p < s.n)
    (h : (setParents asrt s v a f).2 = .rej) : (setParents asrt s v a f).1 = s := by
  rw [setParents_nf f ha hc hl] at h ⊢
  cases f with
  | none => cases h
  | pre => rfl
  | post => exact parentsRollback_eq hs hl

theorem setChildren_rej_id_any {asrt : Bool} {s : DStore} (hs : DWF0 s) {v : Nat} {a : Arg}
    {l : List Nat} {f : Fault} (ha : a.items = some l)
    (hc : asrt = true → checkChildren s v a = true) (hl : l.Nodup ∧ ∀ c ∈ l, c < s.n)
    (h : (setChildren asrt s v a f).2 = .rej) : (setChildren asrt s v a f).1 = s := by
  rw [setChildren_nf f ha hc hl] at h ⊢
  cases f with
  | none => cases h
  | pre => rfl
  | post => exact childrenRollback_eq hs hl

/-- **C02, parents setter of DAGNode.** Whatever made the call raise — wrong type, non-node,
self, a descendant, a repeated member, the pre-hook, or the post-hook after all edges had been
inserted (then the executed roll-back loop removes exactly the appended tail) — the store
afterwards *is* the store before: every parents list and every children list, in order. -/
theorem setParents_rej_id {s : DStore} (hs : DWF0 s) {v : Nat} {a : Arg} {f : Fault}
    (h : (setParents true s v a f).2 = .rej) : (setParents true s v a f).1 = s := by
  cases hc : checkParents s v a with
  | false => rw [setParents_check_false f hc]
  | true =>
    obtain ⟨l, rfl, hl⟩ := checkParents_true hc
    exact setParents_rej_id_any hs rfl (fun _ => hc) (checkParentLoop_nodes hl) h

/-- **C02, children setter of DAGNode.** -/
theorem setChildren_rej_id {s : DStore} (hs : DWF0 s) {v : Nat} {a : Arg} {f : Fault}
    (h : (setChildren true s v a f).2 = .rej) : (setChildren true s v a f).1 = s := by
  cases hc : checkChildren s v a with
  | false => rw [setChildren_check_false f hc]
  | true =>
    obtain ⟨l, ha, hl⟩ := checkChildren_true hc
    exact setChildren_rej_id_any hs ha (fun _ => hc) (checkChildrenLoop_nodes hl) h

/-! ### the same with the checks off

With `ASSERTIONS` off the roll-back is still exact provided the members are distinct nodes (what the
checks would have let through as far as the members go). With a repeated member it is not: Python's
`list.remove` raises inside the `except` branch and the loop is abandoned. That is outside C02's
domain (the user disabled the guard and passed an argument the guard exists to refuse); the model
reproduces the code, see the `example`. -/

theorem setParents_rej_id_off {s : DStore} (hs : DWF0 s) {v : Nat} {a : Arg} {f : Fault}
    (ha : ∀ l, a.items = some l → l.Nodup ∧ ∀ p ∈ l, p < s.n)
    (_h : (setParents false s v a f).2 = .rej) : (setParents false s v a f).1 = s := by
  cases hi : a.items with
  | none => cases f <;> simp [setParents, hi]
  | some l => exact setParents_rej_id_any hs hi (fun h => nomatch h) (ha l hi) _h

theorem setChildren_rej_id_off {s : DStore} (hs : DWF0 s) {v : Nat} {a : Arg} {f : Fault}
    (ha : ∀ l, a.items = some l → l.Nodup ∧ ∀ p ∈ l, p < s.n)
    (_h : (setChildren false s v a f).2 = .rej) : (setChildren false s v a f).1 = s := by
  cases hi : a.items with
  | none => cases f <;> simp [setChildren, hi]
  | some l => exact setChildren_rej_id_any hs hi (fun h => nomatch h) (ha l hi) _h

/-- checks off + repeated member + failing post-hook: the second `remove` of the repeated
member raises inside the handler and the edge to node 1 survives (same on the real code) -/
example :
    let s := (run true (init 4 fun _ => []) [.rshift 2 3 .none]).1
    (setParents false s 3 (.list [0, 0, 1]) .post).2 = .rej ∧
    (setParents false s 3 (.list [0, 0, 1]) .post).1.parents 3 = [2, 1] ∧ s.parents 3 = [2] := by
  decide

/-! ## C10: the invariant is preserved -/

theorem dwf_init (k : Nat) (names : Nat → Str) : DWF (init k names) where
  sym := by simp [init]
  ndp := by simp [init]
  ndc := by simp [init]
  rng := by simp [init]
  acyc := fun v => ⟨v, fun q hq => by simp [init] at hq⟩

/-- the store after the insertion loop of an accepted parents assignment is well-formed:
the guard looked at the **initial** store only, the loop inserts one edge after the other -/
theorem dwf_addParents {s : DStore} (hs : DWF s) {v : Nat} (hv : v < s.n) {l : List Nat}
    (hl : checkParentLoop s v l [] = true) : DWF (addEs s (newParentEdges s v l)) := by
  have hsp := checkParentLoop_anc hs hl
  refine ⟨hs.toDWF0.addEs (newParentEdges_nodup hsp.1) ?_,
    hs.acyc.add_in v l (fun _ _ => mem_after_parents.1) fun p hp => (hsp.2 p hp).2⟩
  rintro ⟨q, x⟩ he
  obtain ⟨rfl, h1, h2⟩ := mem_newParentEdges.1 he
  exact ⟨h2, (hsp.2 q h1).1, hv⟩

theorem dwf_addChildren {s : DStore} (hs : DWF s) {v : Nat} (hv : v < s.n) {l : List Nat}
    (hl : checkChildrenLoop s v l [] = true) : DWF (addEs s (newChildEdges s v l)) := by
  have hsp := checkChildrenLoop_anc hs hl
  refine ⟨hs.toDWF0.addEs (newChildEdges_nodup hsp.1) ?_,
    hs.acyc.add_out v l (fun _ _ => mem_after_children.1) fun c hc => (hsp.2 c hc).2⟩
  rintro ⟨q, x⟩ he
  obtain ⟨rfl, h1, h2⟩ := mem_newChildEdges.1 he
  exact ⟨h2, hv, (hsp.2 x h1).1⟩

theorem dwf_setParents {s : DStore} (hs : DWF s) {v : Nat} (hv : v < s.n) (a : Arg) (f : Fault) :
    DWF (setParents true s v a f).1 := by
  cases h : (setParents true s v a f).2 with
  | rej => rw [setParents_rej_id hs.toDWF0 h]; exact hs
  | ok =>
    obtain ⟨l, _, hl, _, he⟩ := setParents_ok h
    rw [he]; exact dwf_addParents hs hv hl

theorem dwf_setChildren {s : DStore} (hs : DWF s) {v : Nat} (hv : v < s.n) (a : Arg) (f : Fault) :
    DWF (setChildren true s v a f).1 := by
  cases h : (setChildren true s v a f).2 with
  | rej => rw [setChildren_rej_id hs.toDWF0 h]; exact hs
  | ok =>
    obtain ⟨l, _, hl, _, he⟩ := setChildren_ok h
    rw [he]; exact dwf_addChildren hs hv hl

/-! ### deletions -/

theorem delChildrenLoop_eq_fold (s : DStore) (v : Nat) (l : List Nat) :
    delChildrenLoop s v l = l.foldl (fun s c => s.delE v c) s := by
  induction l generalizing s with
  | nil => rfl
  | cons c l ih => simp only [delChildrenLoop, List.foldl_cons]; exact ih _

theorem dwf_delChildrenLoop {s : DStore} (hs : DWF s) (v : Nat) (l : List Nat) :
    DWF (delChildrenLoop s v l) := by
  induction l generalizing s with
  | nil => exact hs
  | cons c l ih => exact ih (hs.delE v c)

theorem dwf_delItem {s : DStore} (hs : DWF s) (v : Nat) (nm : Str) : DWF (delItem s v nm).1 := by
  unfold delItem
  split
  · exact hs
  · exact hs.delE v _
  · exact hs

/-- `del v.children`, list-exactly: `v` loses all its children, every former child loses `v`
from its parents list, nothing else changes -/
theorem delChildrenLoop_children {s : DStore} (v : Nat) {l : List Nat} (h : s.children v = l) (x : Nat) :
    (delChildrenLoop s v l).children x = if x = v then [] else s.children x := by
  induction l generalizing s with
  | nil => by_cases hx : x = v <;> simp_all [delChildrenLoop]
  | cons c l ih =>
    simp only [delChildrenLoop]
    change (delChildrenLoop (s.delE v c) v l).children x = _
    rw [ih (by rw [delE_children, h]; simp)]
    by_cases hx : x = v
    · simp [hx]
    · simp [hx, delE_children]

theorem delChildrenLoop_parents {s : DStore} (v : Nat) {l : List Nat} (hn : l.Nodup) (x : Nat) :
    (delChildrenLoop s v l).parents x = if x ∈ l then (s.parents x).erase v else s.parents x := by
  induction l generalizing s with
  | nil => simp [delChildrenLoop]
  | cons c l ih =>
    have hn' := List.nodup_cons.1 hn
    simp only [delChildrenLoop]
    change (delChildrenLoop (s.delE v c) v l).parents x = _
    rw [ih hn'.2, delE_parents]
    by_cases hx : x = c
    · subst hx; simp [hn'.1]
    · simp [hx]

/-! ### the constructor -/

/-- allocation of a fresh, unlinked node -/
def alloc (s : DStore) (nm : Str) : DStore :=
  { n := s.n + 1, names := upd s.names s.n nm,
    parents := upd s.parents s.n [], children := upd s.children s.n [] }

theorem alloc_parents {s : DStore} (hs : DWF0 s) (nm : Str) (x : Nat) :
    (alloc s nm).parents x = s.parents x := by
  simp only [alloc, upd_apply]
  split
  · subst x; exact (hs.parents_nil (Nat.le_refl _)).symm
  · rfl

theorem alloc_children {s : DStore} (hs : DWF0 s) (nm : Str) (x : Nat) :
    (alloc s nm).children x = s.children x := by
  simp only [alloc, upd_apply]
  split
  · subst x; exact (hs.children_nil (Nat.le_refl _)).symm
  · rfl

theorem dwf_alloc {s : DStore} (hs : DWF s) (nm : Str) : DWF (alloc s nm) where
  sym p c := by rw [alloc_parents hs.toDWF0, alloc_children hs.toDWF0]; exact hs.sym p c
  ndp v := by rw [alloc_parents hs.toDWF0]; exact hs.ndp v
  ndc v := by rw [alloc_children hs.toDWF0]; exact hs.ndc v
  rng p c h := by
    rw [alloc_parents hs.toDWF0] at h
    have := hs.rng p c h
    simp only [alloc]; omega
  acyc := hs.acyc.mono (fun p c h => by rwa [alloc_parents hs.toDWF0] at h)

theorem construct_eq (asrt : Bool) (s : DStore) (nm : Str) (ps cs : Arg) (fp fc : Fault) :
    construct asrt s nm ps cs fp fc =
      (let r := setParents asrt (alloc s nm) s.n ps fp
       if r.2 = .rej then r else setChildren asrt r.1 s.n cs fc) := rfl

section construct
variable {asrt : Bool} {s : DStore} {nm : Str} {ps cs : Arg} {fp fc : Fault}

theorem construct_of_rej (h : (setParents asrt (alloc s nm) s.n ps fp).2 = .rej) :
    construct asrt s nm ps cs fp fc = setParents asrt (alloc s nm) s.n ps fp :=
  if_pos h

theorem construct_of_ok (h : (setParents asrt (alloc s nm) s.n ps fp).2 = .ok) :
    construct asrt s nm ps cs fp fc =
      setChildren asrt (setParents asrt (alloc s nm) s.n ps fp).1 s.n cs fc :=
  if_neg fun e => Outcome.noConfusion (h.symm.trans e)

end construct

theorem dwf_construct {s : DStore} (hs : DWF s) (nm : Str) (ps cs : Arg) (fp fc : Fault) :
    DWF (construct true s nm ps cs fp fc).1 := by
  have h0 := dwf_alloc hs nm
  have hv : s.n < (alloc s nm).n := Nat.lt_succ_self _
  have h1 := dwf_setParents h0 hv ps fp
  cases h : (setParents true (alloc s nm) s.n ps fp).2 with
  | rej => rw [construct_of_rej h]; exact h1
  | ok =>
    rw [construct_of_ok h]
    refine dwf_setChildren h1 ?_ cs fc
    obtain ⟨l, _, _, _, he⟩ := setParents_ok h
    rw [he, addEs_n]
    exact hv

/-! ## operations and histories -/

/-- An operation on a receiver that is not a node is refused without touching the store;
otherwise it is a call of one of the six entry points with a node as receiver. -/
theorem step_cases {P : Op → DStore × Outcome → Prop} {asrt : Bool} {s : DStore}
    (rej : ∀ op, P op (s, .rej))
    (setP : ∀ v a f, v < s.n → P (.setParents v a f) (setParents asrt s v a f))
    (setC : ∀ v a f, v < s.n → P (.setChildren v a f) (setChildren asrt s v a f))
    (rsh : ∀ v o f, v < s.n → o < s.n → P (.rshift v o f) (setParents asrt s o (.list [v]) f))
    (lsh : ∀ v o f, v < s.n → P (.lshift v o f) (setParents asrt s v (.list [o]) f))
    (delC : ∀ v, v < s.n → P (.delChildren v) (delChildren s v))
    (delI : ∀ v nm, v < s.n → P (.delItem v nm) (delItem s v nm))
    (cons : ∀ nm ps cs fp fc, P (.construct nm ps cs fp fc) (construct asrt s nm ps cs fp fc)) :
    ∀ op, P op (step asrt s op) := by
  have guard {c : Prop} [Decidable c] {op : Op} {r : DStore × Outcome} (h : c → P op r) :
      P op (if c then r else (s, .rej)) := by
    split
    · exact h ‹c›
    · exact rej op
  intro op
  cases op with
  | setParents v a f => exact guard (setP v a f)
  | setChildren v a f => exact guard (setC v a f)
  | rshift v o f => exact guard fun h => rsh v o f h.1 h.2
  | lshift v o f => exact guard (lsh v o f)
  | delChildren v => exact guard (delC v)
  | delItem v nm => exact guard (delI v nm)
  | construct nm ps cs fp fc => exact cons nm ps cs fp fc

/-- **C10 step.** Every operation — both setters, `>>`, `<<`, both deleters, the constructor —
with every argument (valid or not) and every hook fault keeps the store well-formed. -/
theorem dwf_step {s : DStore} (hs : DWF s) (op : Op) : DWF (step true s op).1 :=
  step_cases (P := fun _ r => DWF r.1) (fun _ => hs)
    (fun _ a f hv => dwf_setParents hs hv a f) (fun _ a f hv => dwf_setChildren hs hv a f)
    (fun _ _ f _ ho => dwf_setParents hs ho _ f) (fun _ _ f hv => dwf_setParents hs hv _ f)
    (fun v _ => dwf_delChildrenLoop hs v _) (fun v nm _ => dwf_delItem hs v nm)
    (dwf_construct hs) op

/-- **C10 over histories.** -/
theorem dwf_run {s : DStore} (hs : DWF s) (ops : List Op) : DWF (run true s ops).1 := by
  induction ops generalizing s with
  | nil => exact hs
  | cons op ops ih => exact ih (dwf_step hs op)

theorem dwf_trace {s : DStore} (hs : DWF s) (ops : List Op) :
    ∀ r ∈ trace true s ops, DWF r.1 := by
  induction ops generalizing s with
  | nil => simp [trace]
  | cons op ops ih =>
    intro r hr
    rcases List.mem_cons.1 hr with rfl | hr
    · exact dwf_step hs op
    · exact ih (dwf_step hs op) r hr

/-- C02 at the level of operations: a raising call other than the constructor (which is two
assignments) leaves the whole store unchanged -/
theorem step_rej_id {s : DStore} (hs : DWF0 s) {op : Op} (hop : ∀ nm ps cs fp fc, op ≠ .construct nm ps cs fp fc)
    (h : (step true s op).2 = .rej) : (step true s op).1 = s :=
  step_cases (P := fun op r => (∀ nm ps cs fp fc, op ≠ .construct nm ps cs fp fc) → r.2 = .rej → r.1 = s)
    (fun _ _ _ => rfl)
    (fun _ _ _ _ _ => setParents_rej_id hs) (fun _ _ _ _ _ => setChildren_rej_id hs)
    (fun _ _ _ _ _ _ => setParents_rej_id hs) (fun _ _ _ _ _ => setParents_rej_id hs)
    (fun _ _ _ h => nomatch h)
    (fun v nm _ _ => by
      unfold delItem
      split
      · exact fun _ => rfl
      · exact fun h => nomatch h
      · exact fun _ => rfl)
    (fun nm ps cs fp fc hop => absurd rfl (hop nm ps cs fp fc)) op hop h

/-! ## C20: the `ASSERTIONS` switch only guards -/

theorem setParents_off_same {s : DStore} {v : Nat} {a : Arg} {f : Fault}
    (h : (setParents true s v a f).2 = .ok) : setParents false s v a f = setParents true s v a f := by
  cases hc : checkParents s v a with
  | false => rw [setParents_check_false f hc] at h; cases h
  | true => unfold setParents; rw [hc]; rfl

theorem setChildren_off_same {s : DStore} {v : Nat} {a : Arg} {f : Fault}
    (h : (setChildren true s v a f).2 = .ok) : setChildren false s v a f = setChildren true s v a f := by
  cases hc : checkChildren s v a with
  | false => rw [setChildren_check_false f hc] at h; cases h
  | true => unfold setChildren; rw [hc]; rfl

/-- **C20 step (DAGNode).** An operation accepted with the checks on is accepted with the checks
off and produces the identical store (every list, in order). -/
theorem assertions_off_same {s : DStore} {op : Op} (h : (step true s op).2 = .ok) :
    step false s op = step true s op :=
  step_cases (P := fun op r => r.2 = .ok → step false s op = r) (fun _ h => nomatch h)
    (fun _ _ _ hv h => by rw [step, if_pos hv]; exact setParents_off_same h)
    (fun _ _ _ hv h => by rw [step, if_pos hv]; exact setChildren_off_same h)
    (fun _ _ _ hv ho h => by rw [step, if_pos ⟨hv, ho⟩]; exact setParents_off_same h)
    (fun _ _ _ hv h => by rw [step, if_pos hv]; exact setParents_off_same h)
    (fun _ hv _ => by rw [step, if_pos hv]) (fun _ _ hv _ => by rw [step, if_pos hv])
    (fun nm ps cs fp fc h => by
      cases h1 : (setParents true (alloc s nm) s.n ps fp).2 with
      | rej => rw [construct_of_rej h1, h1] at h; cases h
      | ok =>
        rw [construct_of_ok h1] at h ⊢
        rw [step, construct_of_ok (by rw [setParents_off_same h1, h1]), setParents_off_same h1]
        exact setChildren_off_same h) op h

theorem off_only_removes_rejections {s : DStore} {op : Op} (h : (step false s op).2 = .rej) :
    (step true s op).2 = .rej := by
  cases h1 : (step true s op).2 with
  | rej => rfl
  | ok => rw [assertions_off_same h1, h1] at h; cases h

/-- **C20 over histories (DAGNode).** A history every operation of which is accepted with the
checks on runs identically with the checks off: same outcomes, same final store. -/
theorem run_assertions_off_same {s : DStore} {ops : List Op}
    (h : ∀ o ∈ (run true s ops).2, o = .ok) : run false s ops = run true s ops := by
  induction ops generalizing s with
  | nil => rfl
  | cons op ops ih =>
    simp only [run, List.mem_cons, forall_eq_or_imp] at h ⊢
    rw [assertions_off_same h.1, ih h.2]

end DagStore
