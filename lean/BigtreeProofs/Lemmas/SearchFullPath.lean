import BigtreeModel.Search
import BigtreeProofs.Lemmas.SearchStrMulti
/-! C09 for a one-character separator `s` that occurs in no name: the instances at `[s]` of `SearchStrMulti`. -/

namespace Search
open Query

theorem findFullPath_iff {R : Tree} (s : Char) (a : Addr) (q : Str)
    (hsep : ∀ (x : Addr) (t : Tree), sub R x = some t → s ∉ t.name) (hu : SibUnique R) (v : Addr) :
    findFullPath R [s] a q = .ok (some v) ↔
      (sub R v).isSome ∧ join [s] (pathNames R v) = lstrip [s] (rstrip [s] q) :=
  findFullPath_iff_multi [s] (List.cons_ne_nil s []) a q
    (fun x t h => (Store.free_singleton s t.name).2 (hsep x t h)) hu v

theorem findFullPath_pathName {R : Tree} (s : Char) (a v : Addr)
    (hsep : ∀ (x : Addr) (t : Tree), sub R x = some t → s ∉ t.name)
    (hne : ∀ (x : Addr) (t : Tree), sub R x = some t → t.name ≠ [])
    (hu : SibUnique R) (hv : (sub R v).isSome) :
    findFullPath R [s] a (pathName R [s] v) = .ok (some v) :=
  List.append_nil (pathName R [s] v) ▸
    findFullPath_pathName_multi [s] (List.cons_ne_nil s []) a v [] [] (fun _ h => nomatch h) (fun _ h => nomatch h)
      (fun x t h => (Store.free_singleton s t.name).2 (hsep x t h)) hne hu hv

end Search
