import BigtreeModel.StorePath
import BigtreeProofs.Lemmas.Strings
/-!
# The string functions of the pointer-store model are those of `Strings`

`Store.join` / `split` / `lstrip` / `rstrip` (`BigtreeModel/StorePath.lean`: `Node.path_name`,
`find_full_path`) and, with that, the laws of `Strings` in terms of them.  `Store.lstrip` / `rstrip` are
the `Strings` ones as they stand.
-/

namespace Store

theorem join_eq_intercalate (sp : Str) (l : List Str) : join sp l = sp.intercalate l :=
  Strings.join_unique rfl (fun _ => rfl) (fun _ _ _ => rfl) l

theorem splitAux_eq_strings (sp s : Str) (k : Nat) (acc : Str) :
    splitAux sp k s acc = Strings.splitAux sp k s acc := by
  fun_induction Strings.splitAux sp k s acc with
  | case1 k acc => cases k <;> rfl
  | case2 _ _ _ _ ih => exact ih
  | case3 c cs acc h ih => rw [splitAux, if_pos h, ih]
  | case4 c cs acc h ih => rw [splitAux, if_neg h, ih]

theorem split_eq_strings (sp s : Str) : split sp s = Strings.split sp s := splitAux_eq_strings sp s 0 []

/-- `sep.join(xs).split(sep) == xs` for every non-empty separator sharing no character with a piece -/
theorem split_join_multi (sp : Str) (hsp : sp ≠ []) : ∀ (xs : List Str), xs ≠ [] →
    (∀ x ∈ xs, Free sp x) → split sp (join sp xs) = xs := by
  intro xs hne hx
  rw [split_eq_strings, join_eq_intercalate]
  exact Strings.split_join sp hsp xs hne hx

/-- `sep.join(xs).split(sep) == xs` for a single-character separator occurring in no piece -/
theorem split_join (d : Char) : ∀ (xs : List Str), xs ≠ [] → (∀ x ∈ xs, d ∉ x) →
    split [d] (join [d] xs) = xs :=
  fun xs hne hd =>
    split_join_multi [d] (List.cons_ne_nil d []) xs hne fun x hx => (free_singleton d x).2 (hd x hx)

theorem join_injective_multi (sp : Str) (hsp : sp ≠ []) (xs ys : List Str) (hx : xs ≠ []) (hy : ys ≠ [])
    (hxd : ∀ x ∈ xs, Free sp x) (hyd : ∀ y ∈ ys, Free sp y) (h : join sp xs = join sp ys) : xs = ys := by
  rw [join_eq_intercalate, join_eq_intercalate] at h
  exact Strings.join_injective sp hsp xs ys hx hy hxd hyd h

theorem lstrip_stop_multi (sp : Str) (c : Char) (t : Str) (hc : c ∉ sp) : lstrip sp (c :: t) = c :: t :=
  Strings.lstrip_stop sp c t hc

theorem strip_path_multi (sp : Str) (names : List Str) (hne : names ≠ [])
    (hn : ∀ x ∈ names, x ≠ [] ∧ Free sp x) (lead trail : Str)
    (hl : ∀ x ∈ lead, x ∈ sp) (ht : ∀ x ∈ trail, x ∈ sp) :
    lstrip sp (rstrip sp (lead ++ join sp names ++ trail)) = join sp names := by
  rw [join_eq_intercalate]
  exact (Strings.strip_join_pad sp names hne hn lead trail hl ht).1

end Store
