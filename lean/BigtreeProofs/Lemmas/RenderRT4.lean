import BigtreeModel.RenderStyles
import BigtreeProofs.Lemmas.RenderRT2
import BigtreeProofs.Lemmas.StringsBridge
/-! Helper lemmas for C18.print_roundtrip: the text level (`"\n".join`, `.strip("\n")`, `.split("\n")`), and
`str_to_tree` without a prefix list (`node_str.encode("ascii", "ignore").decode("ascii").lstrip()`) for styles whose
glyphs are non-ASCII or blank. -/
namespace Render

/-- `"\n".join(lines).strip("\n").split("\n")` gives back lines that are non-empty and without a newline -/
theorem strToTree_joinNl (pre : List Str) (ls : List Str) (hne : ls ≠ []) (h : ∀ l ∈ ls, l ≠ [] ∧ '\n' ∉ l) :
    strToTree pre (joinNl ls) = strToTreeLines pre ls := by
  have hf : ∀ l ∈ ls, l ≠ [] ∧ Store.Free ['\n'] l :=
    fun l hl => ⟨(h l hl).1, (Store.free_singleton '\n' l).2 (h l hl).2⟩
  have hstrip : rstripChars ['\n'] (lstripChars ['\n'] (joinNl ls)) = joinNl ls := by
    have := (Strings.strip_join_pad ['\n'] ls hne hf [] [] (fun _ h => nomatch h) fun _ h => nomatch h).2
    rwa [List.append_nil, ← joinNl_eq_intercalate] at this
  obtain ⟨c, t, _, hc⟩ := (Strings.join_shape ['\n'] ls hne hf).1
  simp only [strToTree, hstrip]
  rw [splitNl_eq_strings, joinNl_eq_intercalate, Strings.split_join ['\n'] (List.cons_ne_nil _ _) ls hne fun l hl => (hf l hl).2,
    hc]
  rfl

mutual
theorem specT_chars (st : Style) (anc : List Bool) (hr : Bool) (t : Tree) :
    ∀ l ∈ specT st anc hr t, ∀ c ∈ l.pre ++ l.fill, c ∈ st.stem ++ st.branch ++ st.stemFinal ++ [' '] := by
  match t with
  | .node i n a cs =>
    intro l hl
    rw [specT, List.mem_cons] at hl
    rcases hl with rfl | hl
    · exact line_chars st anc hr
    · exact specL_chars st _ cs l hl
theorem specL_chars (st : Style) (anc : List Bool) (cs : List Tree) :
    ∀ l ∈ specL st anc cs, ∀ c ∈ l.pre ++ l.fill, c ∈ st.stem ++ st.branch ++ st.stemFinal ++ [' '] := by
  match cs with
  | [] => intro l hl; cases hl
  | c :: cs =>
    intro l hl
    rw [specL, List.mem_append] at hl
    exact hl.elim (specT_chars st anc _ c l) (specL_chars st anc cs l)
end

/-- the lines that `print_tree` joins are non-empty and contain no line break -/
theorem yieldTree_lines_ok (st : Style) (md : Nat) (t : Tree) (hnl : '\n' ∉ st.stem ++ st.branch ++ st.stemFinal)
    (hnames : ∀ n ∈ namesT t, nameOk st n = true ∧ '\n' ∉ n) :
    (yieldTree st md t).map Line.text ≠ [] ∧ ∀ s ∈ (yieldTree st md t).map Line.text, s ≠ [] ∧ '\n' ∉ s := by
  rw [yieldTree_eq_spec]
  have hpre : ∀ l ∈ specRoot st (prune md t), '\n' ∉ l.pre ++ l.fill := by
    intro l hl hc
    have : '\n' ∈ st.stem ++ st.branch ++ st.stemFinal ++ [' '] := by
      match prune md t, hl with
      | .node i n a cs, hl =>
        rw [specRoot, List.mem_cons] at hl
        rcases hl with rfl | hl
        · cases hc
        · exact specL_chars st [] cs l hl _ hc
    rw [List.mem_append, List.mem_singleton] at this
    exact this.elim hnl (by decide)
  constructor
  · cases prune md t
    exact List.cons_ne_nil _ _
  · intro s hs
    obtain ⟨l, hl, rfl⟩ := List.mem_map.mp hs
    have hn := hnames l.name (prune_namesT md t _ (specRoot_names st _ ▸ List.mem_map_of_mem hl))
    obtain ⟨c, tl, hc, _⟩ := nameOk_parts hn.1
    refine ⟨fun e => ?_, fun h => (List.mem_append.mp h).elim (hpre l hl) hn.2⟩
    rw [Line.text, hc] at e
    exact List.cons_ne_nil _ _ (List.append_eq_nil_iff.mp e).2

/-! ### without a prefix list -/

theorem lstrip_blanks {a : Str} (c : Char) (tl : Str) (ha : ∀ x ∈ a, x = ' ') (hc : pySpace c = false) :
    lstrip (a ++ c :: tl) = c :: tl := by
  unfold lstrip
  rw [List.dropWhile_append_of_pos fun x hx => ha x hx ▸ (by decide : pySpace ' ' = true),
    List.dropWhile_cons_of_neg (by rw [hc]; exact Bool.false_ne_true)]

/-- without a prefix list the name is read off as well: dropping the non-ASCII characters leaves blanks before it -/
theorem nodeName_noPrefix {st : Style} (hab : asciiBlind st = true) (anc : List Bool) (hr : Bool) {n : Str}
    (hn : nameOk st n = true) (ha : asciiName n = true) :
    nodeName [] ((anc.map st.glyph).flatten ++ st.fill hr ++ n) = n := by
  obtain ⟨c, tl, rfl, hsp, _⟩ := nameOk_parts hn
  unfold nodeName
  rw [if_pos (by rfl), List.filter_append, List.filter_eq_self.mpr (List.all_eq_true.mp ha)]
  refine lstrip_blanks c tl (fun x hx => ?_) hsp
  rw [List.mem_filter, decide_eq_true_eq] at hx
  have hg := line_chars st anc hr x hx.1
  rw [List.mem_append, List.mem_singleton] at hg
  refine hg.elim (fun hg => ?_) id
  have := List.all_eq_true.mp hab x hg
  rw [Bool.or_eq_true, decide_eq_true_eq, beq_iff_eq] at this
  exact this.elim (fun h => absurd hx.2 (Nat.not_lt.mpr h)) id
end Render
