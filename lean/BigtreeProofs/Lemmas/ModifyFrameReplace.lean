import Batteries.Data.List.Perm
import BigtreeProofs.Lemmas.ModifyFrame
/-!
# C08 helper lemmas: what one `replace_logic` pair leaves alone, for every flag combination

`replace_logic` re-appends the later siblings of the replaced node one by one, so intermediate trees are
permutations of each other rather than sublists; the frame is therefore stated with `List.Subperm`
(sub-multiset): the entries (path, identity, attributes) of the old destination tree that are neither
below the from-node (same-tree shift) nor below the replaced node all occur in the result, with at
least their multiplicity.  No hypothesis on the tree or the strings.
-/
namespace Modify
open List

/-! ### re-appending a child permutes the entries -/

theorem flatL_perm_of_perm {l r : List Tree} (h : l.Perm r) : (flatL l).Perm (flatL r) := by
  induction h with
  | nil => exact Perm.refl _
  | cons x _ ih => rw [flatL_cons, flatL_cons]; exact Perm.append_left _ ih
  | swap x y l =>
    simp only [flatL_cons]
    rw [← List.append_assoc, ← List.append_assoc]
    exact Perm.append_right _ perm_append_comm
  | trans _ _ ih1 ih2 => exact ih1.trans ih2

theorem eraseChild_perm {n : Str} {cs : List Tree} {x : Tree} (h : findChild n cs = some x) :
    (eraseChild n cs ++ [x]).Perm cs := by
  obtain ⟨l, r, rfl, hl, hx⟩ := findChild_split h
  rw [eraseChild_split hl hx, List.append_assoc]
  exact Perm.append_left _ (perm_append_singleton x r)

theorem modifyAt_perm (g : Tree → Tree) (hg : ∀ x, (g x).name = x.name ∧ (flat (g x)).Perm (flat x))
    (p : List Str) (t : Tree) :
    (modifyAt p g t).name = t.name ∧ (flat (modifyAt p g t)).Perm (flat t) := by
  refine ⟨modifyAt_name p g (fun x => (hg x).1) t, ?_⟩
  cases hX : getRel p t with
  | none => rw [modifyAt_none hX]
  | some X =>
    obtain ⟨A, B, h1, h2, -⟩ := flat_zip hX
    rw [h1, h2 g (hg X).1]
    exact (Perm.append_left A ((hg X).2.map _)).append_right B

theorem reappend_perm (pp : List Str) (nm : Str) (t : Tree) :
    (reappend pp nm t).name = t.name ∧ (flat (reappend pp nm t)).Perm (flat t) := by
  refine modifyAt_perm _ (fun P => ?_) pp t
  split
  · exact ⟨rfl, Perm.refl _⟩
  · next c hc =>
    cases P
    exact ⟨rfl, by simp only [setKids, flat_node]; exact Perm.cons _ (flatL_perm_of_perm (eraseChild_perm hc))⟩

theorem reappendAll_perm (pp : List Str) : ∀ (ns : List Str) (t : Tree),
    (reappendAll pp ns t).name = t.name ∧ (flat (reappendAll pp ns t)).Perm (flat t)
  | [], _ => ⟨rfl, Perm.refl _⟩
  | n :: ns, t =>
    ⟨(reappendAll_perm pp ns _).1.trans (reappend_perm pp n t).1,
      (reappendAll_perm pp ns _).2.trans (reappend_perm pp n t).2⟩

/-- detach `to_node`, detach and attach `from_node` (these are framed), then re-append the later siblings -/
theorem replaceAt_framed {tch : Entry → Bool} {S : Nat × Attrs → Prop} {live0 : Bool} {fp dp pp : List Str}
    {Fm t0 t : Tree} (h : replaceAt live0 fp dp pp Fm t0 = .ok t)
    (hdp : ∀ e, under dp e = true → tch e = true)
    (hfp : live0 = true → ∀ e, under fp e = true → tch e = true) (hS : ∀ x ∈ objs Fm, S x) :
    ∃ u, Framed tch S t0 u ∧ t.name = u.name ∧ (flat t).Perm (flat u) := by
  unfold replaceAt at h
  extract_lets later t1 live at h
  refine ok_of_ite of_error_eq_ok (fun h => ?_) h
  generalize h2 : attachOne pp Fm _ = r at h
  cases r with
  | error e => cases h
  | ok t2 =>
    cases h
    refine ⟨t2, (Framed.removeAt hdp).trans ((Framed.removeIf fun hl => hfp ?_).trans
      (attachOne_framed h2 hS)), reappendAll_perm pp later t2⟩
    cases live0
    · exact absurd hl Bool.false_ne_true
    · rfl

/-- **One replace pair, every flag combination**: the result is, up to the order of siblings, a tree framed
as in `step_framed`. -/
theorem stepReplace_framed {cfg : Cfg} {st st' : St} {pr : Str × Option Str} {fp : List Str} {F : Tree}
    (hres : resolveFrom cfg st pr.1 = .ok (some (fp, F))) (h : stepReplace cfg st pr = .ok st') :
    st.next ≤ st'.next ∧ st'.src = st.src ∧
    ∃ u, Framed (touched (if st.src.isNone && !cfg.copy then some fp else none) (replHandle cfg st pr.2))
        (fun x => (cfg.copy = false ∧ x ∈ objs F) ∨ (st.next ≤ x.1 ∧ x.1 < st'.next)) st.dst u ∧
      st'.dst.name = u.name ∧ (flat st'.dst).Perm (flat u) := by
  obtain ⟨f, tpo⟩ := pr
  unfold stepReplace at h
  cases tpo with
  | none => simp only [hres] at h; cases h
  | some tp =>
    cases hf : findFullPath cfg.tsep st.dst tp with
    | error e => simp only [hres, hf] at h; cases h
    | ok o =>
      rcases o with _ | ⟨dp, X⟩
      · simp only [hres, hf] at h; cases h
      · cases hpp : parentOf dp with
        | none => simp only [hres, hf, hpp] at h; exact ok_of_ite of_error_eq_ok of_error_eq_ok h
        | some pp =>
          simp only [hres, hf, hpp] at h
          refine ok_of_ite of_error_eq_ok (fun h => ?_) h
          generalize hr : replaceAt _ _ _ _ _ _ = r at h
          cases r with
          | error e => cases h
          | ok t =>
            cases h
            rw [show replHandle cfg st (some tp) = some dp by simp only [replHandle, hf]]
            obtain ⟨hk, hFc⟩ := copy_objs cfg.copy st.next F
            have hfp : (st.src.isNone && !cfg.copy) = true → ∀ e, under fp e = true →
                touched (if st.src.isNone && !cfg.copy then some fp else none) (some dp) e = true :=
              fun hl e he => by rw [if_pos hl]; simp only [touched, he, Bool.true_or]
            obtain ⟨u, hu, hnp⟩ := replaceAt_framed hr
              (fun e he => by simp only [touched, he, Bool.or_true]) hfp fun x hx => hFc x (by
                split at hx
                · exact objs_setKids_nil _ x hx
                · exact hx)
            -- `del from_node.children` (same-tree shift) touches only entries below `fp`
            exact ⟨hk, rfl, u, (Framed.delKidsIf fun hb => hfp (Bool.and_eq_true _ _ ▸ hb).1).trans hu, hnp⟩

/-- **Frame of one replace pair, every flag combination.** -/
theorem stepReplace_sub {cfg : Cfg} {st st' : St} {pr : Str × Option Str} {fp : List Str} {F : Tree}
    (hres : resolveFrom cfg st pr.1 = .ok (some (fp, F))) (h : stepReplace cfg st pr = .ok st') :
    ((flat st.dst).filter (fun e =>
      !touched (if st.src.isNone && !cfg.copy then some fp else none) (replHandle cfg st pr.2) e)) <+~
      flat st'.dst := by
  obtain ⟨-, -, u, hu, -, hp⟩ := stepReplace_framed hres h
  exact hu.sub.subperm.trans hp.symm.subperm

/-- one replace pair: every node of the result is an old object of the destination tree, or (shift) of the
tree the from-node was looked up in, or a fresh copy -/
theorem stepReplace_objs {cfg : Cfg} {st st' : St} {pr : Str × Option Str} {fp : List Str} {F : Tree}
    (hres : resolveFrom cfg st pr.1 = .ok (some (fp, F))) (h : stepReplace cfg st pr = .ok st') :
    st.next ≤ st'.next ∧
    ∀ x ∈ objs st'.dst, Known (objs st.dst ++ (if cfg.copy then [] else objs F)) st.next st'.next x := by
  obtain ⟨hn, -, u, hu, -, hp⟩ := stepReplace_framed hres h
  refine ⟨hn, fun x hx => ?_⟩
  rcases hu.objs x ((hp.map (·.2)).subset hx) with h | ⟨hc, h⟩ | h
  · exact .inl (List.mem_append_left _ h)
  · exact .inl (List.mem_append_right _ (by rw [hc]; exact h))
  · exact .inr h

theorem stepReplace_name {cfg st pr st'} (h : stepReplace cfg st pr = .ok st') :
    st'.dst.name = st.dst.name ∧ st'.src = st.src := by
  cases hres : resolveFrom cfg st pr.1 with
  | error e => simp only [stepReplace, hres] at h; cases h
  | ok o =>
    rcases o with _ | ⟨fp, F⟩
    · simp only [stepReplace, hres] at h
      split at h
      · cases h; exact ⟨rfl, rfl⟩
      · cases h
    · obtain ⟨-, hs, u, hu, hn, -⟩ := stepReplace_framed hres h
      exact ⟨hn.trans hu.name, hs⟩

theorem stepReplace_tree_name {cfg st pr st'} (h : stepReplace cfg st pr = .ok st') :
    st'.tree.name = st.tree.name :=
  tree_name_of (stepReplace_name h)

theorem loopReplace_src {cfg st ps st'} (h : loopReplace cfg st ps = .ok st') : st'.src = st.src := by
  induction ps generalizing st with
  | nil => cases h; rfl
  | cons p ps ih =>
    simp only [loopReplace] at h
    cases hs : stepReplace cfg st p with
    | error e => rw [hs] at h; cases h
    | ok st1 => rw [hs] at h; rw [ih h, (stepReplace_name hs).2]

theorem loop_of_replaceNodes {cfg : Cfg} {st st' : St} {ps : List (Str × Option Str)}
    (h : replaceNodes cfg st ps = .ok st') : loopReplace cfg st (ps.map (norm cfg)) = .ok st' := by
  unfold replaceNodes at h
  split at h
  · exact h
  · cases h

end Modify
