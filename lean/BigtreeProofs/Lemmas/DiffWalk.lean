import BigtreeProofs.Lemmas.DiffDefs
/-!
# C15: the pre-order walk in compositional form (`rows`, `keys`), `AllSub`, paths of a tree
-/
namespace Helper

theorem nodup_map_on {α β} (f : α → β) (l : List α)
    (hinj : ∀ x ∈ l, ∀ y ∈ l, f x = f y → x = y) (hn : l.Nodup) : (l.map f).Nodup :=
  List.pairwise_map.mpr (hn.imp_of_mem fun hx hy hne e => hne (hinj _ hx _ hy e))

/-! ## walk ↦ rows -/

mutual
theorem walk_map_rows : ∀ (t : Tree) (a : Addr) (anc : List Str),
    (walk a anc t).map (fun v => (v.names, v.sub.attrs)) = (rows t).map fun r => (anc ++ r.1, r.2)
  | .node i n av cs, a, anc => by
    simp only [walk, rows, List.map_cons, List.map_map, Tree.attrs_node,
      walkL_map_rows cs a (anc ++ [n]) 0, Function.comp_def, List.append_assoc, List.singleton_append]
theorem walkL_map_rows : ∀ (cs : List Tree) (a : Addr) (anc : List Str) (k : Nat),
    (walkL a anc k cs).map (fun v => (v.names, v.sub.attrs)) = (rowsL cs).map fun r => (anc ++ r.1, r.2)
  | [], _, _, _ => rfl
  | c :: cs, a, anc, k => by
    simp only [walkL, rowsL, List.map_append, walk_map_rows c (a ++ [k]) anc,
      walkL_map_rows cs a anc (k + 1)]
end

theorem compRows_eq (t : Tree) : compRows t = rows t := by
  simp only [compRows, walk_map_rows, List.nil_append, List.map_id']

theorem compPaths_eq (t : Tree) : compPaths t = keys t := by
  simp only [keys, ← compRows_eq, compRows, compPaths, List.map_map, Function.comp_def]

mutual
theorem walk_name_last : ∀ (t : Tree) (a : Addr) (anc : List Str), ∀ v ∈ walk a anc t,
    v.names.getLastD [] = v.sub.name
  | .node i n av cs, a, anc, v, h => by
    rcases List.mem_cons.mp h with rfl | h
    · exact List.getLastD_concat
    · exact walkL_name_last cs a (anc ++ [n]) 0 v h
theorem walkL_name_last : ∀ (cs : List Tree) (a : Addr) (anc : List Str) (k : Nat),
    ∀ v ∈ walkL a anc k cs, v.names.getLastD [] = v.sub.name
  | [], _, _, _, _, h => nomatch h
  | c :: cs, a, anc, k, v, h => by
    rcases List.mem_append.mp h with h | h
    · exact walk_name_last c (a ++ [k]) anc v h
    · exact walkL_name_last cs a anc (k + 1) v h
end

/-! ## `∀ v ∈ walk …, P v.sub` is `AllSub P` -/

theorem AllSub.node_iff (P : Tree → Prop) (i : Nat) (n : Str) (av : Attrs) (cs : List Tree) :
    AllSub P (.node i n av cs) ↔ P (.node i n av cs) ∧ ∀ c ∈ cs, AllSub P c :=
  ⟨fun | .mk _ _ _ _ h1 h2 => ⟨h1, h2⟩, fun h => .mk i n av cs h.1 h.2⟩

mutual
theorem walk_all_iff (P : Tree → Prop) : ∀ (t : Tree) (a : Addr) (anc : List Str),
    (∀ v ∈ walk a anc t, P v.sub) ↔ AllSub P t
  | .node i n av cs, a, anc => by
    simp only [walk, List.forall_mem_cons, AllSub.node_iff, walkL_all_iff P cs a (anc ++ [n]) 0]
theorem walkL_all_iff (P : Tree → Prop) : ∀ (cs : List Tree) (a : Addr) (anc : List Str) (k : Nat),
    (∀ v ∈ walkL a anc k cs, P v.sub) ↔ ∀ c ∈ cs, AllSub P c
  | [], _, _, _ => by simp only [walkL, List.not_mem_nil, false_imp_iff, implies_true]
  | c :: cs, a, anc, k => by
    simp only [walkL, List.forall_mem_append, List.forall_mem_cons, walk_all_iff P c (a ++ [k]) anc,
      walkL_all_iff P cs a anc (k + 1)]
end

theorem AllSub.root {P : Tree → Prop} {t : Tree} (h : AllSub P t) : P t := by
  cases h with | mk _ _ _ _ h1 _ => exact h1

theorem AllSub.imp {P Q : Tree → Prop} (hPQ : ∀ s, P s → Q s) : ∀ t, AllSub P t → AllSub Q t := by
  intro t
  induction t using Tree.ind with
  | h i n av cs ih =>
    intro h
    rw [AllSub.node_iff] at h ⊢
    exact ⟨hPQ _ h.1, fun c hc => ih c hc (h.2 c hc)⟩

theorem AllSub.and {P Q : Tree → Prop} : ∀ t, AllSub P t → AllSub Q t → AllSub (fun s => P s ∧ Q s) t := by
  intro t
  induction t using Tree.ind with
  | h i n av cs ih =>
    intro h1 h2
    rw [AllSub.node_iff] at h1 h2 ⊢
    exact ⟨⟨h1.1, h2.1⟩, fun c hc => ih c hc (h1.2 c hc) (h2.2 c hc)⟩

theorem SibU.node_iff (i : Nat) (n : Str) (av : Attrs) (cs : List Tree) :
    SibU (.node i n av cs) ↔ (cs.map Tree.name).Nodup ∧ ∀ c ∈ cs, SibU c :=
  AllSub.node_iff _ i n av cs

/-! ## rows / keys -/

theorem rowsL_eq_flatMap (cs : List Tree) : rowsL cs = cs.flatMap rows := by
  induction cs with
  | nil => rfl
  | cons c cs ih => rw [rowsL, ih, List.flatMap_cons]

theorem keysL_eq_flatMap (cs : List Tree) : keysL cs = cs.flatMap keys := by
  rw [keysL, rowsL_eq_flatMap, List.map_flatMap]; rfl

theorem keys_node (i : Nat) (n : Str) (av : Attrs) (cs : List Tree) :
    keys (.node i n av cs) = [n] :: (cs.flatMap keys).map (n :: ·) := by
  simp only [keys, rows, rowsL_eq_flatMap, List.map_cons, List.map_map, List.map_flatMap,
    Function.comp_def]

theorem nil_not_mem_keys (t : Tree) : [] ∉ keys t := by
  cases t
  rw [keys_node]
  intro h
  rcases List.mem_cons.mp h with h | h
  · nomatch h
  · obtain ⟨_, _, h⟩ := List.mem_map.mp h
    nomatch h

theorem cons_mem_keys (i : Nat) (n : Str) (av : Attrs) (cs : List Tree) (x : Str) (r : List Str) :
    x :: r ∈ keys (.node i n av cs) ↔ x = n ∧ (r = [] ∨ ∃ c ∈ cs, r ∈ keys c) := by
  simp only [keys_node, List.mem_cons, List.cons.injEq, List.mem_map, List.mem_flatMap]
  constructor
  · rintro (h | ⟨r', ⟨c, hc, hr⟩, rfl, rfl⟩)
    · exact ⟨h.1, .inl h.2⟩
    · exact ⟨rfl, .inr ⟨c, hc, hr⟩⟩
  · rintro ⟨rfl, rfl | ⟨c, hc, hr⟩⟩
    · exact .inl ⟨rfl, rfl⟩
    · exact .inr ⟨r, ⟨c, hc, hr⟩, rfl, rfl⟩

theorem mem_rows_node (i : Nat) (n : Str) (av : Attrs) (cs : List Tree) (q : List Str) (a : Attrs) :
    (q, a) ∈ rows (.node i n av cs) ↔ (q = [n] ∧ a = av) ∨ ∃ r, q = n :: r ∧ ∃ c ∈ cs, (r, a) ∈ rows c := by
  simp only [rows, rowsL_eq_flatMap, List.mem_cons, List.mem_map, List.mem_flatMap, Prod.mk.injEq]
  constructor
  · rintro (h | ⟨r, hr, rfl, rfl⟩)
    · exact .inl h
    · exact .inr ⟨r.1, rfl, hr⟩
  · rintro (h | ⟨r, rfl, hr⟩)
    · exact .inl h
    · exact .inr ⟨(r, a), hr, rfl, rfl⟩

theorem root_mem_keys (t : Tree) : [t.name] ∈ keys t := by
  cases t; exact (cons_mem_keys ..).mpr ⟨rfl, .inl rfl⟩

theorem keys_ne_nil (t : Tree) : keys t ≠ [] :=
  List.ne_nil_of_mem (root_mem_keys t)

theorem keys_head (t : Tree) (q : List Str) (h : q ∈ keys t) : ∃ r, q = t.name :: r := by
  cases t; cases q with
  | nil => exact absurd h (nil_not_mem_keys _)
  | cons x r => exact ⟨r, by rw [((cons_mem_keys ..).mp h).1]; rfl⟩

theorem keys_prefix_closed : ∀ (t : Tree) (q q' : List Str), q ∈ keys t → q' <+: q → q' ≠ [] → q' ∈ keys t := by
  intro t
  induction t using Tree.ind with
  | h i n av cs ih =>
    intro q q' hq hpre hne
    cases q' with
    | nil => exact absurd rfl hne
    | cons x' r' =>
      cases q with
      | nil => exact absurd hq (nil_not_mem_keys _)
      | cons x r =>
        rw [List.cons_prefix_cons] at hpre
        rw [cons_mem_keys] at hq ⊢
        refine ⟨hpre.1.trans hq.1, ?_⟩
        by_cases hr' : r' = []
        · exact .inl hr'
        · rcases hq.2 with rfl | ⟨c, hc, hrc⟩
          · exact absurd (List.prefix_nil.mp hpre.2) hr'
          · exact .inr ⟨c, hc, ih c hc r r' hrc hpre.2 hr'⟩

theorem keys_names (P : Str → Prop) : ∀ (t : Tree), AllSub (fun s => P s.name) t →
    ∀ q ∈ keys t, ∀ n ∈ q, P n := by
  intro t
  induction t using Tree.ind with
  | h i n av cs ih =>
    intro h q hq x hx
    rw [AllSub.node_iff] at h
    cases q with
    | nil => nomatch hx
    | cons y r =>
      obtain ⟨rfl, hr⟩ := (cons_mem_keys ..).mp hq
      rcases List.mem_cons.mp hx with rfl | hx
      · exact h.1
      · rcases hr with rfl | ⟨c, hc, hrc⟩
        · nomatch hx
        · exact ih c hc (h.2 c hc) r hrc x hx

theorem rows_attrs (P : Attrs → Prop) : ∀ (t : Tree), AllSub (fun s => P s.attrs) t →
    ∀ r ∈ rows t, P r.2 := by
  intro t
  induction t using Tree.ind with
  | h i n av cs ih =>
    intro h r hr
    rw [AllSub.node_iff] at h
    rcases (mem_rows_node i n av cs r.1 r.2).mp hr with ⟨_, e⟩ | ⟨r', _, c, hc, hrc⟩
    · exact e ▸ h.1
    · exact ih c hc (h.2 c hc) (r', r.2) hrc

/-- paths of different children start with different names -/
theorem keys_nodup : ∀ (t : Tree), SibU t → (keys t).Nodup := by
  intro t
  induction t using Tree.ind with
  | h i n av cs ih =>
    intro h
    rw [SibU.node_iff] at h
    rw [keys_node, List.nodup_cons]
    refine ⟨?_, nodup_map_on _ _ (fun _ _ _ _ e => List.tail_eq_of_cons_eq e)
      (List.pairwise_flatMap.mpr ⟨fun c hc => ih c hc (h.2 c hc), ?_⟩)⟩
    · simp only [List.mem_map, List.mem_flatMap, List.cons.injEq, not_exists, not_and]
      rintro r ⟨c, _, hr⟩ - rfl
      exact nil_not_mem_keys c hr
    · refine (List.pairwise_map.mp h.1).imp fun hne x hx y hy e => ?_
      obtain ⟨r, rfl⟩ := keys_head _ x hx
      obtain ⟨r', rfl⟩ := keys_head _ y hy
      exact hne (List.head_eq_of_cons_eq e)

/-! ## lookup -/

theorem lookup_eq_some_iff_mem {α β} [BEq α] [LawfulBEq α] (l : List (α × β)) (k : α) (b : β)
    (hn : (l.map (·.1)).Nodup) : l.lookup k = some b ↔ (k, b) ∈ l := by
  induction l with
  | nil => simp
  | cons x l ih =>
    obtain ⟨k', b'⟩ := x
    rw [List.map_cons, List.nodup_cons] at hn
    rw [List.lookup_cons, List.mem_cons, Prod.mk.injEq]
    by_cases hk : k = k'
    · subst hk
      have : (k, b) ∉ l := fun h => hn.1 (List.mem_map_of_mem (f := (·.1)) h)
      simp only [beq_self_eq_true, Option.some.injEq, true_and, this, or_false]
      exact eq_comm
    · simp only [beq_eq_false_iff_ne.mpr hk, hk, false_and, false_or]
      exact ih hn.2

theorem attrsAt_eq (t : Tree) (p : List Str) : attrsAt t p = (rows t).lookup p := by
  rw [attrsAt, compRows_eq]

theorem attrsAt_eq_none_iff (t : Tree) (p : List Str) : attrsAt t p = none ↔ p ∉ compPaths t := by
  simp only [attrsAt_eq, compPaths_eq, keys, List.lookup_eq_none_iff, List.mem_map, bne_iff_ne, ne_eq,
    not_exists, not_and]
  exact ⟨fun h r hr e => h r hr e.symm, fun h r hr e => h r hr e.symm⟩

theorem attrsAt_isSome_iff (t : Tree) (p : List Str) : (∃ a, attrsAt t p = some a) ↔ p ∈ compPaths t := by
  rw [← Option.ne_none_iff_exists', Ne, attrsAt_eq_none_iff, Classical.not_not]

theorem attrsAt_some_iff (t : Tree) (hs : SibU t) (p : List Str) (a : Attrs) :
    attrsAt t p = some a ↔ (p, a) ∈ rows t := by
  rw [attrsAt_eq]
  exact lookup_eq_some_iff_mem _ _ _ (keys_nodup t hs)

/-! ## NamesOK in structural form -/

theorem NamesOK.sibU {c : Char} {t : Tree} (h : NamesOK c t) : SibU t :=
  (walk_all_iff _ t [] []).mp h.sibUnique

theorem NamesOK.keys_good {c : Char} {t : Tree} (h : NamesOK c t) :
    ∀ q ∈ keys t, ∀ n ∈ q, n ≠ [] ∧ c ∉ n ∧ ¬ endsWithMark n :=
  keys_names (fun n => n ≠ [] ∧ c ∉ n ∧ ¬ endsWithMark n) t
    ((walk_all_iff _ t [] []).mp fun v hv => ⟨h.nonempty v hv, h.nosep v hv, h.nomark v hv⟩)

end Helper
