import BigtreeProofs.Lemmas.DagClosure
import BigtreeProofs.Lemmas.DagAttrs
/-! Constructor lemmas: adding the pairs of a relation one by one through `c.parents = [p]`
(`setParent`: loop check with `ancestors`, then append to both adjacency lists) builds exactly the
relation when it is acyclic, and is refused with TreeError at the first pair that closes a cycle. -/

namespace Dag
open List

/-! ### relations without directed cycle -/

/-- the relation `rel` seen as a graph (only `children`/`parents` matter for `Reach`) -/
def relGraph (rel : List Edge) : Dag := ofEdges 0 rel

theorem mem_relGraph_children {rel : List Edge} {a b : Nat} :
    b ∈ (relGraph rel).children a ↔ (a, b) ∈ rel :=
  mem_children_ofEdges

def RelAcyclic (rel : List Edge) : Prop := ∀ x, ¬ (relGraph rel).Reach x x

theorem relAcyclic_nil : RelAcyclic [] := fun _ h =>
  let ⟨_, hb⟩ := h.exists_child
  nomatch mem_relGraph_children.1 hb

theorem relAcyclic_mono {rel rel' : List Edge} (h : ∀ e ∈ rel, e ∈ rel') (ha : RelAcyclic rel') :
    RelAcyclic rel := fun x hx =>
  ha x (reach_mono (fun _ _ hb => mem_relGraph_children.2 (h _ (mem_relGraph_children.1 hb))) hx)

theorem relAcyclic_snoc {pre : List Edge} {p c : Nat} (ha : RelAcyclic pre) :
    RelAcyclic (pre ++ [(p, c)]) ↔ p ≠ c ∧ ¬ (relGraph pre).Reach c p := by
  constructor
  · intro h
    have hpc : (relGraph (pre ++ [(p, c)])).Reach p c :=
      .edge (mem_relGraph_children.2 (mem_append_right _ (mem_singleton.2 rfl)))
    refine ⟨fun hne => h p (hne ▸ hpc), fun hr => h p (hpc.trans (reach_mono (fun a b hb => ?_) hr))⟩
    exact mem_relGraph_children.2 (mem_append_left _ (mem_relGraph_children.1 hb))
  · rintro ⟨hne, hnr⟩ x hx
    have hstep : ∀ a b, b ∈ (relGraph (pre ++ [(p, c)])).children a →
        b ∈ (relGraph pre).children a ∨ (a = p ∧ b = c) := fun a b hb =>
      (mem_append.1 (mem_relGraph_children.1 hb)).imp mem_relGraph_children.2
        fun h => Prod.mk.inj (mem_singleton.1 h)
    rcases reach_add_edge hstep hx with h | ⟨h1, h2⟩
    · exact ha x h
    · rcases h1 with rfl | h1 <;> rcases h2 with h2 | h2
      · exact hne h2.symm
      · exact hnr h2
      · exact hnr (h2 ▸ h1)
      · exact hnr (h2.trans h1)

/-! ### `newNode` -/

theorem newNode_of_mem {g : Dag} {x : Nat} (h : x ∈ g.nodes) (a : Attrs) : g.newNode x a = g :=
  if_pos h

theorem newNode_of_not_mem {g : Dag} {x : Nat} (h : x ∉ g.nodes) (a : Attrs) :
    g.newNode x a =
      { g with nodes := g.nodes ++ [x], attrs := fun i => if i = x then a else g.attrs i } :=
  if_neg h

theorem nodes_newNode {g : Dag} {x y : Nat} {a : Attrs} :
    y ∈ (g.newNode x a).nodes ↔ y ∈ g.nodes ∨ y = x := by
  by_cases h : x ∈ g.nodes
  · rw [newNode_of_mem h]
    exact ⟨.inl, fun hy => hy.elim id (· ▸ h)⟩
  · rw [newNode_of_not_mem h]
    exact mem_append.trans (or_congr_right mem_singleton)

theorem attrs_newNode (g : Dag) (x : Nat) (a : Attrs) (y : Nat) :
    (g.newNode x a).attrs y = if x ∈ g.nodes then g.attrs y else if y = x then a else g.attrs y := by
  by_cases h : x ∈ g.nodes
  · rw [newNode_of_mem h, if_pos h]
  · rw [newNode_of_not_mem h, if_neg h]

/-! ### `Tracks`: the stored pairs, under the node operations -/

/-- the DAG under construction stores exactly the pairs processed so far -/
structure Tracks (pre : List Edge) (g : Dag) : Prop where
  nodup_nodes : g.nodes.Nodup
  ends_mem : ∀ e ∈ pre, e.1 ∈ g.nodes ∧ e.2 ∈ g.nodes
  chi : ∀ a b, b ∈ g.children a ↔ (a, b) ∈ pre
  par : ∀ a b, a ∈ g.parents b ↔ (a, b) ∈ pre
  nodup_par : ∀ v, (g.parents v).Nodup
  nodup_chi : ∀ v, (g.children v).Nodup

theorem tracks_empty : Tracks [] empty :=
  ⟨nodup_nil, fun _ h => (nomatch h), fun _ _ => iff_of_false not_mem_nil not_mem_nil,
    fun _ _ => iff_of_false not_mem_nil not_mem_nil, fun _ => nodup_nil, fun _ => nodup_nil⟩

theorem Tracks.congr {pre pre' : List Edge} {g : Dag} (t : Tracks pre g)
    (h : ∀ e, e ∈ pre' ↔ e ∈ pre) : Tracks pre' g :=
  ⟨t.nodup_nodes, fun e he => t.ends_mem e ((h e).1 he), fun a b => (t.chi a b).trans (h _).symm,
    fun a b => (t.par a b).trans (h _).symm, t.nodup_par, t.nodup_chi⟩

theorem Tracks.reach_iff {pre : List Edge} {g : Dag} (t : Tracks pre g) {x y : Nat} :
    g.Reach x y ↔ (relGraph pre).Reach x y :=
  ⟨reach_mono fun a b hb => mem_relGraph_children.2 ((t.chi a b).1 hb),
   reach_mono fun a b hb => (t.chi a b).2 (mem_relGraph_children.1 hb)⟩

theorem Tracks.dwf {pre : List Edge} {g : Dag} (t : Tracks pre g) (ha : RelAcyclic pre) : g.DWF where
  nodup_nodes := t.nodup_nodes
  par_closed := fun v _ p hp =>
    ⟨(t.ends_mem _ ((t.par p v).1 hp)).1, (t.chi p v).2 ((t.par p v).1 hp)⟩
  chi_closed := fun v _ c hc =>
    ⟨(t.ends_mem _ ((t.chi v c).1 hc)).2, (t.par v c).2 ((t.chi v c).1 hc)⟩
  nodup_par := fun v _ => t.nodup_par v
  nodup_chi := fun v _ => t.nodup_chi v
  acyclic := fun x _ hx => ha x (t.reach_iff.1 hx)

theorem Tracks.edges_iff {pre : List Edge} {g : Dag} (t : Tracks pre g) {e : Edge} :
    e ∈ g.edges ↔ e ∈ pre :=
  mem_edges.trans ⟨fun h => (t.chi _ _).1 h.2, fun h => ⟨(t.ends_mem e h).1, (t.chi _ _).2 h⟩⟩

theorem Tracks.newNode {pre : List Edge} {g : Dag} (t : Tracks pre g) (x : Nat) (a : Attrs) :
    Tracks pre (g.newNode x a) := by
  by_cases h : x ∈ g.nodes
  · rw [newNode_of_mem h]
    exact t
  · rw [newNode_of_not_mem h]
    exact ⟨nodup_snoc.2 ⟨t.nodup_nodes, h⟩, fun e he => ⟨mem_append_left _ (t.ends_mem e he).1,
      mem_append_left _ (t.ends_mem e he).2⟩, t.chi, t.par, t.nodup_par, t.nodup_chi⟩

theorem Tracks.setAttrs {pre : List Edge} {g : Dag} (t : Tracks pre g) (x : Nat) (a : Attrs) :
    Tracks pre (g.setAttrs x a) :=
  ⟨t.nodup_nodes, t.ends_mem, t.chi, t.par, t.nodup_par, t.nodup_chi⟩

/-! ### `c.parents = [p]` -/

theorem mem_ite_snoc {f : Nat → List Nat} {k x a b : Nat} :
    b ∈ (if a = k then f k ++ [x] else f a) ↔ b ∈ f a ∨ (a = k ∧ b = x) := by
  split
  · rename_i h; rw [h, mem_append, mem_singleton]; exact or_congr_right (iff_and_self.2 fun _ => rfl)
  · rename_i h; exact (or_iff_left fun h' => h h'.1).symm

theorem nodup_ite_snoc {f : Nat → List Nat} {k x : Nat} (hf : ∀ v, (f v).Nodup) (hx : x ∉ f k)
    (v : Nat) : (if v = k then f k ++ [x] else f v).Nodup := by
  split
  · exact nodup_snoc.2 ⟨hf k, hx⟩
  · exact hf v

/-- the appending loop of `c.parents = [p]` stores one more pair -/
theorem Tracks.addLink {pre : List Edge} {g : Dag} (t : Tracks pre g) {c p : Nat} (hc : c ∈ g.nodes)
    (hp : p ∈ g.nodes) (hpc : p ∉ g.parents c) :
    Tracks (pre ++ [(p, c)]) { g with
      parents := fun i => if i = c then g.parents c ++ [p] else g.parents i
      children := fun i => if i = p then g.children p ++ [c] else g.children i } := by
  have hpair : ∀ a b, (a, b) ∈ pre ++ [(p, c)] ↔ (a, b) ∈ pre ∨ (a = p ∧ b = c) := fun a b => by
    rw [mem_append, mem_singleton, Prod.mk.injEq]
  refine ⟨t.nodup_nodes, fun e he => ?_, fun a b => ?_, fun a b => ?_,
    nodup_ite_snoc t.nodup_par hpc,
    nodup_ite_snoc t.nodup_chi fun h => hpc ((t.par p c).2 ((t.chi p c).1 h))⟩
  · exact (mem_append.1 he).elim (t.ends_mem e) fun h => mem_singleton.1 h ▸ ⟨hp, hc⟩
  · rw [hpair, ← t.chi]; exact mem_ite_snoc
  · rw [hpair, ← t.par, and_comm]; exact mem_ite_snoc

/-- `c.parents = [p]` on the DAG that stores `pre`: accepted (and then stores `pre ++ [(p, c)]`)
    iff the new pair closes no cycle; otherwise TreeError -/
theorem Tracks.setParent {pre : List Edge} {g : Dag} (t : Tracks pre g) (ha : RelAcyclic pre)
    {c p : Nat} (hc : c ∈ g.nodes) (hp : p ∈ g.nodes) :
    (RelAcyclic (pre ++ [(p, c)]) →
      ∃ g', g.setParent c p = .ok g' ∧ Tracks (pre ++ [(p, c)]) g' ∧ g'.nodes = g.nodes ∧
        g'.attrs = g.attrs) ∧
    (¬ RelAcyclic (pre ++ [(p, c)]) → g.setParent c p = .error .tree) := by
  -- the loop check asks exactly whether the new pair closes a cycle
  have hanc : c ∈ g.ancestors p ↔ (relGraph pre).Reach c p := by
    rw [mem_ancestors (t.dwf ha) hp, t.reach_iff]
    exact and_iff_right hc
  have hcheck : (!(g.ancestors p).isEmpty && decide (c ∈ g.ancestors p)) =
      decide (c ∈ g.ancestors p) := by
    cases g.ancestors p <;> simp
  rw [relAcyclic_snoc ha, Dag.setParent, hcheck]
  constructor
  · rintro ⟨hne, hnr⟩
    rw [if_neg hne, decide_eq_false (mt hanc.1 hnr), if_neg Bool.false_ne_true]
    by_cases hpc : p ∈ g.parents c
    · rw [if_pos hpc]
      refine ⟨g, rfl, t.congr fun e => mem_append.trans (or_iff_left_of_imp fun h => ?_), rfl, rfl⟩
      exact mem_singleton.1 h ▸ (t.par p c).1 hpc
    · rw [if_neg hpc]
      exact ⟨_, rfl, t.addLink hc hp hpc, rfl, rfl⟩
  · intro hbad
    by_cases hne : p = c
    · rw [if_pos hne]
    · rw [if_neg hne, decide_eq_true (hanc.2 (Classical.not_not.1 fun hnr => hbad ⟨hne, hnr⟩)),
        if_pos rfl]

/-! ### whole runs -/

/-- what a constructor that has to store `rel` does: with `rel` acyclic it succeeds in a state
    satisfying `K`, otherwise it raises TreeError -/
def Outcome (K : Built → Prop) (rel : List Edge) (r : Except Err Built) : Prop :=
  (RelAcyclic rel → ∃ b, r = .ok b ∧ K b) ∧ (¬ RelAcyclic rel → r = .error .tree)

theorem Outcome.ok {K : Built → Prop} {rel : List Edge} {b : Built} (ha : RelAcyclic rel) (h : K b) :
    Outcome K rel (.ok b) :=
  ⟨fun _ => ⟨b, rfl, h⟩, fun hn => absurd ha hn⟩

theorem Outcome.mono {K K' : Built → Prop} {rel : List Edge} {r : Except Err Built}
    (h : Outcome K rel r) (hK : ∀ b, K b → K' b) : Outcome K' rel r :=
  ⟨fun ha => let ⟨b, hb, hk⟩ := h.1 ha; ⟨b, hb, hK b hk⟩, h.2⟩

/-- sequencing: a run that has stored `rel` goes on with `k`, which stores the rest of `rel'` and
    passes errors on; a cycle in `rel` is a cycle in `rel'` -/
theorem Outcome.andThen {K K' : Built → Prop} {rel rel' : List Edge} {r : Except Err Built}
    {k : Except Err Built → Except Err Built} (h : Outcome K rel r)
    (herr : ∀ e, k (.error e) = .error e) (hsub : ∀ e ∈ rel, e ∈ rel')
    (hk : ∀ b, K b → RelAcyclic rel → Outcome K' rel' (k (.ok b))) : Outcome K' rel' (k r) := by
  by_cases ha : RelAcyclic rel
  · obtain ⟨b, rfl, hb⟩ := h.1 ha
    exact hk b hb ha
  · rw [h.2 ha, herr]
    exact ⟨fun h' => absurd (relAcyclic_mono hsub h') ha, fun _ => rfl⟩

/-- a loop over `items`, each contributing the pairs `rel [i]`; `J done` is what holds after the
    items `done` -/
theorem foldl_outcome {ι : Type} {step : Except Err Built → ι → Except Err Built}
    (rel : List ι → List Edge) (pre : List Edge) (J : List ι → Built → Prop) (P : ι → Prop)
    (hrel : ∀ a b, rel (a ++ b) = rel a ++ rel b)
    (herr : ∀ e i, step (.error e) i = .error e)
    (hstep : ∀ done b i, P i → J done b → RelAcyclic (pre ++ rel done) →
      Outcome (J (done ++ [i])) (pre ++ rel (done ++ [i])) (step (.ok b) i)) :
    ∀ items done b, (∀ i ∈ items, P i) → J done b → RelAcyclic (pre ++ rel done) →
      Outcome (J (done ++ items)) (pre ++ rel (done ++ items)) (items.foldl step (.ok b)) := by
  have herrs : ∀ (items : List ι) e, items.foldl step (.error e) = .error e := by
    intro items e
    induction items with
    | nil => rfl
    | cons i items ih => rw [foldl_cons, herr, ih]
  intro items
  induction items with
  | nil => intro done b _ hJ ha; rw [append_nil]; exact .ok ha hJ
  | cons i items ih =>
    intro done b hP hJ ha
    have hcons : done ++ i :: items = done ++ [i] ++ items := (append_cons ..)
    rw [foldl_cons, hcons]
    refine (hstep done b i (hP i mem_cons_self) hJ ha).andThen (k := fun r => items.foldl step r)
      (herrs items) (fun e he => ?_) fun b1 h1 ha1 => ih _ b1 (fun j hj => hP j (mem_cons_of_mem _ hj)) h1 ha1
    rw [hrel, ← append_assoc]
    exact mem_append_left _ he

/-- the common last step of every loop body: `c.parents = [p]`, the parent handed on -/
theorem link_outcome {pre : List Edge} {g : Dag} (t : Tracks pre g) (ha : RelAcyclic pre)
    {c p : Nat} (hc : c ∈ g.nodes) (hp : p ∈ g.nodes) :
    Outcome (fun b => Tracks (pre ++ [(p, c)]) b.dag ∧ b.dag.nodes = g.nodes ∧
        b.dag.attrs = g.attrs ∧ b.ret = some p) (pre ++ [(p, c)])
      ((g.setParent c p).map fun g' => { dag := g', ret := some p }) := by
  obtain ⟨hok, hbad⟩ := t.setParent ha hc hp
  refine ⟨fun hacy => ?_, fun hcyc => by rw [hbad hcyc]; rfl⟩
  obtain ⟨g', hg', t', hn, hat⟩ := hok hacy
  exact ⟨_, by rw [hg']; rfl, t', hn, hat, rfl⟩

/-! ### `list_to_dag` -/

theorem listStep_error (err : Err) (e : Edge) : listStep (.error err) e = .error err := rfl

/-- **constructor lemma** for `list_to_dag`; `S`: any property of the names in `rel` -/
theorem listToDag_spec {S : Nat → Prop} (rel : List Edge) (hne : rel ≠ [])
    (hS : ∀ e ∈ rel, S e.1 ∧ S e.2) :
    Outcome (fun b => Tracks rel b.dag ∧ (∀ x ∈ b.dag.nodes, S x) ∧ b.ret = rel.getLast?.map (·.1))
      rel (listToDag rel) := by
  have h := foldl_outcome (step := listStep) id []
    (fun done b => Tracks done b.dag ∧ (∀ x ∈ b.dag.nodes, S x) ∧
      (done ≠ [] → b.ret = done.getLast?.map (·.1)))
    (fun e => S e.1 ∧ S e.2) (fun _ _ => rfl) listStep_error ?_ rel [] { dag := empty, ret := none } hS
    ⟨tracks_empty, fun _ h => (nomatch h), fun h => absurd rfl h⟩ relAcyclic_nil
  · rw [listToDag, if_neg (by simpa using hne)]
    exact h.mono fun b ⟨t, hn, hr⟩ => ⟨t, hn, hr hne⟩
  · rintro done b ⟨p, c⟩ ⟨hp, hc⟩ ⟨t, hn, -⟩ ha
    have hn2 : ∀ x, x ∈ ((b.dag.newNode p []).newNode c []).nodes ↔ (x ∈ b.dag.nodes ∨ x = p) ∨ x = c :=
      fun x => nodes_newNode.trans (or_congr_left nodes_newNode)
    refine (link_outcome ((t.newNode p []).newNode c []) ha ((hn2 c).2 (.inr rfl))
      ((hn2 p).2 (.inl (.inr rfl)))).mono fun b' ⟨t', hn', _, hr'⟩ => ⟨t', fun x hx => ?_, fun _ => ?_⟩
    · rcases (hn2 x).1 (hn' ▸ hx) with (hx | rfl) | rfl
      · exact hn x hx
      · exact hp
      · exact hc
    · rw [hr', getLast?_concat]; rfl

/-! ### attributes under the node operations -/

/-- the nodes in `names` are in the table with the attribute values `A`; all others carry none
    (what the loops of `dict_to_dag` and `dataframe_to_dag` maintain) -/
structure AttrInv (A : Nat → Attrs) (names : List Nat) (g : Dag) : Prop where
  named : ∀ x ∈ names, x ∈ g.nodes ∧ ∀ k, (g.attrs x).lookup k = (A x).lookup k
  other : ∀ x, x ∉ names → g.attrs x = []

theorem AttrInv.out {A : Nat → Attrs} {names : List Nat} {g : Dag} (h : AttrInv A names g) {x : Nat}
    (hx : x ∉ g.nodes) : g.attrs x = [] :=
  h.other x fun hn => hx (h.named x hn).1

theorem AttrInv.of_eq {A : Nat → Attrs} {names : List Nat} {g g' : Dag} (h : AttrInv A names g)
    (hn : ∀ x ∈ g.nodes, x ∈ g'.nodes) (ha : g'.attrs = g.attrs) : AttrInv A names g' :=
  ⟨fun x hx => ⟨hn x (h.named x hx).1, ha ▸ (h.named x hx).2⟩, fun x hx => ha ▸ h.other x hx⟩

/-- creating a parent that is not in the table yet (`node_type(parent_name)`) changes no attribute -/
theorem AttrInv.newNode_nil {A : Nat → Attrs} {names : List Nat} {g : Dag} (h : AttrInv A names g)
    (p : Nat) : AttrInv A names (g.newNode p []) := by
  by_cases hp : p ∈ g.nodes
  · rw [newNode_of_mem hp]
    exact h
  · rw [newNode_of_not_mem hp]
    refine h.of_eq (fun x hx => mem_append_left _ hx) (funext fun y => ?_)
    show (if y = p then [] else g.attrs y) = g.attrs y
    split
    · rename_i hy; rw [hy, h.out hp]
    · rfl

/-- writing the attributes `A x` on node `x`, in whichever way leaves the other nodes alone and
    lets the new values win -/
theorem AttrInv.write {A : Nat → Attrs} {names : List Nat} {g g' : Dag} (h : AttrInv A names g)
    {x : Nat} (hx : x ∈ g'.nodes) (hn : ∀ y ∈ g.nodes, y ∈ g'.nodes)
    (hother : ∀ y, y ≠ x → g'.attrs y = g.attrs y)
    (hself : ∀ k, (g'.attrs x).lookup k = ((A x).lookup k).or ((g.attrs x).lookup k)) :
    AttrInv A (names ++ [x]) g' := by
  constructor
  · intro y hy
    by_cases hyx : y = x
    · subst hyx
      refine ⟨hx, fun k => ?_⟩
      rw [hself]
      by_cases hyn : y ∈ names
      · rw [(h.named y hyn).2, Option.or_self]
      · rw [h.other y hyn, lookup_nil, Option.or_none]
    · have hyn : y ∈ names := (mem_append.1 hy).resolve_right fun h' => hyx (mem_singleton.1 h')
      exact ⟨hn y (h.named y hyn).1, hother y hyx ▸ (h.named y hyn).2⟩
  · intro y hy
    have hy' := not_or.1 (mt mem_append.2 hy)
    rw [hother y (mt mem_singleton.2 hy'.2), h.other y hy'.1]

/-- what the loops of `dict_to_dag` and `dataframe_to_dag` maintain: the table stores the pairs
    `rel`, its names satisfy `S`, and — as long as the attribute data seen were consistent (`H`) —
    the nodes `names` carry the attributes `A` -/
structure Stores (S : Nat → Prop) (A : Nat → Attrs) (H : Prop) (rel : List Edge) (names : List Nat)
    (g : Dag) : Prop where
  tracks : Tracks rel g
  nodes : ∀ x ∈ g.nodes, S x
  attrs : H → AttrInv A names g

theorem stores_empty (S : Nat → Prop) (A : Nat → Attrs) (H : Prop) : Stores S A H [] [] empty :=
  ⟨tracks_empty, fun _ h => (nomatch h), fun _ => ⟨fun _ h => (nomatch h), fun _ _ => rfl⟩⟩

/-- the end of the loop bodies: the parent `p` is created if need be, then `c.parents = [p]` -/
theorem Stores.newLink {S : Nat → Prop} {A : Nat → Attrs} {H : Prop} {pre : List Edge}
    {names : List Nat} {g : Dag} (h : Stores S A H pre names g) (ha : RelAcyclic pre) {c p : Nat}
    (hc : c ∈ g.nodes) (hp : S p) :
    Outcome (fun b => Stores S A H (pre ++ [(p, c)]) names b.dag ∧ c ∈ b.dag.nodes ∧ b.ret = some p)
      (pre ++ [(p, c)])
      (((g.newNode p []).setParent c p).map fun g' => { dag := g', ret := some p }) :=
  (link_outcome (h.tracks.newNode p []) ha (nodes_newNode.2 (.inl hc))
    (nodes_newNode.2 (.inr rfl))).mono fun _ ⟨t', hn, hat', hr⟩ =>
      ⟨⟨t', fun x hx => (nodes_newNode.1 (hn ▸ hx)).elim (h.nodes x) (· ▸ hp),
        fun h' => ((h.attrs h').newNode_nil p).of_eq (fun _ hx => hn ▸ hx) hat'⟩,
        hn ▸ nodes_newNode.2 (.inl hc), hr⟩

end Dag
