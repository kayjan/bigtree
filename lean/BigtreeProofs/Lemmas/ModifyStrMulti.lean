import BigtreeProofs.Lemmas.ModifyStr
/-! C08 for separators of ANY length (the string layer is `ModifyStr`, on top of `Strings`). -/

namespace Modify

/-- `find_full_path` on a printed full path (any run of separator characters around it) returns the node at that
address, or nothing when there is none - for every non-empty separator -/
theorem findFullPath_printed_multi (sp : Str) (hsp : sp ≠ []) (t : Tree) (p : List Str)
    (h : ∀ x ∈ t.name :: p, x ≠ [] ∧ Store.Free sp x) (lead trail : Str)
    (hl : ∀ x ∈ lead, x ∈ sp) (ht : ∀ x ∈ trail, x ∈ sp) :
    findFullPath sp t (lead ++ pathName sp (t.name :: p) ++ trail) = .ok ((getRel p t).map (fun x => (p, x))) := by
  rw [findFullPath, comps_pathName_multi_pad sp hsp t.name p h lead trail hl ht]
  simp

end Modify
