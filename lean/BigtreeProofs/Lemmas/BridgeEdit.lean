import BigtreeProofs.Lemmas.BridgeMove
/-!
# Bridge A→B: the closed forms of the children deleter (`detached`), of `sort` and of the
children setter (`adopted`) read back as forest edits
-/

namespace Store
open Iter Tree

/-- reading back after `del v.children` = emptying the child list of `v` in every read-back -/
theorem clearChildren_treeOf {s : Store} (hw : WF s) (v : Nat) (f : Nat) (hf : s.n ≤ f) (x : Nat) :
    clearChildren v (treeOf s f x) = treeOf (detached s v) f x := by
  refine treeOf_edit hw (wf_detached hw v) hf hf (clearChildren v) (fun x => ?_) x
  show _ = Tree.node x (s.name x) [] ((if x = v then [] else s.children x).map _)
  rw [clearChildren, clearChildrenL_eq, List.map_map]
  by_cases hx : x = v
  · rw [if_pos hx, if_pos hx]
    rfl
  · rw [if_neg hx, if_neg hx]
    rfl

theorem treeOf_detached_child {s : Store} (hw : WF s) (v : Nat) (f : Nat) (hf : s.n ≤ f) (c : Nat)
    (hc : c ∈ s.children v) : treeOf (detached s v) f c = treeOf s f c := by
  rw [← clearChildren_treeOf hw v f hf c]
  exact clearChildren_of_not_mem v _ fun hm =>
    not_reach_parent hw (hw.down v c hc) ((mem_pre_treeOf hw f hf c v).1 hm)

theorem mem_roots_detached {s : Store} (hw : WF s) (v x : Nat) :
    x ∈ roots (detached s v) ↔ x ∈ s.children v ∨ x ∈ roots s := by
  rw [mem_roots, mem_roots]
  show x < s.n ∧ (if s.parent x = some v then none else s.parent x) = none ↔ _
  by_cases hx : s.parent x = some v
  · simp [hx, hw.up x v hx, (hw.range x v hx).1]
  · have : x ∉ s.children v := fun h => hx (hw.down v x h)
    simp [hx, this]

theorem roots_detached_perm {s : Store} (hw : WF s) (v : Nat) :
    (roots (detached s v)).Perm (s.children v ++ roots s) := by
  rw [List.perm_ext_iff_of_nodup (roots_nodup _)]
  · intro x
    rw [mem_roots_detached hw, List.mem_append]
  · refine List.nodup_append.2 ⟨hw.nodup v, roots_nodup s, ?_⟩
    rintro a ha _ hb rfl
    have := hw.down v a ha
    rw [((mem_roots a).1 hb).2] at this
    cases this

/-- `del v.children`, on forests: `Forest.delChildren`, up to the order of the trees -/
theorem forest_detached {s : Store} (hw : WF s) (v : Nat) (hv : v < s.n) :
    (forest (detached s v)).Perm (Forest.delChildren (forest s) v) := by
  unfold Forest.delChildren
  rw [subtreeL_forest hw v hv]
  show ((roots (detached s v)).map (treeOf (detached s v) s.n)).Perm
    ((treeOf s s.n v).children ++ clearChildrenL v (forest s))
  rw [treeOf_children hw v s.n (Nat.le_refl _), clearChildrenL_eq, forest, List.map_map]
  refine ((roots_detached_perm hw v).map _).trans (List.Perm.of_eq ?_)
  rw [List.map_append]
  congr 1
  · exact List.map_congr_left fun c hc => treeOf_detached_child hw v s.n (Nat.le_refl _) c hc
  · exact List.map_congr_left fun x _ => (clearChildren_treeOf hw v s.n (Nat.le_refl _) x).symm

theorem sortChildren_children (s : Store) (v : Nat) (ranks : List Nat) (rev : Bool) (x : Nat) :
    (Store.sortChildren s v ranks rev).children x =
      if x = v then
        (if rev then (sortKey (fun i => ranks.getD i 0) (s.children v).reverse).reverse
         else sortKey (fun i => ranks.getD i 0) (s.children v))
      else s.children x := rfl

/-- reading back after `v.sort(…)` = sorting the child list of `v` in every read-back -/
theorem sortChildren_treeOf {s : Store} (hw : WF s) (v : Nat) (ranks : List Nat) (rev : Bool)
    (f : Nat) (hf : s.n ≤ f) (x : Nat) :
    Tree.sortChildren v (fun i => ranks.getD i 0) rev (treeOf s f x)
      = treeOf (Store.sortChildren s v ranks rev) f x := by
  refine treeOf_edit hw (wf_sortChildren hw v ranks rev) hf hf
    (Tree.sortChildren v (fun i => ranks.getD i 0) rev) (fun x => ?_) x
  rw [Tree.sortChildren, sortChildrenL_eq, List.map_map, sortChildren_children]
  by_cases hx : x = v
  · subst hx
    rw [if_pos rfl, if_pos rfl, sortList_map _ _ _ (treeOf_id s f)]
    congr 1
    -- the sorted entries are children of `x`, and `x` is not in the subtree of a child of its own
    refine List.map_congr_left fun c hc => ?_
    have hperm := sortChildren_perm s x ranks rev
    rw [sortChildren_children, if_pos rfl] at hperm
    have hc' : c ∈ s.children x := hperm.mem_iff.1 hc
    exact (sortChildren_of_not_mem x _ rev _ fun hm =>
      not_reach_parent hw (hw.down x c hc') ((mem_pre_treeOf hw f hf c x).1 hm)).symm
  · rw [if_neg hx, if_neg hx]
    rfl

/-- `v.sort(…)`, on forests: exactly `Forest.sortChildren` -/
theorem forest_sortChildren {s : Store} (hw : WF s) (v : Nat) (ranks : List Nat) (rev : Bool) :
    forest (Store.sortChildren s v ranks rev) = Forest.sortChildren (forest s) v ranks rev := by
  unfold Forest.sortChildren
  show (roots s).map (treeOf (Store.sortChildren s v ranks rev) s.n) = _
  rw [sortChildrenL_eq, forest, List.map_map]
  exact List.map_congr_left fun x _ => (sortChildren_treeOf hw v ranks rev s.n (Nat.le_refl _) x).symm

theorem adopted_nil (s : Store) (v : Nat) : adopted s v [] = detached s v := by
  refine ext' rfl rfl (funext fun x => ?_) rfl rfl
  show (if x = v then [] else (s.children x).filter fun _ => true) = if x = v then [] else s.children x
  rw [List.filter_eq_self.2 fun _ _ => rfl]

/-- the children setter, one member at a time: adopting `cs ++ [c]` = adopting `cs`, then `c.parent = v` -/
theorem adopted_snoc {s : Store} (v : Nat) (cs : List Nat) (c : Nat) (hw : WF (adopted s v cs)) (hc : c ∉ cs) :
    adopted s v (cs ++ [c]) = reparent (adopted s v cs) c (some v) := by
  refine ext' rfl (funext fun x => ?_) (funext fun x => ?_) rfl rfl
  · rw [reparent_parent]
    show (if x ∈ cs ++ [c] then some v else _) = if x = c then some v else if x ∈ cs then some v else _
    by_cases hxc : x = c <;> simp [hxc]
  · rw [reparent_children_eq hw]
    show (if x = v then cs ++ [c] else (s.children x).filter fun y => !(cs ++ [c]).contains y)
      = (if x = v then cs else (s.children x).filter fun y => !cs.contains y).filter (· != c) ++ _
    by_cases hx : x = v
    · subst hx
      rw [if_pos rfl, if_pos rfl, if_pos rfl, List.filter_eq_self.2 fun y hy => bne_iff_ne.2 fun (e : y = c) => hc (e ▸ hy)]
    · rw [if_neg hx, if_neg hx, if_neg fun e => hx (Option.some.inj e).symm, List.append_nil, List.filter_filter]
      refine List.filter_congr fun y _ => ?_
      rw [List.contains_append, Bool.not_or, Bool.and_comm, List.contains_cons, List.contains_nil, Bool.or_false]
      rfl

theorem reach_reparent {s : Store} {v x : Nat} (np : Option Nat) (h : Reach s v x) : Reach (reparent s v np) v x := by
  induction h with
  | refl => exact Reach.refl v
  | @step q w _ hp ih =>
    by_cases hwv : w = v
    · rw [hwv]
      exact Reach.refl v
    · exact Reach.step ih (by rw [reparent_parent, if_neg hwv]; exact hp)

/-- accepted `v.children = cs`, on forests: `Forest.setChildren`, up to the order of the trees
(`G`: the forest of `s` in any order) -/
theorem forest_adopted {s : Store} (hw : WF s) (v : Nat) (hv : v < s.n) (G : Forest)
    (hG : (forest s).Perm G) : ∀ (cs : List Nat), cs.Nodup →
    (∀ c ∈ cs, c < s.n ∧ ¬ Reach s c v) →
    (forest (adopted s v cs)).Perm (Forest.setChildren G v cs) := by
  intro cs
  induction cs using snoc_induction with
  | h0 =>
    intro _ _
    rw [adopted_nil]
    exact (forest_detached hw v hv).trans (Forest.delChildren_perm hG (nodup_preL_forest hw) v)
  | h1 cs c ih =>
    intro hn hcs
    have hn' := List.nodup_append.1 hn
    have hcs' : ∀ c ∈ cs, c < s.n ∧ ¬ Reach s c v := fun x hx => hcs x (List.mem_append_left _ hx)
    have hcn : c ∉ cs := fun hm => hn'.2.2 c hm c List.mem_cons_self rfl
    have hwA := wf_adopted hw v cs hv hn'.1 hcs'
    have hwA' := wf_adopted hw v (cs ++ [c]) hv hn hcs
    rw [adopted_snoc v cs c hwA hcn] at hwA' ⊢
    -- the result is well-formed, so `c.parent = v` closed no loop
    have hnr : ¬ Reach (adopted s v cs) c v := fun h =>
      not_reach_parent hwA' (c := c) (by rw [reparent_parent, if_pos rfl]) (reach_reparent (some v) h)
    rw [forest_reparent_some hwA c v (hcs c (List.mem_append_right _ List.mem_cons_self)).1 hv hnr]
    unfold Forest.setChildren
    rw [List.foldl_append]
    exact Forest.move_perm (ih hn'.1 hcs') (nodup_preL_forest hwA) c v

end Store
