import BigtreeProofs.Lemmas.DagBasic
/-! `ancestors`, `descendants`, `siblings` of the DAG model against reachability. -/

namespace Dag
open List

theorem mem_preRaw {g : Dag} {f v x : Nat} :
    x ∈ g.preRaw f v ↔ ∃ k, k < f ∧ ReachN g k v x := by
  induction f generalizing v with
  | zero => exact ⟨(nomatch ·), fun ⟨_, hk, _⟩ => nomatch hk⟩
  | succ f ih =>
    rw [preRaw, mem_cons, mem_flatMap]
    constructor
    · rintro (rfl | ⟨c, hc, hx⟩)
      · exact ⟨0, f.succ_pos, .zero _⟩
      · obtain ⟨k, hk, hr⟩ := ih.1 hx
        exact ⟨k + 1, Nat.succ_lt_succ hk, .succ hc hr⟩
    · rintro ⟨k, hk, hr⟩
      cases k with
      | zero => exact .inl (reachN_zero.1 hr).symm
      | succ k =>
        obtain ⟨c, hc, hr'⟩ := reachN_succ.1 hr
        exact .inr ⟨c, hc, ih.2 ⟨k, Nat.lt_of_succ_lt_succ hk, hr'⟩⟩

theorem reachN_succ_parent {g : Dag} (wf : g.DWF) {k x v : Nat} (hv : v ∈ g.nodes) :
    x ∈ g.nodes ∧ ReachN g (k + 1) x v ↔ ∃ p ∈ g.parents v, x ∈ g.nodes ∧ ReachN g k x p := by
  rw [reachN_succ_last]
  constructor
  · rintro ⟨hx, p, hr, hvp⟩
    exact ⟨p, (wf.chi_closed _ (hr.mem_nodes wf hx) _ hvp).2, hx, hr⟩
  · rintro ⟨p, hp, hx, hr⟩
    exact ⟨hx, p, hr, (wf.par_closed _ hv _ hp).2⟩

theorem mem_ancRaw {g : Dag} (wf : g.DWF) {f v x : Nat} (hv : v ∈ g.nodes) :
    x ∈ g.ancRaw f v ↔ x ∈ g.nodes ∧ ∃ k, k < f ∧ ReachN g (k + 1) x v := by
  induction f generalizing v with
  | zero => exact ⟨(nomatch ·), fun ⟨_, _, hk, _⟩ => nomatch hk⟩
  | succ f ih =>
    rw [ancRaw, mem_flatMap]
    constructor
    · rintro ⟨p, hp, hx⟩
      have hpn := (wf.par_closed _ hv _ hp).1
      rcases mem_append.1 hx with hx | hx
      · obtain ⟨hxn, k, hk, hr⟩ := (ih hpn).1 hx
        exact ⟨hxn, k + 1, Nat.succ_lt_succ hk,
          ((reachN_succ_parent wf hv).2 ⟨p, hp, hxn, hr⟩).2⟩
      · obtain rfl := mem_singleton.1 hx
        exact ⟨hpn, 0, f.succ_pos, ((reachN_succ_parent wf hv).2 ⟨x, hp, hpn, .zero x⟩).2⟩
    · rintro ⟨hxn, k, hk, hr⟩
      obtain ⟨p, hp, -, hr⟩ := (reachN_succ_parent wf hv).1 ⟨hxn, hr⟩
      refine ⟨p, hp, mem_append.2 ?_⟩
      cases k with
      | zero => exact .inr (mem_singleton.2 (reachN_zero.1 hr))
      | succ k =>
        exact .inl ((ih (wf.par_closed _ hv _ hp).1).2 ⟨hxn, k, Nat.lt_of_succ_lt_succ hk, hr⟩)

theorem mem_ancestors {g : Dag} (wf : g.DWF) {v x : Nat} (hv : v ∈ g.nodes) :
    x ∈ g.ancestors v ↔ x ∈ g.nodes ∧ g.Reach x v := by
  rw [reach_iff_reachN, ancestors]
  split
  · rename_i hemp
    refine ⟨(nomatch ·), fun ⟨hx, k, hr⟩ => ?_⟩
    obtain ⟨p, hp, -⟩ := (reachN_succ_parent wf hv).1 ⟨hx, hr⟩
    rw [isEmpty_iff.1 hemp] at hp
    cases hp
  · rw [mem_dedup, mem_ancRaw wf hv]
    exact and_congr_right fun hx =>
      ⟨fun ⟨k, _, hr⟩ => ⟨k, hr⟩, fun ⟨k, hr⟩ => ⟨k, Nat.lt_of_succ_lt (reachN_lt wf hx hr), hr⟩⟩

theorem mem_descendants {g : Dag} (wf : g.DWF) {v x : Nat} (hv : v ∈ g.nodes) :
    x ∈ g.descendants v ↔ g.Reach v x := by
  rw [descendants, mem_dedup, mem_filter, mem_preRaw, bne_iff_ne, reach_iff_reachN]
  constructor
  · rintro ⟨⟨k, _, hr⟩, hne⟩
    cases k with
    | zero => exact absurd (reachN_zero.1 hr).symm hne
    | succ k => exact ⟨k, hr⟩
  · rintro ⟨k, hr⟩
    exact ⟨⟨k + 1, reachN_lt wf hv hr, hr⟩, fun h => wf.acyclic v hv (reach_iff_reachN.2 ⟨k, h ▸ hr⟩)⟩

theorem mem_siblings {g : Dag} {v x : Nat} :
    x ∈ g.siblings v ↔ x ≠ v ∧ ∃ p, p ∈ g.parents v ∧ x ∈ g.children p := by
  rw [siblings]
  split
  · rename_i hemp
    rw [isEmpty_iff.1 hemp]
    exact ⟨(nomatch ·), fun ⟨_, _, h, _⟩ => nomatch h⟩
  · simp only [mem_flatMap, mem_filter, bne_iff_ne]
    exact ⟨fun ⟨p, hp, hx, hne⟩ => ⟨hne, p, hp, hx⟩, fun ⟨hne, p, hp, hx⟩ => ⟨p, hp, hx, hne⟩⟩

end Dag
