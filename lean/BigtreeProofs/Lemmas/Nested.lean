import BigtreeModel.Relation
/-!
# Lemmas for `nested_dict_to_tree` (C13)
Core Lean only. `Rel.namesNodup_iff` stands first because `NDict.toTree` applies `Rel.namesNodup` to the
children it has built; `Lemmas/RelationTree.lean` uses it for `Rel.build` as well.
-/
open Paths

namespace Rel

theorem namesNodup_iff (ts : List Tree) : namesNodup ts = true ↔ (ts.map Tree.name).Nodup := by
  induction ts with
  | nil => simp [namesNodup]
  | cons t ts ih => simp [namesNodup, ih]

end Rel

namespace NDict

def name : NDict → Str | .mk n _ _ => n

theorem toTree_ok_iff (n : Str) (a : Attrs) (cs : List NDict) (t : Tree) :
    (NDict.mk n a cs).toTree = .ok t ↔
      n ≠ [] ∧ ∃ ts, toTreeL cs = .ok ts ∧ Rel.namesNodup ts = true ∧ .node 0 n a ts = t := by
  unfold toTree
  by_cases hn : n = []
  · simp [hn]
  · cases hl : toTreeL cs with
    | error e => simp [hn]
    | ok ts => by_cases hd : Rel.namesNodup ts = true <;> simp [hn, hd]

theorem toTreeL_cons_ok_iff (d : NDict) (ds : List NDict) (ts : List Tree) :
    toTreeL (d :: ds) = .ok ts ↔ ∃ t ts', toTree d = .ok t ∧ toTreeL ds = .ok ts' ∧ t :: ts' = ts := by
  rw [toTreeL]
  cases toTree d with
  | error e => simp
  | ok t => cases toTreeL ds <;> simp

mutual
theorem toTree_mirror : ∀ (d : NDict) (t : Tree), d.toTree = .ok t → ofTree t = d
  | .mk n a cs => by
    intro t h
    obtain ⟨_, ts, hts, _, rfl⟩ := (toTree_ok_iff ..).mp h
    rw [ofTree, toTreeL_mirror cs ts hts]
theorem toTreeL_mirror : ∀ (ds : List NDict) (ts : List Tree), toTreeL ds = .ok ts → ofTreeL ts = ds
  | [] => by intro ts h; cases h; rfl
  | d :: ds => by
    intro ts h
    obtain ⟨t, ts', ht, hts, rfl⟩ := (toTreeL_cons_ok_iff ..).mp h
    rw [ofTreeL, toTree_mirror d t ht, toTreeL_mirror ds ts' hts]
end

mutual
/-- a nested dictionary bigtree can represent: non-empty names, sibling names pairwise different -/
def WF : NDict → Prop
  | .mk n _ cs => n ≠ [] ∧ (cs.map name).Nodup ∧ WFL cs
def WFL : List NDict → Prop
  | [] => True
  | d :: ds => WF d ∧ WFL ds
end

theorem ofTree_name (t : Tree) : (ofTree t).name = t.name := by
  cases t; rfl

theorem ofTreeL_names (ts : List Tree) : (ofTreeL ts).map name = ts.map Tree.name := by
  induction ts with
  | nil => rfl
  | cons t ts ih => rw [ofTreeL, List.map_cons, List.map_cons, ih, ofTree_name]

theorem namesNodup_of_toTreeL (cs : List NDict) (ts : List Tree) (h : toTreeL cs = .ok ts) :
    Rel.namesNodup ts = true ↔ (cs.map name).Nodup := by
  rw [Rel.namesNodup_iff, ← ofTreeL_names, toTreeL_mirror cs ts h]

mutual
theorem toTree_accepts : ∀ (d : NDict), WF d → ∃ t, d.toTree = .ok t
  | .mk n a cs => by
    intro h
    rw [WF] at h
    obtain ⟨ts, hts⟩ := toTreeL_accepts cs h.2.2
    exact ⟨_, (toTree_ok_iff ..).mpr ⟨h.1, ts, hts, (namesNodup_of_toTreeL cs ts hts).mpr h.2.1, rfl⟩⟩
theorem toTreeL_accepts : ∀ (ds : List NDict), WFL ds → ∃ ts, toTreeL ds = .ok ts
  | [] => fun _ => ⟨[], rfl⟩
  | d :: ds => by
    intro h
    rw [WFL] at h
    obtain ⟨t, ht⟩ := toTree_accepts d h.1
    obtain ⟨ts, hts⟩ := toTreeL_accepts ds h.2
    exact ⟨_, (toTreeL_cons_ok_iff ..).mpr ⟨t, ts, ht, hts, rfl⟩⟩
end

mutual
theorem toTree_wf : ∀ (d : NDict) (t : Tree), d.toTree = .ok t → WF d
  | .mk n a cs => by
    intro t h
    obtain ⟨hn, ts, hts, hnd, _⟩ := (toTree_ok_iff ..).mp h
    rw [WF]
    exact ⟨hn, (namesNodup_of_toTreeL cs ts hts).mp hnd, toTreeL_wf cs ts hts⟩
theorem toTreeL_wf : ∀ (ds : List NDict) (ts : List Tree), toTreeL ds = .ok ts → WFL ds
  | [] => by intro _ _; rw [WFL]; trivial
  | d :: ds => by
    intro ts h
    obtain ⟨t, ts', ht, hts, _⟩ := (toTreeL_cons_ok_iff ..).mp h
    rw [WFL]
    exact ⟨toTree_wf d t ht, toTreeL_wf ds ts' hts⟩
end

end NDict
