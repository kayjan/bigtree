import Mathlib.Data.List.Nodup
import Mathlib.Data.List.Perm.Basic
import BigtreeModel.Relation
import BigtreeProofs.Lemmas.PathsAddr
import BigtreeProofs.Lemmas.PathsSet
import BigtreeProofs.Lemmas.PathsNoDup
import BigtreeProofs.Lemmas.Nested
import BigtreeProofs.Lemmas.RelationBuild
/-!
# `*_by_relation` on the edge list of a tree, rows in any order (C13)

`T` is a tree whose non-leaf names are carried by no other node (`NonLeafUnique`), with
pairwise different sibling names and non-empty names; `rows` is any permutation of `edges T`,
possibly with rows that name the root without a parent.
-/

namespace Rel
open Paths

/-! ## the rows of a tree -/

/-- the row of child `c` under parent `p` -/
def rowOf (p c : Tree) : Row := ⟨c.name, some p.name, c.attrs⟩

theorem edges_eq (t : Tree) : edges t = t.children.map (rowOf t) ++ t.children.flatMap edges := by
  have hall : ∀ cs : List Tree, edgesAll cs = cs.flatMap edges := by
    intro cs
    induction cs with
    | nil => simp [edgesAll]
    | cons c cs ih => simp [edgesAll, ih]
  cases t; simp [edges, rowOf, hall]

theorem mem_edges_addr : ∀ (t : Tree) (r : Row),
    r ∈ edges t ↔ ∃ (a : Addr) (p : Tree) (k : Nat) (d : Tree),
      nodeAt a t = some p ∧ p.children[k]? = some d ∧ r = rowOf p d := by
  intro t
  induction t using Tree.ind with
  | h i n at' cs ih =>
    intro r
    rw [edges_eq, List.mem_append, List.mem_map, List.mem_flatMap]
    constructor
    · rintro (⟨d, hd, rfl⟩ | ⟨c, hc, hr⟩)
      · obtain ⟨k, hk⟩ := List.getElem?_of_mem hd
        exact ⟨[], _, k, d, rfl, hk, rfl⟩
      · obtain ⟨a, p, k, d, hp, hd, rfl⟩ := (ih c hc r).mp hr
        obtain ⟨j, hj⟩ := List.getElem?_of_mem hc
        exact ⟨j :: a, p, k, d, nodeAt_cons_eq_some.mpr ⟨c, hj, hp⟩, hd, rfl⟩
    · rintro ⟨a, p, k, d, hp, hd, rfl⟩
      cases a with
      | nil => cases hp; exact .inl ⟨d, List.mem_of_getElem? hd, rfl⟩
      | cons j ks =>
        obtain ⟨c, hj, hp⟩ := nodeAt_cons_eq_some.mp hp
        have hc : c ∈ cs := List.mem_of_getElem? hj
        exact .inr ⟨c, hc, (ih c hc _).mpr ⟨ks, p, k, d, hp, hd, rfl⟩⟩

theorem children_ne_nil_of_mem_edges {t : Tree} {r : Row} (hr : r ∈ edges t) : t.children ≠ [] := by
  intro e; rw [edges_eq, e] at hr; cases hr

theorem length_edges_lt {t c : Tree} (hc : c ∈ t.children) : (edges c).length < (edges t).length := by
  rw [edges_eq t, List.length_append, List.length_map]
  have h1 := (List.sublist_flatten_of_mem (List.mem_map_of_mem (f := edges) hc)).length_le
  have h2 := List.length_pos_of_mem hc
  rw [List.flatMap_def]
  omega

theorem parent_root_or_child {t : Tree} {r : Row} (hr : r ∈ edges t) :
    ∃ x, r.parent = some x ∧ (x = t.name ∨ ∃ r' ∈ edges t, r'.child = x) := by
  obtain ⟨a, p, k, d, hp, hd, rfl⟩ := (mem_edges_addr t r).mp hr
  refine ⟨p.name, rfl, ?_⟩
  rcases List.eq_nil_or_concat a with rfl | ⟨a', j, rfl⟩
  · cases hp; exact .inl rfl
  · rw [List.concat_eq_append] at hp
    obtain ⟨p', hp', hj⟩ := nodeAt_snoc_eq_some.mp hp
    exact .inr ⟨rowOf p' p, (mem_edges_addr t _).mpr ⟨a', p', j, p, hp', hj, rfl⟩, rfl⟩

/-! ## trees whose non-leaf names are unique -/

/-- the name of a node that has children is carried by no other node -/
def NonLeafUnique (t : Tree) : Prop :=
  ∀ (a b : Addr) (na nb : Tree), nodeAt a t = some na → nodeAt b t = some nb →
    na.children ≠ [] → na.name = nb.name → a = b

theorem NonLeafUnique.child {t c : Tree} {k : Nat} (h : NonLeafUnique t) (hk : t.children[k]? = some c) :
    NonLeafUnique c := fun a b na nb ha hb hne hn =>
  List.tail_eq_of_cons_eq (h (k :: a) (k :: b) na nb (nodeAt_cons_eq_some.mpr ⟨c, hk, ha⟩)
    (nodeAt_cons_eq_some.mpr ⟨c, hk, hb⟩) hne hn)

/-- executable sufficient check for `NonLeafUnique` (used for the non-vacuity examples) -/
def nonLeafUniqueB (t : Tree) : Bool :=
  (names t).all fun c =>
    decide ((findName c t).length ≤ 1) ||
      (findName c t).all fun a => match nodeAt a t with
        | some n => n.children.isEmpty
        | none => true

theorem nonLeafUnique_of_check (t : Tree) (h : nonLeafUniqueB t = true) : NonLeafUnique t := by
  intro a b na nb ha hb hne hn
  have hma : a ∈ findName na.name t := (mem_findName _ t a).mpr ⟨na, ha, rfl⟩
  have hmb : b ∈ findName na.name t := (mem_findName _ t b).mpr ⟨nb, hb, hn.symm⟩
  have hc := List.all_eq_true.mp h _ ((mem_names_iff t _).mpr ⟨a, na, ha, rfl⟩)
  rcases Bool.or_eq_true_iff.mp hc with h1 | h2
  · -- at most one address carries the name
    match findName na.name t, hma, hmb, of_decide_eq_true h1 with
    | [x], hma, hmb, _ => rw [List.mem_singleton.mp hma, List.mem_singleton.mp hmb]
  · -- every carrier of the name is a leaf
    have := List.all_eq_true.mp h2 a hma
    rw [ha] at this
    exact absurd (List.isEmpty_iff.mp this) hne

section
variable {T : Tree} (hu : NonLeafUnique T)
include hu

theorem addr_of_child_eq {a b : Addr} {p d q : Tree} {k : Nat} (hp : nodeAt a T = some p)
    (hd : p.children[k]? = some d) (hq : nodeAt b T = some q) (hne : q.children ≠ [])
    (hn : q.name = d.name) : b = a ++ [k] :=
  hu b (a ++ [k]) q d hq (nodeAt_snoc_eq_some.mpr ⟨p, hp, hd⟩) hne hn

theorem child_ne_root {r : Row} (hr : r ∈ edges T) : r.child ≠ T.name := by
  obtain ⟨a, p, k, d, hp, hd, rfl⟩ := (mem_edges_addr T r).mp hr
  intro hc
  have := addr_of_child_eq hu hp hd (b := []) rfl (children_ne_nil_of_mem_edges hr) hc.symm
  exact List.append_ne_nil_of_right_ne_nil a (List.cons_ne_nil k []) this.symm

theorem parent_eq_of_child_eq {r1 r2 r3 : Row} (h1 : r1 ∈ edges T) (h2 : r2 ∈ edges T) (h3 : r3 ∈ edges T)
    (hc : r1.child = r2.child) (hp : r3.parent = some r1.child) : r1.parent = r2.parent := by
  obtain ⟨a1, p1, k1, d1, hp1, hd1, rfl⟩ := (mem_edges_addr T r1).mp h1
  obtain ⟨a2, p2, k2, d2, hp2, hd2, rfl⟩ := (mem_edges_addr T r2).mp h2
  obtain ⟨a3, p3, k3, d3, hp3, hd3, rfl⟩ := (mem_edges_addr T r3).mp h3
  have hn : p3.name = d1.name := Option.some.inj hp
  have hne : p3.children ≠ [] := List.ne_nil_of_mem (List.mem_of_getElem? hd3)
  have e1 := addr_of_child_eq hu hp1 hd1 hp3 hne hn
  have e2 := addr_of_child_eq hu hp2 hd2 hp3 hne (hn.trans hc)
  obtain rfl : a1 = a2 := List.append_inj_left' (e1.symm.trans e2) rfl
  rw [hp1] at hp2; cases hp2; rfl

end

theorem filter_flatMap_single {α β} (f : α → List β) (P : β → Bool) (l : List α) (k : Nat) (c : α)
    (hk : l[k]? = some c) (ho : ∀ j c', j ≠ k → l[j]? = some c' → (f c').filter P = []) :
    (l.flatMap f).filter P = (f c).filter P := by
  induction l generalizing k with
  | nil => cases hk
  | cons x xs ih =>
    rw [List.flatMap_cons, List.filter_append]
    cases k with
    | zero =>
      cases hk
      rw [List.append_right_eq_self, List.filter_eq_nil_iff]
      intro r hr
      obtain ⟨c', hc', hr⟩ := List.mem_flatMap.mp hr
      obtain ⟨j, hj⟩ := List.getElem?_of_mem hc'
      exact List.filter_eq_nil_iff.mp (ho (j + 1) c' (Nat.succ_ne_zero j) hj) r hr
    | succ k =>
      rw [ho 0 x (Nat.succ_ne_zero k).symm rfl, List.nil_append]
      exact ih k hk fun j c' hj hc' => ho (j + 1) c' (mt Nat.succ.inj hj) hc'

theorem filter_edges_parent (a : Addr) : ∀ (t s : Tree), NonLeafUnique t → nodeAt a t = some s →
    (edges t).filter (fun r => r.parent = some s.name) = s.children.map (rowOf s) := by
  -- a row of the subtree `c = t.children[j]` names a non-leaf below `j` as parent
  have below : ∀ {t c s : Tree} {j : Nat} {b : Addr} {r : Row}, NonLeafUnique t → t.children[j]? = some c →
      r ∈ edges c → nodeAt b t = some s → r.parent = some s.name → ∃ b', b = j :: b' := by
    intro t c s j b r hu hj hr hs hP
    obtain ⟨b', p, k, d, hp, hd, rfl⟩ := (mem_edges_addr c r).mp hr
    exact ⟨b', (hu (j :: b') b p s (nodeAt_cons_eq_some.mpr ⟨c, hj, hp⟩) hs (List.ne_nil_of_mem (List.mem_of_getElem? hd))
      (Option.some.inj hP)).symm⟩
  induction a with
  | nil =>
    intro t s hu hs
    cases hs
    have h1 : ∀ r ∈ t.children.map (rowOf t), decide (r.parent = some t.name) = true :=
      List.forall_mem_map.mpr fun _ _ => decide_eq_true rfl
    rw [edges_eq, List.filter_append, List.filter_eq_self.mpr h1, List.append_right_eq_self,
      List.filter_eq_nil_iff]
    intro r hr hP
    obtain ⟨c, hc, hr⟩ := List.mem_flatMap.mp hr
    obtain ⟨j, hj⟩ := List.getElem?_of_mem hc
    obtain ⟨_, e⟩ := below hu hj hr (b := []) rfl (of_decide_eq_true hP)
    cases e
  | cons k ks ih =>
    intro t s hu hs
    obtain ⟨c, hk, hs'⟩ := nodeAt_cons_eq_some.mp hs
    rw [edges_eq, List.filter_append, filter_flatMap_single _ _ t.children k c hk, ih c s (hu.child hk) hs',
      List.append_left_eq_self, List.filter_eq_nil_iff]
    · intro r hr hP
      obtain ⟨d, -, rfl⟩ := List.mem_map.mp hr
      have := hu [] (k :: ks) t s rfl hs (List.ne_nil_of_mem (List.mem_of_getElem? hk))
        (Option.some.inj (of_decide_eq_true hP))
      cases this
    · intro j c' hj hc'
      rw [List.filter_eq_nil_iff]
      intro r hr hP
      obtain ⟨_, e⟩ := below hu hc' hr hs (of_decide_eq_true hP)
      exact hj (List.head_eq_of_cons_eq e).symm

/-! ## what `build` returns -/

/-- children list built for `x` (empty on refusal) -/
def buildOk (rows : List Row) (f : Nat) (x : Str) : List Tree :=
  match build rows f x with
  | .ok cs => cs
  | .error _ => []

/-- the node created for a row -/
def mkNode (rows : List Row) (f : Nat) (r : Row) : Tree :=
  .node 0 r.child (rowAttrs r) (buildOk rows f r.child)

theorem mkNode_of_build {rows : List Row} {f : Nat} {r : Row} {cs : List Tree}
    (h : build rows f r.child = .ok cs) : mkNode rows f r = .node 0 r.child (rowAttrs r) cs := by
  rw [mkNode, buildOk, h]

/-- the function `build` maps over the selected rows -/
def stepFn (rows : List Row) (f : Nat) (r : Row) : Except Err Tree :=
  if r.child = [] then .error .tree
  else
    match build rows f r.child with
    | .error e => .error e
    | .ok cs => .ok (.node 0 r.child (rowAttrs r) cs)

theorem stepFn_ok (rows : List Row) (f : Nat) (r : Row) (t : Tree) :
    stepFn rows f r = .ok t ↔ (r.child ≠ [] ∧ ∃ cs, build rows f r.child = .ok cs) ∧ t = mkNode rows f r := by
  unfold stepFn mkNode buildOk
  by_cases hc : r.child = []
  · simp [hc]
  · cases build rows f r.child <;> simp [hc, eq_comm]

theorem build_succ_ok (rows : List Row) (f : Nat) (x : Str) (cs : List Tree) :
    build rows (f + 1) x = .ok cs ↔
      (∀ r ∈ rows.filter (fun r => r.parent = some x), r.child ≠ [] ∧ ∃ cs', build rows f r.child = .ok cs') ∧
      cs = (rows.filter fun r => r.parent = some x).map (mkNode rows f) ∧ namesNodup cs = true := by
  have hb : build rows (f + 1) x =
      match mapE (stepFn rows f) (rows.filter fun r => r.parent = some x) with
      | .error e => .error e
      | .ok cs => if namesNodup cs then .ok cs else .error .tree := by
    simp only [build]; rfl
  rw [hb, ← and_assoc, ← mapE_ok_iff (stepFn_ok rows f)]
  cases mapE (stepFn rows f) (rows.filter fun r => r.parent = some x) with
  | error e => simp
  | ok ts =>
    by_cases hn : namesNodup ts = true
    · simp only [hn, if_true, Except.ok.injEq]
      constructor
      · rintro rfl; exact ⟨rfl, hn⟩
      · exact fun h => h.1
    · simp only [hn, if_false, reduceCtorEq, Except.ok.injEq, false_iff]
      rintro ⟨rfl, h⟩; exact hn h

/-- the children of `n` are the rows naming `n` as parent, in row order, with their non-null cells -/
def ChildSpec (rows : List Row) (n : Tree) : Prop :=
  n.children.map (fun c => (c.name, c.attrs)) =
    (rows.filter fun r => r.parent = some n.name).map (fun r => (r.child, rowAttrs r))

theorem build_spec (rows : List Row) : ∀ (f : Nat) (x : Str) (cs : List Tree) (i : Nat) (at' : Attrs),
    build rows f x = .ok cs → ∀ a n, nodeAt a (.node i x at' cs) = some n → ChildSpec rows n := by
  intro f
  induction f with
  | zero => intro x cs i at' h; simp [build] at h
  | succ f ih =>
    intro x cs i at' h a n hn
    obtain ⟨h1, rfl, -⟩ := (build_succ_ok rows f x cs).mp h
    cases a with
    | nil =>
      cases hn
      unfold ChildSpec
      rw [Tree.children_node, List.map_map]; rfl
    | cons k ks =>
      obtain ⟨c, hc, hn⟩ := nodeAt_cons_eq_some.mp hn
      obtain ⟨r, hr, rfl⟩ := List.mem_map.mp (List.mem_of_getElem? hc)
      obtain ⟨-, cs', hcs'⟩ := h1 r hr
      rw [mkNode_of_build hcs'] at hn
      exact ih r.child cs' _ _ hcs' ks n hn

/-- On a sub-tree all of whose nodes find exactly their children's rows among `rows` (in some
    order), the recursive descent succeeds with more fuel than the sub-tree has edges and rebuilds
    exactly the edges. -/
theorem build_tree (rows : List Row) : ∀ (s : Tree), SibUnique s →
    (∀ b n, nodeAt b s = some n → n.name ≠ [] ∧
      (rows.filter fun r => r.parent = some n.name).Perm (n.children.map (rowOf n))) →
    ∀ f, (edges s).length < f →
      ∃ cs, build rows f s.name = .ok cs ∧
        ∀ i a, (edges (.node i s.name a cs)).Perm ((edges s).map norm) := by
  intro s
  induction s using Tree.ind with
  | h i n at' kids ih =>
    intro hsu hyp f hf
    cases f with
    | zero => exact absurd hf (Nat.not_lt_zero _)
    | succ f =>
    have hperm := (hyp [] _ rfl).2
    rw [Tree.name_node, Tree.children_node] at hperm
    rw [Tree.name_node]
    have hkid : ∀ c ∈ kids, c.name ≠ [] ∧ ∃ cs, build rows f c.name = .ok cs ∧
        ∀ i a, (edges (.node i c.name a cs)).Perm ((edges c).map norm) := by
      intro c hc
      obtain ⟨k, hk⟩ := List.getElem?_of_mem hc
      have hyp' := fun b m (hm : nodeAt b c = some m) => hyp (k :: b) m (nodeAt_cons_eq_some.mpr ⟨c, hk, hm⟩)
      exact ⟨(hyp' [] c rfl).1, ih c hc (hsu.child hk) hyp' f
        (Nat.lt_of_lt_of_le (length_edges_lt (t := .node i n at' kids) hc) (Nat.le_of_lt_succ hf))⟩
    refine ⟨_, (build_succ_ok rows f n _).mpr ⟨?_, rfl, ?_⟩, ?_⟩
    · intro r hr
      obtain ⟨c, hc, rfl⟩ := List.mem_map.mp (hperm.mem_iff.mp hr)
      obtain ⟨h1, cs, hcs, -⟩ := hkid c hc
      exact ⟨h1, cs, hcs⟩
    · -- the created nodes carry the kids' names
      rw [namesNodup_iff, List.map_map]
      refine ((hperm.map _).nodup_iff.mpr ?_)
      rw [List.map_map]
      exact ((sibUnique_iff _).mp hsu).1
    · intro j a
      rw [edges_eq, edges_eq (.node i n at' kids)]
      simp only [Tree.children_node, List.map_append]
      refine .append ?_ ?_
      · rw [List.map_map]
        refine .trans (.of_eq (List.map_congr_left fun r hr => ?_)) (hperm.map norm)
        show (⟨r.child, some n, rowAttrs r⟩ : Row) = norm r
        rw [← of_decide_eq_true (List.mem_filter.mp hr).2]; rfl
      · rw [List.flatMap_map, List.map_flatMap]
        refine .trans (hperm.flatMap_right _) ?_
        rw [List.flatMap_map]
        refine .flatMap_left _ fun c hc => ?_
        obtain ⟨-, cs, hcs, hp⟩ := hkid c hc
        show (edges (mkNode rows f (rowOf _ c))).Perm _
        rw [mkNode_of_build (r := rowOf (.node i n at' kids) c) hcs]
        exact hp _ _

section
variable {T : Tree} (hu : NonLeafUnique T) {pre rows : List Row}
  (hpre : ∀ r ∈ pre, r.child = T.name ∧ r.parent = none) (hmem : ∀ r, r ∈ rows ↔ r ∈ pre ∨ r ∈ edges T)
include hu hpre hmem

theorem isRootCand_of_tree (hrows : rows ≠ []) (y : Str) : IsRootCand rows y ↔ y = T.name := by
  constructor
  · rintro (⟨r, hr, hp, rfl⟩ | ⟨⟨r, hr, hp⟩, hnc⟩)
    · -- `r` has no parent: it is a row of `pre`, since every edge has one
      rcases (hmem r).mp hr with h | h
      · exact (hpre r h).1
      · obtain ⟨x, hx, -⟩ := parent_root_or_child h
        rw [hp] at hx; cases hx
    · -- `r` has parent `y`, which is never a child: `r` is an edge and `y`, not being a child, is the root
      rcases (hmem r).mp hr with h | h
      · rw [(hpre r h).2] at hp; cases hp
      · obtain ⟨x, hx, h'⟩ := parent_root_or_child h
        obtain rfl : x = y := Option.some.inj (hx.symm.trans hp)
        rcases h' with rfl | ⟨r', hr', rfl⟩
        · rfl
        · exact absurd rfl (hnc r' ((hmem r').mpr (.inr hr')))
  · rintro rfl
    cases pre with
    | cons r0 _ =>
      have h0 := hpre r0 List.mem_cons_self
      exact .inl ⟨r0, (hmem r0).mpr (.inl List.mem_cons_self), h0.2, h0.1⟩
    | nil =>
      -- all rows are edges: the root has a child, and no row names the root as child
      have hedge : ∀ r ∈ rows, r ∈ edges T := fun r hr => ((hmem r).mp hr).resolve_left List.not_mem_nil
      obtain ⟨r, hr⟩ := List.exists_mem_of_ne_nil rows hrows
      obtain ⟨d, hd⟩ := List.exists_mem_of_ne_nil _ (children_ne_nil_of_mem_edges (hedge r hr))
      have h0 : rowOf T d ∈ edges T := by
        rw [edges_eq]; exact List.mem_append_left _ (List.mem_map_of_mem hd)
      exact .inr ⟨⟨_, (hmem _).mpr (.inr h0), rfl⟩, fun r hr => child_ne_root hu (hedge r hr)⟩

theorem dupChildren_of_tree : dupChildren rows = false := by
  rw [← Bool.not_eq_true, dupChildren_iff]
  rintro ⟨r1, h1, r2, h2, r3, h3, hc, hp, hpar⟩
  -- `r3` names a parent, so it is an edge row
  rcases (hmem r3).mp h3 with h3 | h3
  · rw [(hpre r3 h3).2] at hpar; cases hpar
  rcases (hmem r1).mp h1 with h1 | h1 <;> rcases (hmem r2).mp h2 with h2 | h2
  · exact hp ((hpre r1 h1).2.trans (hpre r2 h2).2.symm)
  · exact child_ne_root hu h2 (hc.symm.trans (hpre r1 h1).1)
  · exact child_ne_root hu h1 (hc.trans (hpre r2 h2).1)
  · exact hp (parent_eq_of_child_eq hu h1 h2 h3 hc hpar)

end

/-- What `relToTree` computes on its way through rows that are any permutation of the edge list of
    `T`, possibly with rows `pre` naming the root without a parent. -/
theorem rows_of_tree (T : Tree) (hsu : SibUnique T) (hu : NonLeafUnique T)
    (hne : ∀ b n, nodeAt b T = some n → n.name ≠ []) (pre : List Row)
    (hpre : ∀ r ∈ pre, r.child = T.name ∧ r.parent = none) (rows : List Row)
    (hperm : rows.Perm (pre ++ edges T)) (hrows : rows ≠ []) :
    rootNames rows = [T.name] ∧ dupChildren rows = false ∧ (∀ r ∈ rows, r.child = T.name → r ∈ pre) ∧
    ∃ cs, build rows (rows.length + 1) T.name = .ok cs ∧
      (edges (.node 0 T.name [] cs)).Perm ((edges T).map norm) := by
  have hmem : ∀ r, r ∈ rows ↔ r ∈ pre ∨ r ∈ edges T := fun r => by rw [hperm.mem_iff, List.mem_append]
  refine ⟨(rootNames_eq_singleton_iff rows _).mpr (isRootCand_of_tree hu hpre hmem hrows),
    dupChildren_of_tree hu hpre hmem, ?_, ?_⟩
  · intro r hr hc
    exact ((hmem r).mp hr).resolve_right fun h => child_ne_root hu h hc
  · have hlen : (edges T).length < rows.length + 1 := by
      rw [hperm.length_eq, List.length_append]; omega
    have hhyp : ∀ b n, nodeAt b T = some n → n.name ≠ [] ∧
        (rows.filter fun r => r.parent = some n.name).Perm (n.children.map (rowOf n)) := by
      intro b n hn
      have hp0 : pre.filter (fun r => r.parent = some n.name) = [] :=
        List.filter_eq_nil_iff.mpr fun r hr => by simp [(hpre r hr).2]
      have := hperm.filter (fun r => r.parent = some n.name)
      rw [List.filter_append, filter_edges_parent b T n hu hn, hp0, List.nil_append] at this
      exact ⟨hne b n hn, this⟩
    obtain ⟨cs, hcs, hpe⟩ := build_tree rows T hsu hhyp _ hlen
    exact ⟨cs, hcs, hpe 0 []⟩

end Rel
