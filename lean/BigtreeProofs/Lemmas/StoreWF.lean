import BigtreeProofs.Lemmas.StoreBasic
/-!
# Pointer store: closed forms of the setter bodies and preservation of well-formedness
-/

namespace Store
open Relation (TransGen)

/-! ## overwriting a field twice, with what it holds, or under a `match` on an optional node -/

theorem setC_setC (s : Store) (x : Nat) (l l' : List Nat) : (s.setC x l).setC x l' = s.setC x l' :=
  ext' rfl rfl (funext fun y => by simp only [setC_children]; by_cases h : y = x <;> simp [h]) rfl rfl

theorem setC_self (s : Store) (x : Nat) : s.setC x (s.children x) = s :=
  ext' rfl rfl (funext fun _ => ite_eq_right_iff.2 fun h => h ▸ rfl) rfl rfl

theorem setP_setP (s : Store) (x : Nat) (p p' : Option Nat) : (s.setP x p).setP x p' = s.setP x p' :=
  ext' rfl (funext fun y => by simp only [setP_parent]; by_cases h : y = x <;> simp [h]) rfl rfl rfl

theorem setP_self (s : Store) (x : Nat) : s.setP x (s.parent x) = s :=
  ext' rfl (funext fun _ => ite_eq_right_iff.2 fun h => h ▸ rfl) rfl rfl rfl

theorem match_setC (s : Store) (o : Option Nat) (f : Nat → List Nat) :
    (match o with | none => s | some p => s.setC p (f p)) =
      { s with children := fun x => if o = some x then f x else s.children x } := by
  cases o with
  | none => exact ext' rfl rfl (funext fun x => by
    show s.children x = if none = some x then f x else s.children x
    rw [if_neg nofun]) rfl rfl
  | some p =>
    exact ext' rfl rfl (funext fun x => ite_congr (propext ⟨fun h => h ▸ rfl, fun h => (Option.some.inj h).symm⟩)
      (fun h => congrArg f (Option.some.inj h)) fun _ => rfl) rfl rfl

/-! ## the parent setter -/

/-- closed form of the body of the parent setter -/
def reparent (s : Store) (v : Nat) (np : Option Nat) : Store :=
  { s with
    parent := fun x => if x = v then np else s.parent x
    children := fun x =>
      let ch1 := if s.parent v = some x then (s.children x).erase v else s.children x
      if np = some x then ch1 ++ [v] else ch1 }

theorem parentBody_eq (s : Store) (v : Nat) (np : Option Nat) :
    (parentBody s v np).1 = reparent s v np := by
  have h1 : (parentBody s v np).1 =
      match np with
      | none => (match s.parent v with | none => s | some p => s.setC p ((s.children p).erase v)).setP v np
      | some q => ((match s.parent v with | none => s | some p => s.setC p ((s.children p).erase v)).setP v np).setC q
          ((match s.parent v with | none => s | some p => s.setC p ((s.children p).erase v)).children q ++ [v]) := by
    unfold parentBody
    cases s.parent v <;> rfl
  rw [h1, match_setC s (s.parent v)]
  exact match_setC _ np _

theorem reparent_parent (s : Store) (v : Nat) (np : Option Nat) (x : Nat) :
    (reparent s v np).parent x = if x = v then np else s.parent x := rfl

theorem reparent_children (s : Store) (v : Nat) (np : Option Nat) (x : Nat) :
    (reparent s v np).children x =
      if np = some x then (if s.parent v = some x then (s.children x).erase v else s.children x) ++ [v]
      else (if s.parent v = some x then (s.children x).erase v else s.children x) := rfl

/-- in a forest `v` is in no list but its parent's, so every list is the old one without `v` -/
theorem reparent_ch1_eq_erase {s : Store} (hw : WF s) (v q : Nat) :
    (if s.parent v = some q then (s.children q).erase v else s.children q) = (s.children q).erase v := by
  by_cases h : s.parent v = some q
  · rw [if_pos h]
  · rw [if_neg h, List.erase_of_not_mem fun hv => h (hw.down q v hv)]

theorem mem_reparent_children {s : Store} (hw : WF s) {v : Nat} {np : Option Nat} {q c : Nat} :
    c ∈ (reparent s v np).children q ↔ (c ≠ v ∧ c ∈ s.children q) ∨ (c = v ∧ np = some q) := by
  rw [reparent_children, reparent_ch1_eq_erase hw]
  by_cases hq : np = some q
  · rw [if_pos hq, List.mem_append, (hw.nodup q).mem_erase_iff, List.mem_singleton]
    exact or_congr_right ⟨fun h => ⟨h, hq⟩, (·.1)⟩
  · rw [if_neg hq, (hw.nodup q).mem_erase_iff]
    exact ⟨.inl, (·.elim id fun h => absurd h.2 hq)⟩

theorem wf_reparent {s : Store} (hw : WF s) (v : Nat) (np : Option Nat) (hv : v < s.n)
    (hnp : ∀ p, np = some p → p < s.n ∧ ¬ Reach s v p) : WF (reparent s v np) where
  up c q h := by
    rw [reparent_parent] at h
    by_cases hc : c = v
    · exact (mem_reparent_children hw).2 (.inr ⟨hc, (if_pos hc).symm.trans h⟩)
    · exact (mem_reparent_children hw).2 (.inl ⟨hc, hw.up c q ((if_neg hc).symm.trans h)⟩)
  down q c h := by
    rw [reparent_parent]
    rcases (mem_reparent_children hw).1 h with ⟨hc, h⟩ | ⟨hc, h⟩
    · exact (if_neg hc).trans (hw.down q c h)
    · exact (if_pos hc).trans h
  nodup q := by
    rw [reparent_children, reparent_ch1_eq_erase hw]
    by_cases hq : np = some q
    · rw [if_pos hq]
      refine List.nodup_append.2 ⟨(hw.nodup q).erase v, List.pairwise_singleton _ v, fun a ha b hb e => ?_⟩
      rw [e, List.mem_singleton.1 hb] at ha
      exact ((hw.nodup q).mem_erase_iff.1 ha).1 rfl
    · rw [if_neg hq]
      exact (hw.nodup q).erase v
  acyc := by
    cases np with
    | none =>
      refine ParentFn.acc_add_out hw.acyc v (fun _ => False) (fun q x h => .inl ?_) nofun
      by_cases hx : x = v
      · exact nomatch (if_pos hx).symm.trans h
      · exact (if_neg hx).symm.trans h
    | some p =>
      refine ParentFn.acc_add_out hw.acyc p (· = v) (fun q x h => ?_) fun c hc => ?_
      · by_cases hx : x = v
        · exact .inr ⟨(Option.some.inj ((if_pos hx).symm.trans h)).symm, hx⟩
        · exact .inl ((if_neg hx).symm.trans h)
      · exact hc ▸ not_or.1 (mt reach_iff_transGen.2 (hnp p rfl).2)
  range c q h := by
    rw [reparent_parent] at h
    by_cases hc : c = v
    · exact ⟨hc ▸ hv, (hnp q ((if_pos hc).symm.trans h)).1⟩
    · exact hw.range c q ((if_neg hc).symm.trans h)

/-! ## closed forms of `del v.children` and of the body of the children setter -/

/-- closed form of `del v.children` -/
def detached (s : Store) (v : Nat) : Store :=
  { s with parent := fun x => if s.parent x = some v then none else s.parent x
           children := fun x => if x = v then [] else s.children x }

/-- closed form of the body of the children setter -/
def adopted (s : Store) (v : Nat) (cs : List Nat) : Store :=
  { s with parent := fun x => if x ∈ cs then some v else if s.parent x = some v then none else s.parent x
           children := fun x => if x = v then cs else (s.children x).filter fun y => !cs.contains y }

theorem adopted_parent (s : Store) (v : Nat) (cs : List Nat) :
    (adopted s v cs).parent = ParentFn.adoptFn s.parent (· ∈ cs) v := rfl

theorem adopted_children (s : Store) (v : Nat) (cs : List Nat) (x : Nat) :
    (adopted s v cs).children x = if x = v then cs else (s.children x).filter fun y => !cs.contains y := rfl

theorem detached_parent (s : Store) (v : Nat) :
    (detached s v).parent = ParentFn.adoptFn s.parent (fun _ => False) v := rfl

theorem detached_children (s : Store) (v : Nat) (x : Nat) :
    (detached s v).children x = if x = v then [] else s.children x := rfl

theorem detached_eq_adopted (s : Store) (v : Nat) : detached s v = adopted s v [] :=
  ext' rfl rfl (funext fun x => by
    rw [adopted_children, detached_children]
    split
    · rfl
    · exact (List.filter_eq_self.2 fun _ _ => rfl).symm) rfl rfl

/-- the new children are nodes that are neither `v` nor above `v`, and `v` is a node if it gets any -/
theorem wf_adopted_of {s : Store} (hw : WF s) {v : Nat} {cs : List Nat} (hn : cs.Nodup)
    (hcs : ∀ c ∈ cs, c < s.n ∧ v < s.n ∧ ¬ Reach s c v) : WF (adopted s v cs) where
  up c q h := by
    rw [adopted_parent] at h
    rw [adopted_children]
    rcases ParentFn.adoptFn_eq_some.1 h with ⟨hc, rfl⟩ | ⟨hc, hp, hq⟩
    · rwa [if_pos rfl]
    · rw [if_neg hq]
      exact List.mem_filter.2 ⟨hw.up c q hp, by simpa using hc⟩
  down q c h := by
    rw [adopted_parent]
    rw [adopted_children] at h
    by_cases hq : q = v
    · rw [if_pos hq] at h
      exact ParentFn.adoptFn_eq_some.2 (.inl ⟨h, hq⟩)
    · rw [if_neg hq] at h
      have h := List.mem_filter.1 h
      exact ParentFn.adoptFn_eq_some.2 (.inr ⟨by simpa using h.2, hw.down q c h.1, hq⟩)
  nodup q := by
    rw [adopted_children]
    by_cases hq : q = v
    · rw [if_pos hq]; exact hn
    · rw [if_neg hq]; exact (hw.nodup q).filter _
  acyc := ParentFn.acc_adoptFn hw.acyc fun c hc => not_or.1 (mt reach_iff_transGen.2 (hcs c hc).2.2)
  range c q h := by
    rw [adopted_parent] at h
    rcases ParentFn.adoptFn_eq_some.1 h with ⟨hc, rfl⟩ | ⟨_, hp, _⟩
    · exact ⟨(hcs c hc).1, (hcs c hc).2.1⟩
    · exact hw.range c q hp

theorem wf_adopted {s : Store} (hw : WF s) (v : Nat) (cs : List Nat) (hv : v < s.n) (hn : cs.Nodup)
    (hcs : ∀ c ∈ cs, c < s.n ∧ ¬ Reach s c v) : WF (adopted s v cs) :=
  wf_adopted_of hw hn fun c hc => ⟨(hcs c hc).1, hv, (hcs c hc).2⟩

theorem wf_detached {s : Store} (hw : WF s) (v : Nat) : WF (detached s v) :=
  detached_eq_adopted s v ▸ wf_adopted_of hw List.nodup_nil nofun

/-! ## the loops of the children deleter and of the children setter -/

/-- one iteration of either loop: `c` leaves the list of its parent and gets the parent `x` -/
def relink (x : Option Nat) (st : Store) (c : Nat) : Store :=
  { st with parent := fun y => if y = c then x else st.parent y
            children := fun y => if st.parent c = some y then (st.children y).erase c else st.children y }

theorem setP_match_setC (x : Option Nat) (st : Store) (c : Nat) :
    (match st.parent c with
      | none => st
      | some p => st.setC p ((st.children p).erase c)).setP c x = relink x st c := by
  rw [match_setC st (st.parent c) fun p => (st.children p).erase c]
  rfl

theorem stealStep_eq (v : Nat) : stealStep v = relink (some v) :=
  funext fun st => funext fun c => by
    rw [← setP_match_setC]
    unfold stealStep
    cases st.parent c <;> rfl

theorem detachStep_eq : detachStep = relink none :=
  funext fun st => funext fun c => by
    rw [← setP_match_setC]
    unfold detachStep
    cases h : st.parent c
    · exact (h ▸ setP_self st c).symm
    · rfl

/-- the loop has relinked the members of `D`: they are gone from every list, except from the list of `fz`,
which no iteration touches -/
def relinked (s : Store) (x fz : Option Nat) (D : List Nat) : Store :=
  { s with parent := fun y => if y ∈ D then x else s.parent y
           children := fun y =>
             if fz = some y then s.children y else (s.children y).filter fun z => !D.contains z }

theorem relinked_nil (s : Store) (x fz : Option Nat) : relinked s x fz [] = s :=
  ext' rfl rfl (funext fun _ => (ite_congr rfl (fun _ => rfl) fun _ => List.filter_eq_self.2 fun _ _ => rfl).trans
    (ite_self _)) rfl rfl

theorem filter_not_contains_snoc (l D : List Nat) (c : Nat) :
    l.filter (fun y => !(D ++ [c]).contains y) = (l.filter fun y => !D.contains y).filter fun y => y != c := by
  rw [List.filter_filter]
  refine List.filter_congr fun y _ => ?_
  simp only [List.contains_append, List.contains_cons, List.contains_nil, Bool.or_false, Bool.not_or, bne,
    Bool.and_comm]

section
-- the forest laws, asked of every list but that of `fz`: while the children setter runs its loop, `v`'s
-- own list already holds `cs` and is no list of the forest any more
variable {s : Store} {x fz : Option Nat}
  (hdown : ∀ p y, fz ≠ some p → y ∈ s.children p → s.parent y = some p)
  (hnd : ∀ p, fz ≠ some p → (s.children p).Nodup)
include hdown hnd

theorem relink_relinked {D : List Nat} {c : Nat} (hcD : c ∉ D) (hc : ∀ p, s.parent c = some p → fz ≠ some p) :
    relink x (relinked s x fz D) c = relinked s x fz (D ++ [c]) := by
  refine ext' rfl (funext fun y => ?_) (funext fun y => ?_) rfl rfl
  · dsimp only [relink, relinked]
    by_cases hy : y = c <;> simp [hy]
  · dsimp only [relink, relinked]
    simp only [if_neg hcD]
    by_cases hy : fz = some y
    · rw [if_pos hy, if_pos hy, if_neg fun h => hc y h hy]
    · -- `c` is erased from its old parent's list; it is in no other list
      rw [if_neg hy, if_neg hy, filter_not_contains_snoc, ← List.Nodup.erase_eq_filter ((hnd y hy).filter _)]
      by_cases hp : s.parent c = some y
      · rw [if_pos hp]
      · rw [if_neg hp, List.erase_of_not_mem fun h => hp (hdown y c hy (List.mem_filter.1 h).1)]

theorem foldl_relink : ∀ (rest D : List Nat), (D ++ rest).Nodup →
    (∀ c ∈ rest, ∀ p, s.parent c = some p → fz ≠ some p) →
    rest.foldl (relink x) (relinked s x fz D) = relinked s x fz (D ++ rest)
  | [], D, _, _ => by rw [List.append_nil]; rfl
  | c :: rest, D, hn, hp => by
    rw [List.foldl_cons,
      relink_relinked hdown hnd (fun h => (List.nodup_append.1 hn).2.2 c h c List.mem_cons_self rfl)
        (hp c List.mem_cons_self),
      foldl_relink rest (D ++ [c]) (List.append_cons D c rest ▸ hn) fun c' hc' => hp c' (List.mem_cons_of_mem c hc'),
      ← List.append_cons]

end

theorem delChildren_eq {s : Store} (hw : WF s) (v : Nat) : delChildren s v = detached s v := by
  have h := foldl_relink (x := none) (fz := none) (hdown := fun p y _ => hw.down p y) (hnd := fun p _ => hw.nodup p)
    (s.children v) [] (hw.nodup v) fun _ _ _ _ => nofun
  rw [relinked_nil] at h
  unfold delChildren
  rw [detachStep_eq]
  refine h.trans (ext' rfl (funext fun y => ?_) (funext fun y => ?_) rfl rfl)
  · exact ite_congr (propext ⟨hw.down v y, hw.up y v⟩) (fun _ => rfl) fun _ => rfl
  · dsimp only [relinked, detached]
    rw [if_neg nofun]
    by_cases hy : y = v
    · rw [if_pos hy, hy]
      exact List.filter_eq_nil_iff.2 fun z hz => by simpa using hz
    · rw [if_neg hy]
      refine List.filter_eq_self.2 fun z hz => ?_
      have : z ∉ s.children v := fun h => hy (Option.some.inj ((hw.down y z hz).symm.trans (hw.down v z h)))
      simpa using this

theorem childrenBody_eq {s : Store} (hw : WF s) (v : Nat) (cs : List Nat) (hn : cs.Nodup) :
    childrenBody s v cs = adopted s v cs := by
  have hw1 := wf_detached hw v
  have hch : ∀ p, some v ≠ some p → ((detached s v).setC v cs).children p = (detached s v).children p :=
    fun p hp => if_neg fun e => hp (congrArg some e.symm)
  have h := foldl_relink (s := (detached s v).setC v cs) (x := some v) (fz := some v)
    (hdown := fun p y hp hy => hw1.down p y (hch p hp ▸ hy)) (hnd := fun p hp => hch p hp ▸ hw1.nodup p) cs [] hn
    -- after `del v.children` no node has parent `v`, so no member of `cs` is to be erased from the list left alone
    fun c _ p hc e => by
      rcases ParentFn.adoptFn_eq_some.1 (detached_parent s v ▸ hc) with ⟨h, _⟩ | ⟨_, _, h⟩
      · exact h
      · exact h (Option.some.inj e).symm
  rw [relinked_nil, List.nil_append] at h
  unfold childrenBody
  rw [delChildren_eq hw, stealStep_eq]
  refine h.trans (ext' rfl rfl (funext fun y => ?_) rfl rfl)
  dsimp only [relinked, adopted, setC_children, detached]
  by_cases hy : y = v
  · rw [hy, if_pos rfl, if_pos rfl, if_pos rfl]
  · rw [if_neg fun e => hy (Option.some.inj e).symm, if_neg hy, if_neg hy, if_neg hy]

/-! ## sort, sep, freshly built nodes -/

theorem insertKey_perm {α : Type} (key : α → Nat) (x : α) (l : List α) : (insertKey key x l).Perm (x :: l) := by
  induction l with
  | nil => simp [insertKey]
  | cons y ys ih =>
    simp only [insertKey]
    split
    · exact List.Perm.refl _
    · exact (List.Perm.cons y ih).trans (List.Perm.swap x y ys)

theorem sortKey_perm {α : Type} (key : α → Nat) (l : List α) : (sortKey key l).Perm l := by
  induction l with
  | nil => simp [sortKey]
  | cons x xs ih =>
    simp only [sortKey, List.foldr_cons]
    exact (insertKey_perm key x _).trans (List.Perm.cons x ih)

theorem insertKey_pairwise {α : Type} (key : α → Nat) (x : α) (l : List α)
    (h : l.Pairwise fun a b => key a ≤ key b) : (insertKey key x l).Pairwise fun a b => key a ≤ key b := by
  induction l with
  | nil => exact List.pairwise_singleton _ x
  | cons y ys ih =>
    rw [insertKey]
    by_cases hle : key x ≤ key y
    · rw [if_pos hle]
      exact List.pairwise_cons.2 ⟨fun b hb => (List.mem_cons.1 hb).elim (· ▸ hle) fun hb =>
        Nat.le_trans hle (List.rel_of_pairwise_cons h hb), h⟩
    · rw [if_neg hle]
      exact List.pairwise_cons.2 ⟨fun b hb => (List.mem_cons.1 ((insertKey_perm key x ys).mem_iff.1 hb)).elim
        (· ▸ Nat.le_of_not_le hle) (List.rel_of_pairwise_cons h), ih h.of_cons⟩

theorem sortKey_pairwise {α : Type} (key : α → Nat) (l : List α) :
    (sortKey key l).Pairwise fun a b => key a ≤ key b := by
  induction l with
  | nil => exact List.Pairwise.nil
  | cons x xs ih => exact insertKey_pairwise key x _ ih

/-- the list `Node.sort` assigns -/
theorem sorted_perm (key : Nat → Nat) (l : List Nat) (rev : Bool) :
    (if rev then (sortKey key l.reverse).reverse else sortKey key l).Perm l := by
  cases rev
  · exact sortKey_perm key l
  · exact (List.reverse_perm _).trans ((sortKey_perm _ _).trans (List.reverse_perm _))

theorem sortChildren_perm (s : Store) (v : Nat) (ranks : List Nat) (rev : Bool) :
    ((sortChildren s v ranks rev).children v).Perm (s.children v) := by
  rw [sortChildren, setC_children, if_pos rfl]
  exact sorted_perm _ _ rev

theorem wf_setC_perm {s : Store} (hw : WF s) (v : Nat) (l : List Nat) (hp : l.Perm (s.children v)) :
    WF (s.setC v l) := by
  have key : ∀ q, ((s.setC v l).children q).Perm (s.children q) := fun q => by
    rw [setC_children]
    by_cases hq : q = v
    · rw [if_pos hq, hq]; exact hp
    · rw [if_neg hq]
  exact ⟨fun c q h => (key q).mem_iff.2 (hw.up c q h), fun q c h => hw.down q c ((key q).mem_iff.1 h),
    fun q => (key q).nodup_iff.2 (hw.nodup q), hw.acyc, hw.range⟩

theorem wf_sortChildren {s : Store} (hw : WF s) (v : Nat) (ranks : List Nat) (rev : Bool) :
    WF (sortChildren s v ranks rev) :=
  wf_setC_perm hw v _ (sorted_perm _ _ rev)

theorem wf_setSep {s : Store} (hw : WF s) (v : Nat) (x : Str) : WF (setSep s v x) :=
  ⟨hw.up, hw.down, hw.nodup, hw.acyc, hw.range⟩

theorem wf_init (n : Nat) (names : Nat → Str) (sp : Str) : WF (init n names sp) := by
  refine ⟨?_, ?_, ?_, ?_, ?_⟩
  · intro c p h; simp [init] at h
  · intro p c h; simp [init] at h
  · intro p; simp [init]
  · intro v; constructor; intro q h; simp [IsParent, init] at h
  · intro c p h; simp [init] at h

end Store
