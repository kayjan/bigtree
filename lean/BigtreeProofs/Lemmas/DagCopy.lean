import BigtreeModel.DagCopy
import BigtreeProofs.Lemmas.DagBridgeRun
/-!
# `DAGNode.copy()`: the mirrored store is well-formed, its edge list is the old one plus its shifted image,
and calls on one side of the boundary never touch edges of the other side
-/

namespace DagStore
open List

/-! ## mirrored tables -/

/-- an adjacency table mirrored at `n`: both tables of `deepCopy s` are of this form -/
def mirror (n : Nat) (f : Nat → List Nat) (i : Nat) : List Nat :=
  if i < n then f i else if i < 2 * n then (f (i - n)).map (· + n) else []

theorem deepCopy_parents (s : DStore) : (deepCopy s).parents = mirror s.n s.parents := rfl
theorem deepCopy_children (s : DStore) : (deepCopy s).children = mirror s.n s.children := rfl

theorem mirror_low {n : Nat} {f : Nat → List Nat} {i : Nat} (h : i < n) : mirror n f i = f i := if_pos h

theorem mirror_add {n : Nat} {f : Nat → List Nat} {i : Nat} (h : i < n) :
    mirror n f (i + n) = (f i).map (· + n) := by
  rw [mirror, if_neg (Nat.not_lt.2 (Nat.le_add_left n i)), if_pos (Nat.two_mul n ▸ Nat.add_lt_add_right h n),
    Nat.add_sub_cancel]

theorem lt_two_mul_of_sub_lt {a n : Nat} (h1 : n ≤ a) (h2 : a - n < n) : a < 2 * n :=
  Nat.two_mul n ▸ (Nat.sub_lt_iff_lt_add h1).1 h2

theorem mem_map_add {l : List Nat} {k x : Nat} : x ∈ l.map (· + k) ↔ k ≤ x ∧ x - k ∈ l := by
  rw [mem_map]
  constructor
  · rintro ⟨a, ha, rfl⟩
    exact ⟨Nat.le_add_left k a, by rwa [Nat.add_sub_cancel]⟩
  · rintro ⟨h1, h2⟩
    exact ⟨x - k, h2, Nat.sub_add_cancel h1⟩

theorem mem_mirror {n : Nat} {f : Nat → List Nat} (hf : ∀ a b, b ∈ f a → a < n ∧ b < n) {a b : Nat} :
    b ∈ mirror n f a ↔ b ∈ f a ∨ (n ≤ a ∧ n ≤ b ∧ b - n ∈ f (a - n)) := by
  unfold mirror
  split
  next ha => exact ⟨Or.inl, fun h => h.elim id fun h' => absurd ha (Nat.not_lt.2 h'.1)⟩
  next ha =>
    have hno : b ∉ f a := fun h => ha (hf a b h).1
    split
    · rw [mem_map_add]
      exact ⟨fun h => Or.inr ⟨Nat.le_of_not_lt ha, h⟩, fun h => h.elim (absurd · hno) And.right⟩
    next ha2 =>
      exact ⟨nofun, fun h => h.elim (absurd · hno) fun h' =>
        absurd (lt_two_mul_of_sub_lt h'.1 (hf _ _ h'.2.2).1) ha2⟩

theorem nodup_mirror {n : Nat} {f : Nat → List Nat} (hf : ∀ v, (f v).Nodup) (v : Nat) : (mirror n f v).Nodup := by
  unfold mirror
  split
  · exact hf v
  · split
    · exact Dag.nodup_map_of_inj (fun a b e => Nat.add_right_cancel e) (hf _)
    · exact nodup_nil

/-! ## the mirrored store is well-formed -/

theorem dwf0_deepCopy {s : DStore} (hs : DWF0 s) : DWF0 (deepCopy s) := by
  have hP : ∀ c p, p ∈ s.parents c → c < s.n ∧ p < s.n := fun c p h => (hs.rng p c h).symm
  have hC : ∀ p c, c ∈ s.children p → p < s.n ∧ c < s.n := fun p c h => hs.rng p c ((hs.sym p c).2 h)
  refine ⟨fun p c => ?_, nodup_mirror hs.ndp, nodup_mirror hs.ndc, fun p c h => ?_⟩
  · rw [deepCopy_parents, deepCopy_children, mem_mirror hP, mem_mirror hC, hs.sym, hs.sym, and_left_comm]
  · have hle : s.n ≤ 2 * s.n := Nat.le_mul_of_pos_left _ (by decide)
    rcases (mem_mirror hP).1 h with h | ⟨hc, hp, h⟩
    · exact ⟨Nat.lt_of_lt_of_le (hP c p h).2 hle, Nat.lt_of_lt_of_le (hP c p h).1 hle⟩
    · exact ⟨lt_two_mul_of_sub_lt hp (hP _ _ h).2, lt_two_mul_of_sub_lt hc (hP _ _ h).1⟩

theorem Acyclic.of_hom {s t : DStore} (φ : Nat → Nat) (h : ∀ p c, p ∈ t.parents c → φ p ∈ s.parents (φ c))
    (hs : Acyclic s) : Acyclic t :=
  fun v => Subrelation.accessible (fun {p c} hp => h p c hp) (InvImage.accessible φ (hs (φ v)))

/-- both halves of the mirrored store project onto the original -/
theorem acyclic_deepCopy {s : DStore} (hs : DWF s) : Acyclic (deepCopy s) := by
  refine Acyclic.of_hom (fun i => if i < s.n then i else i - s.n) (fun p c h => ?_) hs.acyc
  rcases (mem_mirror fun c p h => (hs.rng p c h).symm).1 h with h | ⟨hc, hp, h⟩
  · have := hs.rng p c h
    rwa [if_pos this.1, if_pos this.2]
  · rwa [if_neg (Nat.not_lt.2 hp), if_neg (Nat.not_lt.2 hc)]

theorem dwf_deepCopy {s : DStore} (hs : DWF s) : DWF (deepCopy s) :=
  { dwf0_deepCopy hs.toDWF0 with acyc := acyclic_deepCopy hs }

/-! ## the edge list of the mirrored store -/

theorem range_double (k : Nat) : List.range (2 * k) = List.range k ++ (List.range k).map (· + k) := by
  rw [Nat.two_mul, range_add]
  exact congrArg _ (map_congr_left fun a _ => Nat.add_comm k a)

theorem outE_shift (f g : Nat → List Nat) (k : Nat) (L : List Nat)
    (h : ∀ i ∈ L, f (i + k) = (g i).map (· + k)) :
    outE f (L.map (· + k)) = (outE g L).map (shiftE k) := by
  rw [outE, outE, flatMap_map, map_flatMap]
  exact flatMap_congr' fun i hi => by rw [h i hi, map_map, map_map]; rfl

theorem edges_deepCopy (s : DStore) : edges (deepCopy s) = edges s ++ (edges s).map (shiftE s.n) := by
  show outE (mirror s.n s.children) (List.range (2 * s.n)) = _
  rw [range_double, outE_append, outE_congr fun p hp => mirror_low (mem_range.1 hp),
    outE_shift _ s.children _ _ fun i hi => mirror_add (mem_range.1 hi)]
  rfl

theorem le_of_mem_map_shiftE {k : Nat} {E : List (Nat × Nat)} {e : Nat × Nat} (h : e ∈ E.map (shiftE k)) :
    k ≤ e.1 ∧ k ≤ e.2 := by
  obtain ⟨e0, _, rfl⟩ := mem_map.1 h
  exact ⟨Nat.le_add_left _ _, Nat.le_add_left _ _⟩

theorem lowE_edges_deepCopy {s : DStore} (hs : DWF0 s) : lowE s.n (edges (deepCopy s)) = edges s := by
  rw [edges_deepCopy]
  exact filter_append_left (fun e he => decide_eq_true (edges_range hs he)) fun e he =>
    decide_eq_false fun h => Nat.not_lt.2 (le_of_mem_map_shiftE he).1 h.1

theorem highE_edges_deepCopy {s : DStore} (hs : DWF0 s) :
    highE s.n (edges (deepCopy s)) = (edges s).map (shiftE s.n) := by
  rw [edges_deepCopy]
  exact filter_append_right (fun e he => decide_eq_false fun h => Nat.not_lt.2 h.1 (edges_range hs he).1)
    fun e he => decide_eq_true (le_of_mem_map_shiftE he)

/-! ## calls on one side of a boundary, read on the edge list -/

/-- for any property `P` of edges: a call none of whose ids is the source of a `P`-edge leaves the `P`-edges
as they are -/
theorem apply_filter_off (g : EState) (P : Nat × Nat → Bool) {op : Op} (hc : op.isConstruct = false)
    (hP : ∀ e, e.1 ∈ op.ids → P e = false) : (g.apply op).E.filter P = g.E.filter P := by
  cases op with
  | construct nm ps cs fp fc => cases hc
  | delChildren v =>
    exact filter_filter_off fun e _ hp => bne_iff_ne.2 fun h =>
      Bool.noConfusion ((hP e (h ▸ mem_cons_self)).symm.trans hp)
  | delItem v nm =>
    rcases apply_delItem_cases g v nm with h | ⟨c, h⟩ <;> rw [h]
    exact filter_filter_off fun e _ hp => bne_iff_ne.2 fun h =>
      Bool.noConfusion ((hP e (h ▸ mem_cons_self)).symm.trans hp)
  | _ => exact filter_append_off fun e he => hP e (asked_ids _ _ rfl e he).1

theorem replay_filter_off (P : Nat × Nat → Bool) (h : List (Op × Outcome)) : ∀ (g : EState),
    (∀ x ∈ h, x.1.isConstruct = false ∧ ∀ e, e.1 ∈ x.1.ids → P e = false) →
    (g.replay h).E.filter P = g.E.filter P := by
  induction h with
  | nil => exact fun _ _ => rfl
  | cons x r ih =>
    intro g hh
    have hr := fun g' => ih g' fun y hy => hh y (mem_cons_of_mem _ hy)
    obtain ⟨op, o⟩ := x
    cases o with
    | rej => exact hr g
    | ok => exact (hr _).trans (apply_filter_off g P (hh _ mem_cons_self).1 (hh _ mem_cons_self).2)

theorem run_deepCopy_filter {s : DStore} (hs : DWF s) (ops : List Op) (P : Nat × Nat → Bool)
    (hops : ∀ op ∈ ops, op.isConstruct = false ∧ ∀ e, e.1 ∈ op.ids → P e = false) :
    ((edges (run true (deepCopy s) ops).1).filter P).Perm ((edges (deepCopy s)).filter P) := by
  have hr := run_rel ops (deepCopy s) _ (dwf_deepCopy hs) (rel_estate _)
    (noRejConstruct_of_noConstruct ops _ fun op h => (hops op h).1)
  refine (hr.perm.filter P).trans (Perm.of_eq ?_)
  exact replay_filter_off P _ _ fun x hx => hops x.1 (of_mem_zip hx).1

/-! ## mixed histories: each side evolves as if the other were not there -/

/-- every edge joins two nodes of the same side of the boundary -/
def SepE (k : Nat) (E : List (Nat × Nat)) : Prop := ∀ e ∈ E, (e.1 < k ∧ e.2 < k) ∨ (k ≤ e.1 ∧ k ≤ e.2)

def Op.isLow (k : Nat) (op : Op) : Bool := op.ids.all fun i => decide (i < k)
def Op.isHigh (k : Nat) (op : Op) : Bool := op.ids.all fun i => decide (k ≤ i)

/-- the graph restricted to the nodes below the boundary -/
def lowG (k : Nat) (g : EState) : EState := { g with E := lowE k g.E }

theorem mem_lowE {k : Nat} {E : List (Nat × Nat)} {e : Nat × Nat} : e ∈ lowE k E ↔ e ∈ E ∧ e.1 < k ∧ e.2 < k := by
  rw [lowE, mem_filter, decide_eq_true_iff]

theorem Op.isLow_iff {k : Nat} {op : Op} : op.isLow k = true ↔ ∀ i ∈ op.ids, i < k := by
  simp only [Op.isLow, all_eq_true, decide_eq_true_eq]

theorem Op.isHigh_iff {k : Nat} {op : Op} : op.isHigh k = true ↔ ∀ i ∈ op.ids, k ≤ i := by
  simp only [Op.isHigh, all_eq_true, decide_eq_true_eq]

theorem sepE_edges_deepCopy {s : DStore} (hs : DWF0 s) : SepE s.n (edges (deepCopy s)) := by
  intro e he
  rw [edges_deepCopy, mem_append] at he
  exact he.imp (edges_range hs) le_of_mem_map_shiftE

theorem apply_sepE (g : EState) (k : Nat) (op : Op) (hc : op.isConstruct = false)
    (hside : op.isLow k = true ∨ op.isHigh k = true) (hs : SepE k g.E) : SepE k (g.apply op).E := by
  intro e he
  rcases mem_apply_E g op he with h | h
  · exact hs e h
  · have hid := asked_ids g.n op hc e h
    exact hside.imp (fun hl => hid.imp (Op.isLow_iff.1 hl _) (Op.isLow_iff.1 hl _))
      fun hh => hid.imp (Op.isHigh_iff.1 hh _) (Op.isHigh_iff.1 hh _)

theorem lowE_filter (k : Nat) (E : List (Nat × Nat)) (P : Nat × Nat → Bool) :
    lowE k (E.filter P) = (lowE k E).filter P := by
  rw [lowE, lowE, filter_filter, filter_filter]
  exact filter_congr fun e _ => Bool.and_comm _ _

theorem lowE_append_new {k : Nat} {E R : List (Nat × Nat)} (hR : ∀ e ∈ R, e.1 < k ∧ e.2 < k) :
    lowE k (E ++ R.filter fun e => decide (e ∉ E)) = lowE k E ++ R.filter fun e => decide (e ∉ lowE k E) := by
  rw [lowE, filter_append, filter_filter]
  refine congrArg _ (filter_congr fun e he => ?_)
  rw [decide_eq_true (hR e he), Bool.true_and]
  exact decide_eq_decide.2 (not_congr ⟨fun h => mem_lowE.2 ⟨h, hR e he⟩, fun h => (mem_lowE.1 h).1⟩)

theorem lowG_apply (g : EState) (k : Nat) (op : Op) (hc : op.isConstruct = false) (hl : op.isLow k = true)
    (hs : SepE k g.E) : lowG k (g.apply op) = (lowG k g).apply op := by
  cases ha : op.isAssign with
  | true =>
    rw [apply_assign g ha hc, apply_assign (lowG k g) ha hc]
    exact congrArg (EState.mk g.n g.names) <| lowE_append_new fun e he =>
      (asked_ids g.n op hc e he).imp (Op.isLow_iff.1 hl _) (Op.isLow_iff.1 hl _)
  | false =>
    cases op with
    | delChildren v => exact congrArg (EState.mk g.n g.names) (lowE_filter k g.E _)
    | delItem v nm =>
      -- the edges out of `v` are the same in the whole graph and in its low part
      have hsame : (lowG k g).E.filter (fun e => e.1 == v && (lowG k g).names e.2 == nm) =
          g.E.filter (fun e => e.1 == v && g.names e.2 == nm) :=
        filter_filter_off fun e he hp => decide_eq_true <| (hs e he).resolve_right fun h =>
          Nat.not_lt.2 h.1 (beq_iff_eq.1 (Bool.and_eq_true_iff.1 hp).1 ▸ Op.isLow_iff.1 hl v mem_cons_self)
      rw [EState.apply, EState.apply, hsame]
      split
      · exact congrArg (EState.mk g.n g.names) (lowE_filter k g.E _)
      · rfl
    | _ => cases ha

/-- **mixed histories**: when every call of a history stays on one side of the boundary, the edges among the
low nodes at the end are what the low-side calls alone (same outcomes) make of the low part of the graph —
the high-side calls might as well not have happened — and the two sides are still apart -/
theorem replay_low_mixed (k : Nat) : ∀ (h : List (Op × Outcome)) (g : EState), SepE k g.E →
    (∀ x ∈ h, x.1.isConstruct = false ∧ (x.1.isLow k = true ∨ x.1.isHigh k = true)) →
    lowE k (g.replay h).E = ((lowG k g).replay (h.filter fun x => x.1.isLow k)).E ∧ SepE k (g.replay h).E := by
  intro h
  induction h with
  | nil => exact fun g hs _ => ⟨rfl, hs⟩
  | cons x r ih =>
    intro g hs hh
    have hr := fun g' hs' => ih g' hs' fun y hy => hh y (mem_cons_of_mem _ hy)
    obtain ⟨hc, hside⟩ := hh x mem_cons_self
    obtain ⟨op, o⟩ := x
    rw [filter_cons]
    cases o with
    | rej =>
      split
      · exact hr g hs
      · exact hr g hs
    | ok =>
      have ih := hr (g.apply op) (apply_sepE g k op hc hside hs)
      cases hl : op.isLow k with
      | true =>
        rw [if_pos rfl, EState.replay, EState.replay, ← lowG_apply g k op hc hl hs]
        exact ih
      | false =>
        -- a high-side call: the low part does not see it
        have hhigh : ∀ i ∈ op.ids, k ≤ i :=
          Op.isHigh_iff.1 (hside.resolve_left (by rw [hl]; exact Bool.noConfusion))
        have hn := apply_n_names g hc
        have hE : lowE k (g.apply op).E = lowE k g.E :=
          apply_filter_off g _ hc fun e he => decide_eq_false fun h => Nat.not_lt.2 (hhigh _ he) h.1
        have e1 : lowG k (g.apply op) = lowG k g := by
          rw [lowG, lowG, hn.1, hn.2, hE]
        rw [if_neg Bool.noConfusion, EState.replay, ← e1]
        exact ih

end DagStore
