import BigtreeProofs.Lemmas.ModifyStep
/-!
# C08 helper lemmas: the edits (delete, shift, copy, overriding) on entry lists

An edit is described by what it does to the pre-order entry list `flat`: the entries below an address
(`filter (under a)`) and the others. Path sets are read off such a split (`mem_paths_split`).
-/
namespace Modify

/-! ### addresses -/

theorem isPrefixOf_eq_false {p q : List Str} : p.isPrefixOf q = false ↔ ¬ p <+: q := by
  rw [← Bool.not_eq_true, List.isPrefixOf_iff_prefix]

theorem under_iff {p : List Str} {e : Entry} : under p e = true ↔ p <+: e.1 :=
  List.isPrefixOf_iff_prefix

theorem under_rebase (p : List Str) (e : Entry) : under p (rebase p e) = true :=
  under_rebase_self p e

theorem rebase_injective (p : List Str) : Function.Injective (rebase p) := by
  intro a b h
  simp only [rebase, Prod.mk.injEq, List.append_cancel_left_eq] at h
  exact Prod.ext h.1 h.2

theorem not_prefix_snoc (p : List Str) (l : Str) : ¬ p ++ [l] <+: p := fun h =>
  Nat.not_succ_le_self _ (List.length_append ▸ h.length_le)

theorem ne_of_not_prefix {p q : List Str} (h : ¬ p <+: q) : p ≠ q :=
  fun e => h (e ▸ List.prefix_refl p)

theorem incomparable_mono {a b x y : List Str} (h1 : ¬ a <+: b) (h2 : ¬ b <+: a) (ha : a <+: x)
    (hb : b <+: y) : ¬ x <+: y := fun h =>
  (List.prefix_or_prefix_of_prefix (ha.trans h) hb).elim h1 h2

theorem not_under_both {p q : List Str} (h1 : ¬ p <+: q) (h2 : ¬ q <+: p) {e : Entry}
    (hp : under p e = true) : under q e = false :=
  isPrefixOf_eq_false.2 fun hq => (List.prefix_or_prefix_of_prefix (under_iff.1 hp) hq).elim h1 h2

/-! ### path sets read off a split of the entry list -/

theorem mem_paths_of_some {q : List Str} {t X : Tree} (hu : SibUnique t) (h : getRel q t = some X) :
    q ∈ paths t :=
  (mem_paths_iff hu).2 (by rw [h]; rfl)

theorem exists_getRel_of_mem_paths {q : List Str} {t : Tree} (hu : SibUnique t) (h : q ∈ paths t) :
    ∃ X, getRel q t = some X :=
  Option.isSome_iff_exists.1 ((mem_paths_iff hu).1 h)

theorem nil_mem_paths (t : Tree) : [] ∈ paths t := by
  unfold paths
  rw [flat_eq]
  exact List.mem_cons_self

theorem child_mem_paths {q : List Str} {t P y : Tree} (hu : SibUnique t) (hP : getRel q t = some P)
    (hy : y ∈ P.children) : q ++ [y.name] ∈ paths t := by
  rw [mem_paths_iff hu, getRel_append, hP]
  simp [getRel_cons, findChild_of_mem hy (hu.sub hP).kids]

theorem no_kid_of_not_mem_paths {q : List Str} {t P : Tree} {n : Str} (hu : SibUnique t)
    (hP : getRel q t = some P) (h : q ++ [n] ∉ paths t) : ∀ y ∈ P.children, y.name ≠ n :=
  fun _ hy hyn => h (hyn ▸ child_mem_paths hu hP hy)

theorem mem_paths_split {t : Tree} (p : Entry → Bool) {A B : List Entry}
    (hA : (flat t).filter p = A) (hB : (flat t).filter (fun e => !p e) = B) (q : List Str) :
    q ∈ paths t ↔ q ∈ A.map (·.1) ∨ q ∈ B.map (·.1) := by
  subst hA hB
  simp only [paths, List.mem_map]
  constructor
  · rintro ⟨e, he, rfl⟩
    exact ((mem_filter_split p _ e).1 he).imp (fun h => ⟨e, h, rfl⟩) (fun h => ⟨e, h, rfl⟩)
  · rintro (⟨e, he, rfl⟩ | ⟨e, he, rfl⟩) <;> exact ⟨e, (List.mem_filter.1 he).1, rfl⟩

theorem mem_map_rebase {a q : List Str} {l : List Entry} :
    q ∈ (l.map (rebase a)).map (·.1) ↔ ∃ r, r ∈ l.map (·.1) ∧ q = a ++ r := by
  simp only [List.mem_map]
  constructor
  · rintro ⟨_, ⟨e, he, rfl⟩, rfl⟩; exact ⟨_, ⟨e, he, rfl⟩, rfl⟩
  · rintro ⟨_, ⟨e, he, rfl⟩, rfl⟩; exact ⟨_, ⟨e, he, rfl⟩, rfl⟩

theorem mem_filter_not_under {p q : List Str} {l : List Entry} :
    q ∈ (l.filter (fun e => !under p e)).map (·.1) ↔ q ∈ l.map (·.1) ∧ ¬ p <+: q := by
  simp only [List.mem_map, List.mem_filter, Bool.not_eq_true', under, isPrefixOf_eq_false]
  constructor
  · rintro ⟨e, ⟨he, hn⟩, rfl⟩; exact ⟨⟨e, he, rfl⟩, hn⟩
  · rintro ⟨⟨e, he, rfl⟩, hn⟩; exact ⟨e, ⟨he, hn⟩, rfl⟩

theorem mem_paths_removeAt {p q : List Str} {t : Tree} (hp : p ≠ []) (hu : SibUnique t) :
    q ∈ paths (removeAt p t) ↔ q ∈ paths t ∧ ¬ p <+: q := by
  unfold paths
  rw [flat_removeAt hp hu]
  exact mem_filter_not_under

theorem mem_paths_moved {t' T X : Tree} {a fp : List Str}
    (hA : (flat t').filter (under a) = (flat X).map (rebase a))
    (hB : (flat t').filter (fun e => !under a e) = (flat T).filter (fun e => !under fp e)) (q : List Str) :
    q ∈ paths t' ↔ (q ∈ paths T ∧ ¬ fp <+: q) ∨ ∃ r, r ∈ paths X ∧ q = a ++ r := by
  rw [mem_paths_split (under a) hA hB, mem_map_rebase, mem_filter_not_under, or_comm]
  rfl

/-! ### what `grow` along the parent path of a missing destination leaves -/

theorem sub_after_grow {fp ns : List Str} {t t1 F : Tree} {k k1 : Nat} (hu : SibUnique t)
    (g : Grown t k ns t1 k1) (hin : ¬ fp <+: ns) (hF : getRel fp t = some F) :
    ∃ F1, getRel fp t1 = some F1 ∧ flat F1 = flat F := by
  obtain ⟨F1, hF1⟩ := exists_getRel_of_mem_paths g.su ((g.mem_paths _).2 (Or.inl (mem_paths_of_some hu hF)))
  refine ⟨F1, hF1, ?_⟩
  have h1 := flat_filter_under hF hu
  have hold' : ∀ e ∈ flat t1, under fp e = true → decide (e.2.1 < k) = true := fun e he hue =>
    decide_eq_true (Decidable.not_not.1 fun hlt =>
      hin ((under_iff.1 hue).trans (List.isPrefixOf_iff_prefix.1 (g.new e he hlt).1)))
  rw [← g.old, List.filter_filter, filter_and_of_imp hold', flat_filter_under hF1 g.su] at h1
  exact (List.map_inj_right (fun _ _ h => rebase_injective fp h)).1 h1

theorem dest_after_grow {tpar : List Str} {l : Str} {t t1 : Tree} {k k1 : Nat} (hu : SibUnique t)
    (hD : getRel (tpar ++ [l]) t = none) (g : Grown t k tpar t1 k1) :
    tpar ∈ paths t1 ∧ tpar ++ [l] ∉ paths t1 := by
  refine ⟨(g.mem_paths _).2 (Or.inr (List.isPrefixOf_iff_prefix.2 (List.prefix_refl _))), fun h => ?_⟩
  rcases (g.mem_paths _).1 h with h | h
  · rw [mem_paths_iff hu, hD] at h; cases h
  · exact not_prefix_snoc _ _ (List.isPrefixOf_iff_prefix.1 h)

variable {cfg : Cfg} {c : Char}

theorem goodNames_mid_ne {r : Str} {p : List Str} {l : Str} (h : GoodNames c (r :: p ++ [l])) :
    ∀ n ∈ p, n ≠ [] := fun n hn => (h n (List.mem_append_left _ (List.mem_cons_of_mem _ hn))).1

/-! ### the node that is attached: the from-node, or the bare from-node with `delete_children` -/

theorem sibUnique_setKids_nil (X : Tree) : SibUnique (setKids [] X) := by
  cases X; simp [setKids, sibUnique_node]

theorem flat_setKids_nil (X : Tree) : flat (setKids [] X) = [([], X.id, X.attrs)] := by
  cases X; simp [setKids, flat_node]

theorem stripIf_name (b X) : (stripIf b X).name = X.name := by
  unfold stripIf; split <;> simp
theorem sibUnique_stripIf {b X} (h : SibUnique X) : SibUnique (stripIf b X) := by
  unfold stripIf; split
  · exact sibUnique_setKids_nil X
  · exact h
theorem flat_stripIf (b : Bool) (X : Tree) :
    flat (stripIf b X) = if b then (flat X).take 1 else flat X := by
  unfold stripIf; split
  · rw [flat_setKids_nil, flat_eq X]; rfl
  · rfl
theorem shape_stripIf (b : Bool) (X : Tree) :
    shape (flat (stripIf b X)) = if b then (shape (flat X)).take 1 else shape (flat X) := by
  rw [flat_stripIf]
  cases b with
  | false => rfl
  | true => exact List.map_take
theorem mem_flat_stripIf {b X e} (h : e ∈ flat (stripIf b X)) : e ∈ flat X := by
  rw [flat_stripIf] at h
  split at h
  · exact List.mem_of_mem_take h
  · exact h
theorem shape_map_rebase (p : List Str) (l : List Entry) :
    shape (l.map (rebase p)) = (shape l).map (fun x => (p ++ x.1, x.2)) := by
  simp [shape, rebase, Function.comp_def]
theorem paths_eq_of_shape {X Y : Tree} (h : shape (flat X) = shape (flat Y)) : paths X = paths Y := by
  have := congrArg (List.map (·.1)) h
  simpa only [shape, paths, List.map_map, Function.comp_def] using this

/-! ### `from_node.parent = to_node` -/

theorem attachOne_ok {pp : List Str} {x t P : Tree} (hP : getRel pp t = some P)
    (hnew : ∀ y ∈ P.children, y.name ≠ x.name) :
    attachOne pp x t = .ok (modifyAt pp (appendKid x) t) := by
  have hany : P.children.any (fun y => y.name == x.name) = false :=
    List.any_eq_false.2 fun y hy => by simpa using hnew y hy
  simp only [attachOne, hP, hany]
  simp

/-- `x.parent = to_node` for a node `x` that sits nowhere in the tree, a new parent `pp` that exists and has no
child of that name: `x` becomes the last child, nothing else changes -/
theorem attachOne_facts {pp : List Str} {x t : Tree} (hu : SibUnique t) (hx : SibUnique x)
    (hpp : pp ∈ paths t) (hfree : pp ++ [x.name] ∉ paths t) :
    attachOne pp x t = .ok (modifyAt pp (appendKid x) t) ∧ SibUnique (modifyAt pp (appendKid x) t) ∧
      (flat (modifyAt pp (appendKid x) t)).filter (under (pp ++ [x.name]))
        = (flat x).map (rebase (pp ++ [x.name])) ∧
      (flat (modifyAt pp (appendKid x) t)).filter (fun e => !under (pp ++ [x.name]) e) = flat t := by
  obtain ⟨P, hP⟩ := exists_getRel_of_mem_paths hu hpp
  have hnew := no_kid_of_not_mem_paths hu hP hfree
  exact ⟨attachOne_ok hP hnew, hu.appendAt hP hx hnew, flat_appendAt_new hP hnew hu hx,
    flat_appendAt_old hP hnew hu⟩

/-- `del from_node.children` (when asked) and `from_node.parent = to_node`, for a from-node that
sits in the tree `T1` at `fp` and an existing new parent `tpar` that has no child called `l` -/
theorem move_facts (dc : Bool) {T1 F1 : Tree} {fp tpar : List Str} {l : Str} (hfpne : fp ≠ [])
    (hsu1 : SibUnique T1) (hF1 : getRel fp T1 = some F1) (hF1n : F1.name = l)
    (htpar : tpar ∈ paths T1) (hin : ¬ fp <+: tpar) (hfree : tpar ++ [l] ∉ paths T1) :
    ∃ t', attachNode true fp (stripIf dc F1)
        (if dc then modifyAt fp (setKids []) T1 else T1) (some tpar) = .ok t' ∧
      SibUnique t' ∧
      (flat t').filter (under (tpar ++ [l])) = (flat (stripIf dc F1)).map (rebase (tpar ++ [l])) ∧
      (flat t').filter (fun e => !under (tpar ++ [l]) e) = (flat T1).filter (fun e => !under fp e) := by
  -- `del from_node.children` changes nothing outside the from-node
  obtain ⟨T0, hT0, hsu0, hflat0⟩ : ∃ T0,
      (if dc then modifyAt fp (setKids []) T1 else T1) = T0 ∧ SibUnique T0 ∧
      (flat T0).filter (fun e => !under fp e) = (flat T1).filter (fun e => !under fp e) := by
    cases dc with
    | false => exact ⟨T1, rfl, hsu1, rfl⟩
    | true =>
      exact ⟨_, rfl, hsu1.modifyAt hF1 (setKids_name _ _) (sibUnique_setKids_nil F1),
        flat_modifyAt_not_under hF1 (setKids_name _ _)⟩
  have hsu2 : SibUnique (removeAt fp T0) := hsu0.removeAt
  have hflat2 : flat (removeAt fp T0) = (flat T1).filter (fun e => !under fp e) := by
    rw [flat_removeAt hfpne hsu0, hflat0]
  have hmem2 : ∀ q, q ∈ paths (removeAt fp T0) ↔ q ∈ paths T1 ∧ ¬ fp <+: q := fun q => by
    unfold paths; rw [hflat2]; exact mem_filter_not_under
  have hFmn : (stripIf dc F1).name = l := (stripIf_name dc F1).trans hF1n
  obtain ⟨hatt, hsu', h2, h1⟩ := attachOne_facts hsu2 (sibUnique_stripIf (hsu1.sub hF1))
    ((hmem2 _).2 ⟨htpar, hin⟩) (by rw [hFmn]; exact fun h => hfree ((hmem2 _).1 h).1)
  rw [hFmn] at h1 h2
  refine ⟨_, ?_, hsu', h2, by rw [h1, hflat2]⟩
  rw [hT0]
  simp only [attachNode, loops, isPrefixOf_eq_false.2 hin, Bool.and_false, Bool.false_eq_true,
    if_false, if_true, hatt]

/-- the state `st'` holds the tree `t` (all ids below `k`) with a fresh copy of `X` at the new address
`tpar ++ [l]` -/
structure Copied (X t : Tree) (k : Nat) (tpar : List Str) (l : Str) (st' : St) : Prop where
  le : k ≤ st'.next
  su : SibUnique st'.dst
  /-- the copy has the relative paths, attributes and order of `X` -/
  shape_eq : shape ((flat st'.dst).filter (under (tpar ++ [l])))
    = (shape (flat X)).map (fun x => (tpar ++ [l] ++ x.1, x.2))
  /-- and consists of objects made from the counter on -/
  fresh : ∀ e ∈ (flat st'.dst).filter (under (tpar ++ [l])), k ≤ e.2.1 ∧ e.2.1 < st'.next
  /-- the old objects are the old entries, in the old order -/
  old : (flat st'.dst).filter (fun e => decide (e.2.1 < k)) = flat t
  /-- whatever else is new is an attribute-less node on the destination's parent path -/
  mid : ∀ e ∈ flat st'.dst, ¬ e.2.1 < k → under (tpar ++ [l]) e = false →
    e.1 <+: tpar ∧ e.2.1 < st'.next ∧ e.2.2 = []
  mem_paths : ∀ q, q ∈ paths st'.dst ↔
    q ∈ paths t ∨ (∃ r, r ∈ paths X ∧ q = tpar ++ [l] ++ r) ∨ q <+: tpar ++ [l]

/-- plain copy (same tree or tree-to-tree, with or without `delete_children`) to a destination
that does not exist yet -/
theorem copy_core (hc : cfg.Plain c) (hcp : cfg.copy = true) (hmc : cfg.mergeChildren = false)
    (hml : cfg.mergeLeaves = false)
    (src : Option Tree) (t : Tree) (k : Nat) (fpar tpar : List Str) (l : Str) (F : Tree)
    (hu : SibUnique t) (hus : SibUnique (src.getD t)) (hk : ∀ e ∈ flat t, e.2.1 < k)
    (fs : Str) (hfrom : FromOK cfg (src.getD t) fs (fpar ++ [l]) F l) (hgt : GoodNames c (t.name :: tpar ++ [l]))
    (hD : getRel (tpar ++ [l]) t = none)
    (hin : src = none → (fpar ++ [l]).isPrefixOf tpar = false) :
    ∃ st', copyOrShift cfg ⟨src, t, k⟩ [(fs, some (pathStr c t.name (tpar ++ [l])))] = .ok st' ∧
      st'.src = src ∧ Copied (stripIf cfg.deleteChildren F) t k tpar l st' := by
  have hF := hfrom.found
  obtain ⟨t1, k1, hgrow, g⟩ := grow_facts (ns := tpar) (goodNames_mid_ne hgt) hu hk
  -- the object that is copied: the from-node as it is after the parent path has been created
  obtain ⟨F1, hcur, hFF, hF1u, hF1n⟩ : ∃ F1,
      (if src.isNone then getRel (fpar ++ [l]) t1 else none).getD F = F1 ∧ flat F1 = flat F ∧
        SibUnique F1 ∧ F1.name = l := by
    cases src with
    | some s => exact ⟨F, rfl, rfl, hus.sub hF, getRel_name hF⟩
    | none =>
      obtain ⟨F1, hF1, hFF⟩ := sub_after_grow hu g (isPrefixOf_eq_false.1 (hin rfl)) hF
      exact ⟨F1, by rw [Option.isNone_none, if_pos rfl, hF1]; rfl, hFF, g.su.sub hF1, getRel_name hF1⟩
  obtain ⟨r1, r2, r3, r4, r5⟩ := relabel_ok F1 k1
  have hXn : (stripIf cfg.deleteChildren (relabel k1 F1).1).name = l :=
    (stripIf_name _ _).trans (r1.trans hF1n)
  have hXu : SibUnique (stripIf cfg.deleteChildren (relabel k1 F1).1) := sibUnique_stripIf (r5 hF1u)
  have hXsh : shape (flat (stripIf cfg.deleteChildren (relabel k1 F1).1))
      = shape (flat (stripIf cfg.deleteChildren F)) := by rw [shape_stripIf, shape_stripIf, r3, hFF]
  obtain ⟨htpar, hfree⟩ := dest_after_grow hu hD g
  obtain ⟨hatt, hsu', h2, h1⟩ := attachOne_facts g.su hXu htpar (by rw [hXn]; exact hfree)
  rw [hXn] at h1 h2
  have hXid : ∀ e ∈ (flat (modifyAt tpar (appendKid (stripIf cfg.deleteChildren (relabel k1 F1).1)) t1)).filter
      (under (tpar ++ [l])), k1 ≤ e.2.1 ∧ e.2.1 < (relabel k1 F1).2 := fun e he => by
    rw [h2] at he
    obtain ⟨e0, he0, rfl⟩ := List.mem_map.1 he
    exact r4 e0 (mem_flat_stripIf he0)
  refine ⟨⟨src, modifyAt tpar (appendKid (stripIf cfg.deleteChildren (relabel k1 F1).1)) t1,
    (relabel k1 F1).2⟩, ?_, rfl, Nat.le_trans g.le (Nat.le_of_lt r2), hsu', ?_,
    fun e he => ⟨Nat.le_trans g.le (hXid e he).1, (hXid e he).2⟩, ?_, ?_, ?_⟩
  · exact copyOrShift_move hc (by rw [hmc]; rfl) ⟨src, t, k⟩ hfrom tpar hgt
      (decideTo_missing hc ⟨src, t, k⟩ _ tpar l hgt hD hgrow)
      (attach_copy_node hcp hml hmc rfl _ _ _ hcur hatt)
  · rw [h2, shape_map_rebase, hXsh]
  · -- the old objects: what is below the destination is new
    rw [← g.old, ← h1, List.filter_filter]
    refine (filter_and_of_imp fun e he hlt => ?_).symm
    cases hue : under (tpar ++ [l]) e with
    | false => rfl
    | true =>
      have := (hXid e (List.mem_filter.2 ⟨he, hue⟩)).1
      exact absurd (of_decide_eq_true hlt) (Nat.not_lt.2 (Nat.le_trans g.le this))
  · intro e he hlt hue
    have : e ∈ flat t1 := h1 ▸ List.mem_filter.2 ⟨he, by rw [hue]; rfl⟩
    obtain ⟨a, b, c⟩ := g.new e this hlt
    exact ⟨List.isPrefixOf_iff_prefix.1 a, Nat.lt_trans b r2, c⟩
  · intro q
    rw [mem_paths_split (under (tpar ++ [l])) h2 h1, mem_map_rebase, List.prefix_concat_iff]
    show (∃ r, r ∈ paths _ ∧ _) ∨ q ∈ paths t1 ↔ _
    rw [paths_eq_of_shape hXsh, g.mem_paths q]
    constructor
    · rintro (h | h | h)
      · exact Or.inr (Or.inl h)
      · exact Or.inl h
      · exact Or.inr (Or.inr (Or.inr (List.isPrefixOf_iff_prefix.1 h)))
    · rintro (h | h | rfl | h)
      · exact Or.inr (Or.inl h)
      · exact Or.inl h
      · exact Or.inl ⟨[], nil_mem_paths _, (List.append_nil _).symm⟩
      · exact Or.inr (Or.inr (List.isPrefixOf_iff_prefix.2 h))

/-! decidability of the hypotheses (used by the non-vacuity examples) -/
instance (t : Tree) : Decidable (SibUnique t) := by unfold SibUnique; infer_instance
instance (c : Char) (n : Str) : Decidable (GoodName c n) := by unfold GoodName; infer_instance
instance (c : Char) (ns : List Str) : Decidable (GoodNames c ns) := by unfold GoodNames; infer_instance
end Modify
