import BigtreeModel.BinBridge
import BigtreeProofs.Lemmas.BinStoreBasic
import BigtreeProofs.Lemmas.Iter
/-!
# BinBridge — the read-back of the two-slot store: fuel independence, identities, in-order blocks
-/

/-- no depth limit: the gate keeps the whole binary tree -/
theorem Iter.bgate_zero (d : Nat) (t : BTree) : Iter.bgate 0 d t = t := by
  induction t generalizing d with
  | nil => rfl
  | node i n a l r ihl ihr => simp [Iter.bgate, ihl, ihr]

namespace BinStore
open Relation List

/-! ## slots of a well-formed store -/

theorem slots_eq {s : Store} (h : BWF s) (v : Nat) : s.slots v = [left s v, right s v] := by
  obtain ⟨a, b, hab⟩ := two_of_len (h.len2 v)
  simp [left, right, hab]

theorem mem_slots {s : Store} (h : BWF s) {v c : Nat} :
    some c ∈ s.slots v ↔ left s v = some c ∨ right s v = some c := by
  rw [slots_eq h v]
  simp [eq_comm]

theorem left_ne_right {s : Store} (h : BWF s) {v c d : Nat} (hl : left s v = some c) (hr : right s v = some d) :
    c ≠ d := by
  rintro rfl
  have := h.distinct v c
  rw [slots_eq h v, hl, hr] at this
  simp at this

/-! ## the ancestor walk, one step -/

theorem anc_step {s : Store} (h : BWF s) {c v : Nat} (hp : s.parent c = some v) :
    anc s s.n c = v :: anc s s.n v := by
  rw [anc_eq, anc_eq]
  exact ParentFn.ancF_step h.acyc h.range (Nat.le_refl _) hp

theorem anc_length_child {s : Store} (h : BWF s) {v c : Nat} (hc : some c ∈ s.slots v) :
    (anc s s.n c).length = (anc s s.n v).length + 1 ∧ (anc s s.n c).length < s.n := by
  have hp := h.down v c hc
  refine ⟨by rw [anc_step h hp]; rfl, ?_⟩
  rw [anc_eq]
  exact ParentFn.ancF_length_lt h.acyc h.range (h.range c v hp).1 _

theorem slots_induction {s : Store} (h : BWF s) {P : Nat → Prop}
    (step : ∀ v, (∀ c, some c ∈ s.slots v → P c) → P v) : ∀ v, P v :=
  ParentFn.down_induction h.acyc h.range fun v ih => step v fun c hc => ih c (h.down v c hc)

/-! ## the read-back -/

@[simp] theorem slotTree_none (s : Store) (names : Nat → Str) (f : Nat) : slotTree s names f none = .nil := rfl
@[simp] theorem slotTree_some (s : Store) (names : Nat → Str) (f c : Nat) :
    slotTree s names f (some c) = btreeOf s names f c := rfl

theorem btreeOf_zero (s : Store) (names : Nat → Str) (v : Nat) :
    btreeOf s names 0 v = .node v (names v) [] .nil .nil := rfl

theorem btreeOf_succ (s : Store) (names : Nat → Str) (f v : Nat) :
    btreeOf s names (f + 1) v =
      .node v (names v) [] (slotTree s names f (left s v)) (slotTree s names f (right s v)) := by
  simp only [btreeOf]
  cases left s v <;> cases right s v <;> rfl

/-- once the fuel covers the levels that are left below `v`, one more unit changes nothing -/
theorem btreeOf_stable {s : Store} (h : BWF s) (names : Nat → Str) : ∀ (v f : Nat),
    s.n ≤ f + (anc s s.n v).length + 1 → btreeOf s names (f + 1) v = btreeOf s names f v := by
  intro v
  induction v using slots_induction h with
  | step v ih =>
    intro f hf
    cases f with
    | zero =>
      -- no level is left: a child would have a walk of length `n`
      have hleaf : ∀ o, (∀ c, o = some c → some c ∈ s.slots v) → o = none := fun o ho => by
        cases o with
        | none => rfl
        | some c => have := anc_length_child h (ho c rfl); omega
      rw [btreeOf_succ, hleaf _ fun c hc => (mem_slots h).2 (Or.inl hc),
        hleaf _ fun c hc => (mem_slots h).2 (Or.inr hc)]
      rfl
    | succ f =>
      have hsub : ∀ o, (∀ c, o = some c → some c ∈ s.slots v) →
          slotTree s names (f + 1) o = slotTree s names f o := fun o ho => by
        cases o with
        | none => rfl
        | some c => have := anc_length_child h (ho c rfl); exact ih c (ho c rfl) f (by omega)
      rw [btreeOf_succ, btreeOf_succ s names f, hsub _ fun c hc => (mem_slots h).2 (Or.inl hc),
        hsub _ fun c hc => (mem_slots h).2 (Or.inr hc)]

theorem btreeOf_fuel {s : Store} (h : BWF s) (names : Nat → Str) (v f g : Nat) (hf : s.n ≤ f) (hg : s.n ≤ g) :
    btreeOf s names f v = btreeOf s names g v := by
  have key : ∀ k, btreeOf s names (s.n + k) v = btreeOf s names s.n v := fun k => by
    induction k with
    | zero => rfl
    | succ k ih => rw [← ih, ← Nat.add_assoc, btreeOf_stable h names v _ (by omega)]
  rw [← Nat.add_sub_cancel' hf, ← Nat.add_sub_cancel' hg, key, key]

theorem btreeOf_unfold {s : Store} (h : BWF s) (names : Nat → Str) (v f : Nat) (hf : s.n ≤ f) :
    btreeOf s names f v =
      .node v (names v) [] (slotTree s names f (left s v)) (slotTree s names f (right s v)) := by
  rw [btreeOf_fuel h names v f (f + 1) hf (by omega)]
  exact btreeOf_succ s names f v

/-! ## `Below` -/

theorem Below.head {s : Store} {r c x : Nat} (hc : some c ∈ s.slots r) (h : Below s c x) : Below s r x := by
  induction h with
  | refl => exact .step (.refl r) hc
  | step _ h2 ih => exact .step ih h2

theorem Below.trans {s : Store} {a b c : Nat} (h1 : Below s a b) (h2 : Below s b c) : Below s a c := by
  induction h2 with
  | refl => exact h1
  | step _ h ih => exact .step ih h

theorem below_top {s : Store} {r x : Nat} (h : Below s r x) :
    x = r ∨ ∃ c, some c ∈ s.slots r ∧ Below s c x := by
  induction h with
  | refl => exact Or.inl rfl
  | step h1 h2 ih =>
    rename_i p c
    rcases ih with rfl | ⟨d, hd, hdp⟩
    · exact Or.inr ⟨c, h2, .refl c⟩
    · exact Or.inr ⟨d, hd, .step hdp h2⟩

theorem below_iff_properAnc {s : Store} (h : BWF s) {r x : Nat} : Below s r x ↔ x = r ∨ ProperAnc s r x := by
  constructor
  · intro hb
    induction hb with
    | refl => exact Or.inl rfl
    | step _ h2 ih =>
      have hp := h.down _ _ h2
      rcases ih with rfl | ih
      · exact Or.inr (TransGen.single hp)
      · exact Or.inr (TransGen.tail ih hp)
  · rintro (rfl | hp)
    · exact .refl _
    · induction hp with
      | single hp => exact .step (.refl r) (h.up _ _ hp)
      | tail _ hp ih => exact .step ih (h.up _ _ hp)

theorem below_iff_anc {s : Store} (h : BWF s) {r x : Nat} : Below s r x ↔ x = r ∨ r ∈ anc s s.n x := by
  rw [below_iff_properAnc h, anc_complete h.acyc h.range]

theorem Below.antisymm {s : Store} (h : BWF s) {a b : Nat} (h1 : Below s a b) (h2 : Below s b a) : a = b := by
  rcases (below_iff_properAnc h).1 h1 with rfl | p1
  · rfl
  · rcases (below_iff_properAnc h).1 h2 with rfl | p2
    · rfl
    · exact absurd (TransGen.trans p1 p2) (properAnc_irrefl h.acyc a)

theorem Below.comparable {s : Store} (h : BWF s) {a b x : Nat} (h1 : Below s a x) (h2 : Below s b x) :
    Below s a b ∨ Below s b a := by
  induction h1 with
  | refl => exact Or.inr h2
  | step h1 hc ih =>
    rename_i p c
    cases h2 with
    | refl => exact Or.inl (.step h1 hc)
    | step h2 hc' =>
      cases Option.some.inj ((h.down _ _ hc').symm.trans (h.down _ _ hc))
      exact ih h2

theorem not_below_child_self {s : Store} (h : BWF s) {v c : Nat} (hc : some c ∈ s.slots v) : ¬ Below s c v := by
  intro hb
  cases Below.antisymm h (.step (.refl v) hc) hb
  exact properAnc_irrefl h.acyc v (TransGen.single (h.down _ _ hc))

theorem below_children_disjoint {s : Store} (h : BWF s) {v c d x : Nat} (hc : some c ∈ s.slots v)
    (hd : some d ∈ s.slots v) (hne : c ≠ d) (h1 : Below s c x) : ¬ Below s d x := by
  -- a descent from `c` to its sibling `d` would pass through `d`'s parent `v`
  have hcv : ∀ {c d : Nat}, some c ∈ s.slots v → some d ∈ s.slots v → c ≠ d → ¬ Below s c d := by
    intro c d hc hd hne hb
    cases hb with
    | refl => exact hne rfl
    | step hb hd' =>
      cases Option.some.inj ((h.down _ _ hd').symm.trans (h.down _ _ hd))
      exact not_below_child_self h hc hb
  intro h2
  rcases Below.comparable h h1 h2 with hb | hb
  · exact hcv hc hd hne hb
  · exact hcv hd hc (Ne.symm hne) hb

theorem below_root {s : Store} (h : BWF s) {a r : Nat} (hb : Below s a r) (hr : s.parent r = none) : a = r := by
  cases hb with
  | refl => rfl
  | step _ hc =>
    have := h.down _ _ hc
    rw [hr] at this
    cases this

theorem exists_unique_root {s : Store} (h : BWF s) (x : Nat) :
    ∃ r, s.parent r = none ∧ Below s r x ∧ ∀ r', s.parent r' = none → Below s r' x → r' = r := by
  have hex : ∃ r, s.parent r = none ∧ Below s r x := by
    induction h.acyc x with
    | intro x _ ih =>
      cases hp : s.parent x with
      | none => exact ⟨x, hp, .refl x⟩
      | some p =>
        obtain ⟨r, hr, hb⟩ := ih p hp
        exact ⟨r, hr, .step hb (h.up x p hp)⟩
  obtain ⟨r, hr, hb⟩ := hex
  refine ⟨r, hr, hb, fun r' hr' hb' => ?_⟩
  rcases Below.comparable h hb hb' with h1 | h1
  · exact (below_root h h1 hr').symm
  · exact below_root h h1 hr

/-! ## identities of the read-back -/

open Iter

theorem inorder_slotTree_none (s : Store) (names : Nat → Str) (f : Nat) :
    inorder (slotTree s names f none) = [] := rfl

theorem mem_inorder_btreeOf {s : Store} (h : BWF s) (names : Nat → Str) (f : Nat) (hf : s.n ≤ f) (r x : Nat) :
    x ∈ inorder (btreeOf s names f r) ↔ Below s r x := by
  induction r using slots_induction h generalizing x with
  | step r ih =>
    rw [btreeOf_unfold h names r f hf]
    simp only [inorder, mem_append, mem_singleton]
    have hsub : ∀ o : Option Nat, (∀ c, o = some c → some c ∈ s.slots r) →
        (x ∈ inorder (slotTree s names f o) ↔ ∃ c, o = some c ∧ Below s c x) := by
      intro o ho
      cases o with
      | none => simp [inorder]
      | some c => simp [ih c (ho c rfl)]
    rw [hsub _ (fun c hc => (mem_slots h).2 (Or.inl hc)), hsub _ (fun c hc => (mem_slots h).2 (Or.inr hc))]
    constructor
    · rintro ((⟨c, hc, hb⟩ | rfl) | ⟨c, hc, hb⟩)
      · exact Below.head ((mem_slots h).2 (Or.inl hc)) hb
      · exact .refl _
      · exact Below.head ((mem_slots h).2 (Or.inr hc)) hb
    · intro hb
      rcases below_top hb with rfl | ⟨c, hc, hcx⟩
      · exact Or.inl (Or.inr rfl)
      · rcases (mem_slots h).1 hc with hl | hr
        · exact Or.inl (Or.inl ⟨c, hl, hcx⟩)
        · exact Or.inr ⟨c, hr, hcx⟩

theorem nodup_inorder_btreeOf {s : Store} (h : BWF s) (names : Nat → Str) (f : Nat) (hf : s.n ≤ f) (r : Nat) :
    (inorder (btreeOf s names f r)).Nodup := by
  induction r using slots_induction h with
  | step r ih =>
    rw [btreeOf_unfold h names r f hf]
    simp only [inorder]
    have hnd : ∀ o : Option Nat, (∀ c, o = some c → some c ∈ s.slots r) →
        (inorder (slotTree s names f o)).Nodup := by
      intro o ho
      cases o with
      | none => simp [inorder]
      | some c => exact ih c (ho c rfl)
    have hmem : ∀ (o : Option Nat) (x : Nat), x ∈ inorder (slotTree s names f o) →
        ∃ c, o = some c ∧ Below s c x := by
      intro o x hx
      cases o with
      | none => simp [inorder] at hx
      | some c => exact ⟨c, rfl, (mem_inorder_btreeOf h names f hf c x).1 hx⟩
    have hL := fun c hc => (mem_slots h).2 (Or.inl hc : left s r = some c ∨ right s r = some c)
    have hR := fun c hc => (mem_slots h).2 (Or.inr hc : left s r = some c ∨ right s r = some c)
    rw [append_assoc, nodup_append]
    refine ⟨hnd _ hL, ?_, ?_⟩
    · rw [singleton_append, nodup_cons]
      refine ⟨?_, hnd _ hR⟩
      intro hx
      obtain ⟨c, hc, hb⟩ := hmem _ _ hx
      exact not_below_child_self h (hR c hc) hb
    · intro a ha b hb hab
      subst hab
      obtain ⟨c, hc, hca⟩ := hmem _ _ ha
      rcases mem_append.1 hb with hb | hb
      · rw [mem_singleton] at hb
        subst hb
        exact not_below_child_self h (hL c hc) hca
      · obtain ⟨d, hd, hda⟩ := hmem _ _ hb
        exact below_children_disjoint h (hL c hc) (hR d hd) (left_ne_right h hc hd) hca hda

theorem inorder_block {s : Store} (h : BWF s) (names : Nat → Str) (f : Nat) (hf : s.n ≤ f) {r x : Nat}
    (hb : Below s r x) :
    ∃ l1 l2, inorder (btreeOf s names f r) = l1 ++ inorder (btreeOf s names f x) ++ l2 := by
  induction hb with
  | refl => exact ⟨[], [], by simp⟩
  | step hb1 hc ih =>
    rename_i p c
    obtain ⟨l1, l2, e⟩ := ih
    have hp : ∃ m1 m2, inorder (btreeOf s names f p) = m1 ++ inorder (btreeOf s names f c) ++ m2 := by
      rw [btreeOf_unfold h names p f hf]
      simp only [inorder]
      rcases (mem_slots h).1 hc with hl | hr
      · exact ⟨[], [p] ++ inorder (slotTree s names f (right s p)), by simp [hl]⟩
      · exact ⟨inorder (slotTree s names f (left s p)) ++ [p], [], by simp [hr]⟩
    obtain ⟨m1, m2, e2⟩ := hp
    exact ⟨l1 ++ m1, m2 ++ l2, by rw [e, e2]; simp⟩

end BinStore
