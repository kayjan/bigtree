import BigtreeModel.Query
import BigtreeProofs.Lemmas.QueryPre
/-! `go_to` = up to the lowest common ancestor, then down; the result is a simple path of
parent/child links. -/

namespace Query

/-! ### longest common prefix -/

theorem lcpLen_le (a b : Addr) : lcpLen a b ≤ a.length ∧ lcpLen a b ≤ b.length := by
  induction a generalizing b with
  | nil => exact ⟨Nat.le_refl 0, Nat.zero_le _⟩
  | cons x xs ih =>
    cases b with
    | nil => exact ⟨Nat.zero_le _, Nat.le_refl 0⟩
    | cons y ys =>
      rw [lcpLen]
      split
      · exact ⟨Nat.succ_le_succ (ih ys).1, Nat.succ_le_succ (ih ys).2⟩
      · exact ⟨Nat.zero_le _, Nat.zero_le _⟩

theorem take_lcpLen (a b : Addr) : a.take (lcpLen a b) = b.take (lcpLen a b) := by
  induction a generalizing b with
  | nil => rw [List.take_nil]; rfl
  | cons x xs ih =>
    cases b with
    | nil => rfl
    | cons y ys =>
      rw [lcpLen]
      split
      · next h => rw [List.take_succ_cons, List.take_succ_cons, ih ys, h]
      · rfl

theorem le_lcpLen (a b : Addr) (j : Nat) (ha : j ≤ a.length) (hb : j ≤ b.length) (h : a.take j = b.take j) :
    j ≤ lcpLen a b := by
  induction j generalizing a b with
  | zero => exact Nat.zero_le _
  | succ j ih =>
    cases a with
    | nil => exact absurd ha (Nat.not_succ_le_zero j)
    | cons x xs =>
      cases b with
      | nil => exact absurd hb (Nat.not_succ_le_zero j)
      | cons y ys =>
        rw [List.take_succ_cons, List.take_succ_cons] at h
        rw [lcpLen, if_pos (List.head_eq_of_cons_eq h)]
        exact Nat.succ_le_succ (ih xs ys (Nat.le_of_succ_le_succ ha) (Nat.le_of_succ_le_succ hb)
          (List.tail_eq_of_cons_eq h))

theorem lcpLen_self (a : Addr) : lcpLen a a = a.length :=
  Nat.le_antisymm (lcpLen_le a a).1 (le_lcpLen a a _ (Nat.le_refl _) (Nat.le_refl _) rfl)

/-- `n` steps up, `m` down -/
theorem exists_steps (a b : Addr) :
    ∃ n m, a.length = lcpLen a b + n ∧ b.length = lcpLen a b + m :=
  let ⟨n, hn⟩ := Nat.exists_eq_add_of_le (lcpLen_le a b).1
  let ⟨m, hm⟩ := Nat.exists_eq_add_of_le (lcpLen_le a b).2
  ⟨n, m, hn, hm⟩

/-! ### lists of prefixes -/

theorem take_eq_take {a b : Addr} {x y : Nat} (hx : x ≤ a.length) (hy : y ≤ b.length)
    (h : a.take x = b.take y) : x = y := by
  have := congrArg List.length h
  rwa [List.length_take_of_le hx, List.length_take_of_le hy] at this

theorem mem_nodePathSpec {a x : Addr} : x ∈ nodePathSpec a ↔ ∃ m, m ≤ a.length ∧ x = a.take m := by
  simp only [nodePathSpec, List.mem_map, List.mem_range]
  constructor
  · rintro ⟨m, hm, rfl⟩; exact ⟨m, Nat.le_of_lt_succ hm, rfl⟩
  · rintro ⟨m, hm, rfl⟩; exact ⟨m, Nat.lt_succ_of_le hm, rfl⟩

theorem idxOf_nodePathSpec (a : Addr) {m : Nat} (h : m ≤ a.length) :
    (nodePathSpec a).idxOf (a.take m) = m :=
  idxOf_map_range (g := fun k => a.take k)
    (fun _ hx _ hy e => take_eq_take (Nat.le_of_lt_succ (List.mem_range.1 hx))
      (Nat.le_of_lt_succ (List.mem_range.1 hy)) e)
    (Nat.lt_succ_of_le h)

/-- `[self] + list(self.ancestors)`: the prefixes, longest first -/
def upList (a : Addr) : List Addr := (List.range (a.length + 1)).map fun i => a.take (a.length - i)

theorem self_ancestors_eq_upList (a : Addr) : a :: ancestorsSpec a = upList a := by
  rw [← List.reverse_reverse (a :: ancestorsSpec a), self_ancestors_reverse, nodePathSpec,
    ← List.map_reverse, List.range_eq_range', List.reverse_range', List.map_map, upList, List.range_eq_range']
  apply List.map_congr_left
  intro i _
  simp only [Function.comp_apply, Nat.zero_add, Nat.add_sub_cancel]

theorem mem_upList {a x : Addr} : x ∈ upList a ↔ ∃ m, m ≤ a.length ∧ x = a.take m := by
  rw [← self_ancestors_eq_upList, ← List.mem_reverse, self_ancestors_reverse, mem_nodePathSpec]

theorem upList_inj (a : Addr) {x y : Nat} (hx : x ≤ a.length) (hy : y ≤ a.length)
    (e : a.take (a.length - x) = a.take (a.length - y)) : x = y := by
  rw [← Nat.sub_sub_self hx, take_eq_take (Nat.sub_le _ _) (Nat.sub_le _ _) e, Nat.sub_sub_self hy]

theorem idxOf_upList (a : Addr) {m : Nat} (h : m ≤ a.length) :
    (upList a).idxOf (a.take m) = a.length - m := by
  have := idxOf_map_range (g := fun i => a.take (a.length - i)) (n := a.length + 1) (i := a.length - m)
    (fun _ hx _ hy => upList_inj a (Nat.le_of_lt_succ (List.mem_range.1 hx))
      (Nat.le_of_lt_succ (List.mem_range.1 hy)))
    (Nat.lt_succ_of_le (Nat.sub_le _ _))
  rwa [Nat.sub_sub_self h] at this

/-! ### go_to -/

theorem take_mem_nodePathSpec_iff {a b : Addr} {j : Nat} (hj : j ≤ a.length) :
    a.take j ∈ nodePathSpec b ↔ j ≤ lcpLen a b := by
  rw [mem_nodePathSpec]
  constructor
  · rintro ⟨m, hm, e⟩
    obtain rfl := take_eq_take hj hm e
    exact le_lcpLen a b j hj hm e
  · intro h
    refine ⟨j, Nat.le_trans h (lcpLen_le a b).2, ?_⟩
    have := congrArg (List.take j) (take_lcpLen a b)
    rwa [List.take_take, List.take_take, Nat.min_eq_left h] at this

/-- `minList (y :: ys)` is `(y :: ys).min?` unfolded -/
theorem minList_eq_of {l : List Nat} {m : Nat} (hm : m ∈ l) (hlb : ∀ x ∈ l, m ≤ x) : minList l = m := by
  cases l with
  | nil => cases hm
  | cons y ys => exact Option.some.inj (List.min?_cons'.symm.trans (List.min?_eq_some_iff.2 ⟨hm, hlb⟩))

/-- the first common node on the way up from `a` is the one at the end of the common prefix -/
theorem minIdx_common (a b : Addr) :
    minList (((upList a).filter fun n => (nodePathSpec b).contains n).map fun n => (upList a).idxOf n)
      = a.length - lcpLen a b := by
  have hl1 := (lcpLen_le a b).1
  apply minList_eq_of
  · refine List.mem_map.2 ⟨a.take (lcpLen a b),
      List.mem_filter.2 ⟨mem_upList.2 ⟨_, hl1, rfl⟩, ?_⟩, idxOf_upList a hl1⟩
    rw [List.contains_iff_mem]
    exact (take_mem_nodePathSpec_iff hl1).2 (Nat.le_refl _)
  · intro x hx
    obtain ⟨n, hn, rfl⟩ := List.mem_map.1 hx
    rw [List.mem_filter, List.contains_iff_mem] at hn
    obtain ⟨m, hm, rfl⟩ := mem_upList.1 hn.1
    rw [idxOf_upList a hm]
    exact Nat.sub_le_sub_left ((take_mem_nodePathSpec_iff hm).1 hn.2) _

/-- `goToSpec` with the numbers of steps up and down as variables -/
theorem goToSpec_eq {a b : Addr} {n m : Nat} (hn : a.length = lcpLen a b + n)
    (hm : b.length = lcpLen a b + m) :
    goToSpec a b = ((List.range n).map fun i => a.take (a.length - i))
      ++ ((List.range (m + 1)).map fun i => b.take (lcpLen a b + i)) := by
  rw [goToSpec]
  simp only [Nat.sub_eq_of_eq_add' hn, Nat.sub_eq_of_eq_add' hm]

theorem goToSame_eq_spec (a b : Addr) : goToSame a b = goToSpec a b := by
  by_cases hab : a = b
  · subst hab
    simp [goToSame, goToSpec, lcpLen_self]
  · obtain ⟨n, m, hn, hm⟩ := exists_steps a b
    have hna : n ≤ a.length := hn ▸ Nat.le_add_left n _
    have hnode : ((upList a)[n]?).getD [] = b.take (lcpLen a b) := by
      rw [upList, List.getElem?_map, List.getElem?_range (Nat.lt_succ_of_le hna), Option.map_some, Option.getD_some,
        Nat.sub_eq_of_eq_add hn, take_lcpLen]
    rw [goToSpec_eq hn hm, goToSame, if_neg (by simpa using hab)]
    simp only []
    rw [ancestors_eq_spec, ancestors_eq_spec, self_ancestors_reverse, self_ancestors_eq_upList,
      minIdx_common, Nat.sub_eq_of_eq_add' hn, hnode, idxOf_nodePathSpec b (lcpLen_le a b).2]
    congr 1
    · rw [upList, ← List.map_take, List.take_range, Nat.min_eq_left (Nat.le_succ_of_le hna)]
    · rw [nodePathSpec, hm, Nat.add_assoc, List.range_add, List.map_append,
        List.drop_left' (by rw [List.length_map, List.length_range]), List.map_map]
      rfl

theorem Loc.rootId_eq (l : Loc) : l.rootId = some l.tree.id := by
  rw [Loc.rootId, root_eq_nil, idAt, sub_nil]; rfl

theorem goTo_same_tree (R : Tree) (a b : Addr) : goTo ⟨R, a⟩ ⟨R, b⟩ = some (goToSpec a b) := by
  rw [goTo, Loc.rootId_eq, Loc.rootId_eq, if_neg (by simp), goToSame_eq_spec]

/-! ### the path of `go_to` is a simple path of parent/child links -/

/-- two nodes joined by a parent/child link -/
def Linked (x y : Addr) : Prop := parent x = some y ∨ parent y = some x

theorem parent_take_succ {a : Addr} {n : Nat} (h : n < a.length) :
    parent (a.take (n + 1)) = some (a.take n) := by
  rw [List.take_add_one, List.getElem?_eq_getElem h]
  exact parent_snoc _ _

theorem goToSpec_length {a b : Addr} {n m : Nat} (hn : a.length = lcpLen a b + n)
    (hm : b.length = lcpLen a b + m) : (goToSpec a b).length = n + m + 1 := by
  rw [goToSpec_eq hn hm, List.length_append, List.length_map, List.length_map, List.length_range,
    List.length_range, Nat.add_assoc]

theorem length_goToSpec (a b : Addr) : (goToSpec a b).length = dist a b + 1 := by
  obtain ⟨n, m, hn, hm⟩ := exists_steps a b
  have e : lcpLen a b + n + (lcpLen a b + m) = n + m + 2 * lcpLen a b := by
    rw [Nat.add_add_add_comm, Nat.add_comm, Nat.two_mul]
  rw [goToSpec_length hn hm, dist, hn, hm, Nat.sub_eq_of_eq_add e]

theorem getElem?_goToSpec_up {a b : Addr} {n m : Nat} (hn : a.length = lcpLen a b + n)
    (hm : b.length = lcpLen a b + m) {i : Nat} (hi : i < n) :
    (goToSpec a b)[i]? = some (a.take (a.length - i)) := by
  rw [goToSpec_eq hn hm, List.getElem?_append_left (by simpa using hi), List.getElem?_map,
    List.getElem?_range hi]
  rfl

theorem getElem?_goToSpec_down {a b : Addr} {n m : Nat} (hn : a.length = lcpLen a b + n)
    (hm : b.length = lcpLen a b + m) {j : Nat} (hj : j ≤ m) :
    (goToSpec a b)[n + j]? = some (b.take (lcpLen a b + j)) := by
  rw [goToSpec_eq hn hm, List.getElem?_append_right (by simp), List.length_map, List.length_range,
    Nat.add_sub_cancel_left, List.getElem?_map, List.getElem?_range (Nat.lt_succ_of_le hj)]
  rfl

theorem goToSpec_head (a b : Addr) : (goToSpec a b).head? = some a := by
  obtain ⟨n, m, hn, hm⟩ := exists_steps a b
  rw [List.head?_eq_getElem?]
  cases n with
  | zero =>
    rw [getElem?_goToSpec_down hn hm (Nat.zero_le m), Nat.add_zero, ← take_lcpLen,
      List.take_of_length_le (i := lcpLen a b) (Nat.le_of_eq hn)]
  | succ n => rw [getElem?_goToSpec_up hn hm (Nat.succ_pos n), Nat.sub_zero, List.take_length]

theorem goToSpec_last (a b : Addr) : (goToSpec a b).getLast? = some b := by
  obtain ⟨n, m, hn, hm⟩ := exists_steps a b
  rw [List.getLast?_eq_getElem?, goToSpec_length hn hm, Nat.add_sub_cancel,
    getElem?_goToSpec_down hn hm (Nat.le_refl m), List.take_of_length_le (Nat.le_of_eq hm)]

theorem linked_take_pred {a : Addr} {t : Nat} (h0 : 0 < t) (ht : t ≤ a.length) :
    Linked (a.take t) (a.take (t - 1)) := by
  cases t with
  | zero => cases h0
  | succ t => exact Or.inl (parent_take_succ ht)

theorem goToSpec_linked (a b : Addr) (i : Nat) (h : i + 1 < (goToSpec a b).length) :
    Linked ((goToSpec a b)[i]'(by omega)) ((goToSpec a b)[i + 1]) := by
  suffices H : ∀ x y, (goToSpec a b)[i]? = some x → (goToSpec a b)[i + 1]? = some y → Linked x y from
    H _ _ (List.getElem?_eq_getElem _) (List.getElem?_eq_getElem h)
  obtain ⟨n, m, hn, hm⟩ := exists_steps a b
  have hna : n ≤ a.length := hn ▸ Nat.le_add_left n _
  rw [goToSpec_length hn hm] at h
  intro x y hx hy
  rcases Nat.lt_trichotomy (i + 1) n with h1 | h1 | h1
  · -- both on the way up
    rw [getElem?_goToSpec_up hn hm (Nat.lt_of_succ_lt h1)] at hx
    rw [getElem?_goToSpec_up hn hm h1] at hy
    cases hx; cases hy
    exact linked_take_pred (Nat.sub_pos_of_lt (Nat.lt_of_lt_of_le (Nat.lt_of_succ_lt h1) hna)) (Nat.sub_le _ _)
  · -- the last step up reaches the common ancestor: `|a| - (i + 1)` is the length of the common prefix
    subst h1
    rw [getElem?_goToSpec_up hn hm (Nat.lt_succ_self i)] at hx
    rw [← Nat.add_zero (i + 1), getElem?_goToSpec_down hn hm (Nat.zero_le m), Nat.add_zero,
      ← take_lcpLen, ← Nat.sub_eq_of_eq_add hn] at hy
    cases hx; cases hy
    exact linked_take_pred (Nat.sub_pos_of_lt (Nat.lt_of_lt_of_le (Nat.lt_succ_self i) hna)) (Nat.sub_le _ _)
  · -- both on the way down
    obtain ⟨j, rfl⟩ := Nat.exists_eq_add_of_le (Nat.le_of_lt_succ h1)
    have hj : j < m := Nat.lt_of_add_lt_add_left (Nat.lt_of_succ_lt_succ h)
    rw [getElem?_goToSpec_down hn hm (Nat.le_of_lt hj)] at hx
    rw [Nat.add_assoc, getElem?_goToSpec_down hn hm hj] at hy
    cases hx; cases hy
    exact Or.inr (parent_take_succ (hm ▸ Nat.add_lt_add_left hj _))

theorem goToSpec_nodup (a b : Addr) : (goToSpec a b).Nodup := by
  obtain ⟨n, m, hn, hm⟩ := exists_steps a b
  have hna : n ≤ a.length := hn ▸ Nat.le_add_left n _
  rw [goToSpec_eq hn hm, List.nodup_append]
  refine ⟨nodup_map_on ?_ List.nodup_range, nodup_map_on ?_ List.nodup_range, ?_⟩
  · intro x hx y hy
    exact upList_inj a (Nat.le_trans (Nat.le_of_lt (List.mem_range.1 hx)) hna)
      (Nat.le_trans (Nat.le_of_lt (List.mem_range.1 hy)) hna)
  · intro x hx y hy e
    have hb : ∀ z ∈ List.range (m + 1), lcpLen a b + z ≤ b.length := fun z hz =>
      hm ▸ Nat.add_le_add_left (Nat.le_of_lt_succ (List.mem_range.1 hz)) _
    exact Nat.add_left_cancel (take_eq_take (hb x hx) (hb y hy) e)
  · -- a node met on the way up and again on the way down would be a longer common prefix
    intro _ hx _ hy e
    obtain ⟨i, hi, rfl⟩ := List.mem_map.1 hx
    obtain ⟨j, hj, rfl⟩ := List.mem_map.1 hy
    have hjb : lcpLen a b + j ≤ b.length :=
      hm ▸ Nat.add_le_add_left (Nat.le_of_lt_succ (List.mem_range.1 hj)) _
    have hlt : lcpLen a b < a.length - i :=
      Nat.lt_sub_of_add_lt (hn ▸ Nat.add_lt_add_left (List.mem_range.1 hi) _)
    have hlen := take_eq_take (Nat.sub_le _ _) hjb e
    rw [hlen] at e hlt
    exact Nat.lt_irrefl _ (Nat.lt_of_lt_of_le hlt (le_lcpLen a b _ (hlen ▸ Nat.sub_le _ i) hjb e))

end Query
