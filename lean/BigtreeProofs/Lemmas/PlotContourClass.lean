import BigtreeModel.Plot
import BigtreeProofs.Lemmas.Plot
import BigtreeProofs.Lemmas.PlotContourWalk
/-!
# The class `Sk.exact` and its members

The Boolean conditions `Sk.exact` / `Sk.groupOK` as statements about the members of a sibling group
(`Sk.exact_node`, `Sk.groupOK_cons`); then two families inside the class:

* every tree of height ≤ 3 (`Sk.exact_of_height_le`);
* every complete binary tree (`Sk.full2_exact`).
-/

namespace Plot

/-! ## the conditions of the class `Sk.exact`, read as statements about the members -/

theorem Sk.exactL_iff {cs : List Sk} : Sk.exactL cs = true ↔ ∀ c ∈ cs, c.exact = true := by
  induction cs with
  | nil => rw [Sk.exactL]; exact ⟨fun _ _ h => (nomatch h), fun _ => rfl⟩
  | cons c cs ih => rw [Sk.exactL, Bool.and_eq_true, ih, List.forall_mem_cons]

theorem Sk.exact_node {cs : List Sk} :
    (Sk.node cs).exact = true ↔ Sk.groupOK cs = true ∧ ∀ c ∈ cs, c.exact = true := by
  rw [Sk.exact, Bool.and_eq_true, Sk.exactL_iff]

theorem Sk.exactFrom_iff {c0 : Sk} {cs : List Sk} :
    Sk.exactFrom c0 cs = true ↔ ∀ c ∈ cs, Sk.pairExact c0 c = true := by
  induction cs with
  | nil => rw [Sk.exactFrom]; exact ⟨fun _ _ h => (nomatch h), fun _ => rfl⟩
  | cons c cs ih => rw [Sk.exactFrom, Bool.and_eq_true, ih, List.forall_mem_cons]

theorem Sk.shallowFrom_iff {c0 : Sk} {cs : List Sk} :
    Sk.shallowFrom c0 cs = true ↔ ∀ c ∈ cs, Sk.shallow c0 c = true := by
  induction cs with
  | nil => rw [Sk.shallowFrom]; exact ⟨fun _ _ h => (nomatch h), fun _ => rfl⟩
  | cons c cs ih => rw [Sk.shallowFrom, Bool.and_eq_true, ih, List.forall_mem_cons]

theorem Sk.shallowPairs_iff {cs : List Sk} :
    Sk.shallowPairs cs = true ↔ cs.Pairwise (fun a b => Sk.shallow a b = true) := by
  induction cs with
  | nil => rw [Sk.shallowPairs]; exact ⟨fun _ => List.Pairwise.nil, fun _ => rfl⟩
  | cons c cs ih =>
    rw [Sk.shallowPairs, Bool.and_eq_true, Sk.shallowFrom_iff, ih, List.pairwise_cons]

theorem Sk.groupOK_cons {c0 : Sk} {rest : List Sk} :
    Sk.groupOK (c0 :: rest) = true ↔
      (∀ c ∈ rest, Sk.pairExact c0 c = true) ∧ rest.Pairwise (fun a b => Sk.shallow a b = true) := by
  rw [Sk.groupOK, Bool.and_eq_true, Sk.exactFrom_iff, Sk.shallowPairs_iff]

/-! ## trees of height at most 3 -/

theorem Sk.rwalkL_pos {cs : List Sk} (h : cs ≠ []) : 1 ≤ Sk.rwalkL cs := by
  induction cs with
  | nil => exact absurd rfl h
  | cons c cs ih =>
    rw [Sk.rwalkL]
    split
    · next hk => exact ih (by rintro rfl; exact Bool.false_ne_true hk)
    · cases c; rw [Sk.rwalk]; exact Nat.le_add_right 1 _

theorem Sk.lwalkL_pos {cs : List Sk} (h : cs ≠ []) : 1 ≤ Sk.lwalkL cs := by
  induction cs with
  | nil => exact absurd rfl h
  | cons c cs ih =>
    rw [Sk.lwalkL]
    split
    · cases c; rw [Sk.lwalk]; exact Nat.le_add_right 1 _
    · next hk =>
      rw [Bool.or_eq_true, not_or, List.isEmpty_iff] at hk
      exact ih hk.2

theorem Sk.height_le_rwalk : ∀ t : Sk, t.height ≤ 2 → t.height ≤ t.rwalk
  | .node cs, h => by
    rw [Sk.height] at h ⊢
    rw [Sk.rwalk]
    cases cs with
    | nil => exact Nat.le_refl _
    | cons c cs => have := Sk.rwalkL_pos (List.cons_ne_nil c cs); omega

theorem Sk.height_le_lwalk : ∀ t : Sk, t.height ≤ 2 → t.height ≤ t.lwalk
  | .node cs, h => by
    rw [Sk.height] at h ⊢
    rw [Sk.lwalk]
    cases cs with
    | nil => exact Nat.le_refl _
    | cons c cs => have := Sk.lwalkL_pos (List.cons_ne_nil c cs); omega

theorem Sk.groupOK_of_le2 {cs : List Sk} (h : ∀ c ∈ cs, c.height ≤ 2) : Sk.groupOK cs = true := by
  cases cs with
  | nil => rfl
  | cons c0 rest =>
    rw [List.forall_mem_cons] at h
    rw [Sk.groupOK_cons]
    refine ⟨fun c hc => ?_, List.pairwise_of_forall_mem_list fun a ha b _ => ?_⟩
    · rw [Sk.pairExact, decide_eq_true_eq]
      exact Nat.le_min.mpr ⟨Nat.le_trans (Nat.min_le_left _ _) (Sk.height_le_rwalk c0 h.1),
        Nat.le_trans (Nat.min_le_right _ _) (Sk.height_le_lwalk c (h.2 c hc))⟩
    · rw [Sk.shallow, decide_eq_true_eq]
      exact Nat.le_trans (Nat.min_le_left _ _) (h.2 a ha)

theorem Sk.exact_of_height_le : ∀ t : Sk, t.height ≤ 3 → t.exact = true := by
  apply Sk.ind
  intro cs ih h
  rw [Sk.height] at h
  have hc : ∀ c ∈ cs, c.height ≤ 2 := fun c hc => by
    have := Sk.height_le_heightL hc; omega
  rw [Sk.exact_node]
  exact ⟨Sk.groupOK_of_le2 hc, fun c hcm => ih c hcm (Nat.le_succ_of_le (hc c hcm))⟩

/-! ## complete trees -/

/-- the complete `k`-ary tree with `n + 1` levels -/
def Sk.full (k : Nat) : Nat → Sk
  | 0 => .node []
  | n + 1 => .node (List.replicate k (Sk.full k n))

theorem Sk.walks_pair (a : Sk) : Sk.heightL [a, a] = a.height ∧ Sk.rwalkL [a, a] = a.rwalk ∧
    Sk.lwalkL [a, a] = a.lwalk := by
  refine ⟨?_, ?_, ?_⟩
  · rw [Sk.heightL, Sk.heightL, Sk.heightL, Nat.max_zero, Nat.max_self]
  · rw [Sk.rwalkL, Sk.rwalkL, List.any_nil, if_neg Bool.false_ne_true, ite_self]
  · rw [Sk.lwalkL, Sk.lwalkL, List.isEmpty_nil, Bool.or_true, if_pos rfl, ite_self]

theorem Sk.full2_walks (n : Nat) : (Sk.full 2 n).height = n + 1 ∧ (Sk.full 2 n).rwalk = n + 1 ∧
    (Sk.full 2 n).lwalk = n + 1 := by
  induction n with
  | zero => exact ⟨rfl, rfl, rfl⟩
  | succ n ih =>
    obtain ⟨h1, h2, h3⟩ := Sk.walks_pair (Sk.full 2 n)
    rw [Sk.full, show List.replicate 2 (Sk.full 2 n) = [Sk.full 2 n, Sk.full 2 n] from rfl,
      Sk.height, Sk.rwalk, Sk.lwalk, h1, h2, h3, ih.1, ih.2.1, ih.2.2, Nat.add_comm 1]
    exact ⟨rfl, rfl, rfl⟩

theorem Sk.full2_exact (n : Nat) : (Sk.full 2 n).exact = true := by
  induction n with
  | zero => rfl
  | succ n ih =>
    obtain ⟨h1, h2, h3⟩ := Sk.full2_walks n
    rw [Sk.full, show List.replicate 2 (Sk.full 2 n) = [Sk.full 2 n, Sk.full 2 n] from rfl,
      Sk.exact_node, Sk.groupOK_cons]
    refine ⟨⟨fun c hc => ?_, List.pairwise_singleton _ _⟩, fun c hc => ?_⟩
    · rw [List.mem_singleton.mp hc, Sk.pairExact, decide_eq_true_eq, h1, h2, h3]
      exact Nat.le_refl _
    · rcases List.mem_cons.mp hc with rfl | hc
      · exact ih
      · exact List.mem_singleton.mp hc ▸ ih

end Plot
