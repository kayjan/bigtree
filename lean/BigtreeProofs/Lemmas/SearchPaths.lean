import BigtreeModel.Search
import BigtreeProofs.Lemmas.Search
import BigtreeProofs.Lemmas.QueryGoTo
/-! Helper lemmas for C09: `find_relative_paths` (accumulator = denotation) and `find_full_path`. -/

namespace Search
open Query

/-! ### threading an accumulator through `foldlM` (the `*` step of `resolve`) -/

theorem foldlM_acc_eq (f : Addr → List Addr → Except Err (List Addr)) (g : Addr → Except Err (List Addr))
    (h : ∀ ch acc, f ch acc = (g ch).map (acc ++ ·)) :
    ∀ (l : List Addr) (acc : List Addr),
      l.foldlM (fun acc' ch => f ch acc') acc = ((l.mapM g).map List.flatten).map (acc ++ ·) := by
  intro l
  induction l with
  | nil => intro acc; simp [pure, Except.pure, Except.map]
  | cons ch l ih =>
    intro acc
    rw [List.foldlM_cons, List.mapM_cons, h ch acc]
    cases g ch with
    | error e => rfl
    | ok r =>
      simp only [Except.map, bind, Except.bind]
      rw [ih (acc ++ r)]
      cases l.mapM g with
      | error e => rfl
      | ok rs => simp [Except.map, pure, Except.pure, List.append_assoc]

/-! ### `find_child_by_name` under sibling-uniqueness -/

/-- sibling names are unique everywhere in the tree (what `Node` enforces) -/
def SibUnique (R : Tree) : Prop :=
  ∀ (p : Addr) (j k : Nat), (sub R (p ++ [j])).isSome → (sub R (p ++ [k])).isSome →
    nameAt R (p ++ [j]) = nameAt R (p ++ [k]) → j = k

theorem sub_snoc_isSome {R : Tree} {p : Addr} {t : Tree} (h : sub R p = some t) (k : Nat) :
    (sub R (p ++ [k])).isSome ↔ k < t.children.length := by
  rw [sub_snoc, h]
  exact Iff.of_eq (isSome_getElem? t.children k)

theorem mem_childrenOf_iff (R : Tree) (p x : Addr) :
    x ∈ childrenOf R p ↔ ∃ k, x = p ++ [k] ∧ (sub R x).isSome := by
  cases h : sub R p with
  | none =>
    simp only [childrenOf_of_none h, List.not_mem_nil, false_iff, not_exists, not_and]
    rintro k rfl hs
    have := sub_isSome_of_append hs
    rw [h] at this; cases this
  | some t =>
    rw [childrenOf_of_sub h, List.mem_map]
    constructor
    · rintro ⟨k, hk, rfl⟩
      exact ⟨k, rfl, (sub_snoc_isSome h k).2 (List.mem_range.1 hk)⟩
    · rintro ⟨k, rfl, hs⟩
      exact ⟨k, List.mem_range.2 ((sub_snoc_isSome h k).1 hs), rfl⟩

theorem findChildByName_eq_some {R : Tree} {p ch : Addr} {c : Str} :
    findChildByName R p c = .ok (some ch) ↔ childrenNamed R p c = [ch] := by
  rw [findChildByName_eq]
  rcases childrenNamed R p c with _ | ⟨x, _ | ⟨y, ys⟩⟩ <;> simp

theorem mem_childrenNamed {R : Tree} {p x : Addr} {c : Str} :
    x ∈ childrenNamed R p c ↔ ∃ k, x = p ++ [k] ∧ (sub R x).isSome ∧ nameAt R x = some c := by
  rw [childrenNamed, List.mem_filter, mem_childrenOf_iff, nameIs, beq_iff_eq]
  exact ⟨fun ⟨⟨k, h1, h2⟩, h3⟩ => ⟨k, h1, h2, h3⟩, fun ⟨k, h1, h2, h3⟩ => ⟨⟨k, h1, h2⟩, h3⟩⟩

theorem findChildByName_sound {R : Tree} {p ch : Addr} {c : Str}
    (h : findChildByName R p c = .ok (some ch)) :
    ∃ k, ch = p ++ [k] ∧ (sub R ch).isSome ∧ nameAt R ch = some c :=
  mem_childrenNamed.1 (findChildByName_eq_some.1 h ▸ List.mem_singleton_self ch)

theorem nodup_all_eq_singleton {α : Type} {l : List α} {x : α} (hn : l.Nodup) (hx : x ∈ l)
    (hall : ∀ y ∈ l, y = x) : l = [x] := by
  cases l with
  | nil => cases hx
  | cons y ys =>
    cases hall y List.mem_cons_self
    cases ys with
    | nil => rfl
    | cons z zs =>
      cases hall z (List.mem_cons_of_mem _ List.mem_cons_self)
      exact absurd List.mem_cons_self (List.nodup_cons.1 hn).1

theorem findChildByName_complete {R : Tree} (hu : SibUnique R) {p : Addr} {k : Nat} {c : Str}
    (hs : (sub R (p ++ [k])).isSome) (hc : nameAt R (p ++ [k]) = some c) :
    findChildByName R p c = .ok (some (p ++ [k])) := by
  refine findChildByName_eq_some.2 (nodup_all_eq_singleton
    (List.Sublist.nodup List.filter_sublist (childrenOf_nodup R p)) (mem_childrenNamed.2 ⟨k, rfl, hs, hc⟩) ?_)
  intro y hy
  obtain ⟨j, rfl, hsj, hn⟩ := mem_childrenNamed.1 hy
  rw [hu p j k hsj hs (hn.trans hc.symm)]

/-! ### `find_full_path` -/

theorem pathNames_ne_nil (R : Tree) (v : Addr) : pathNames R v ≠ [] := by
  simp [pathNames, nodePathSpec]

theorem pathNames_mem {R : Tree} {v : Addr} (hv : (sub R v).isSome) {w : Str} (hw : w ∈ pathNames R v) :
    ∃ (x : Addr) (t : Tree), sub R x = some t ∧ w = t.name := by
  rw [pathNames, List.mem_map] at hw
  obtain ⟨b, hb, rfl⟩ := hw
  obtain ⟨m, _, rfl⟩ := mem_nodePathSpec.1 hb
  have hsome : (sub R (v.take m)).isSome :=
    sub_isSome_of_append (b := v.drop m) (by rw [List.take_append_drop]; exact hv)
  cases hsub : sub R (v.take m) with
  | none => rw [hsub] at hsome; cases hsome
  | some t => exact ⟨_, t, hsub, by rw [nameAt, hsub]; rfl⟩

/-- names met below `p` on the way down along `ks` -/
def stepNames (R : Tree) : Addr → Addr → List Str
  | _, [] => []
  | p, k :: ks => (nameAt R (p ++ [k])).getD [] :: stepNames R (p ++ [k]) ks

theorem pathNames_append (R : Tree) : ∀ (ks p : Addr),
    pathNames R (p ++ ks) = pathNames R p ++ stepNames R p ks := by
  intro ks
  induction ks with
  | nil => intro p; rw [stepNames, List.append_nil, List.append_nil]
  | cons k ks ih =>
    intro p
    rw [List.append_cons, ih, pathNames_snoc, stepNames, List.append_assoc, List.singleton_append]

theorem fullPathLoop_sound (R : Tree) : ∀ (cs : List Str) (p v : Addr) (o : Option Addr),
    fullPathLoop R cs p o = .ok (some v) → (o = some p) → (sub R p).isSome →
    ∃ ks, v = p ++ ks ∧ (sub R v).isSome ∧ pathNames R v = pathNames R p ++ cs := by
  intro cs
  induction cs with
  | nil =>
    intro p v o h ho hp
    subst ho
    cases h
    exact ⟨[], (List.append_nil p).symm, hp, (List.append_nil _).symm⟩
  | cons c cs ih =>
    intro p v o h _ hp
    rw [fullPathLoop] at h
    cases hf : findChildByName R p c with
    | error e => rw [hf] at h; cases h
    | ok r =>
      cases r with
      | none => rw [hf] at h; cases h
      | some ch =>
        rw [hf] at h
        obtain ⟨k, rfl, hs, hn⟩ := findChildByName_sound hf
        obtain ⟨ks, rfl, hv, hpn⟩ := ih (p ++ [k]) v (some (p ++ [k])) h rfl hs
        refine ⟨k :: ks, List.append_cons p k ks ▸ rfl, hv, ?_⟩
        rw [hpn, pathNames_snoc, hn, List.append_assoc]
        rfl

theorem fullPathLoop_complete {R : Tree} (hu : SibUnique R) : ∀ (ks p : Addr) (o : Option Addr),
    (sub R (p ++ ks)).isSome → o = some p →
    fullPathLoop R (stepNames R p ks) p o = .ok (some (p ++ ks)) := by
  intro ks
  induction ks with
  | nil => intro p o _ ho; rw [ho, stepNames, fullPathLoop, List.append_nil]
  | cons k ks ih =>
    intro p o hs _
    rw [List.append_cons] at hs ⊢
    have hk : (sub R (p ++ [k])).isSome := sub_isSome_of_append hs
    have hn : nameAt R (p ++ [k]) = some ((nameAt R (p ++ [k])).getD []) := by
      rw [nameAt]
      cases hsub : sub R (p ++ [k]) with
      | none => rw [hsub] at hk; cases hk
      | some t => rfl
    rw [stepNames, fullPathLoop, findChildByName_complete hu hk hn]
    exact ih (p ++ [k]) _ hs rfl

/-- `find_full_path` finds `v` iff the query, stripped and split, is the list of names from the root to `v`;
what `split` and the strips do to a string plays no part -/
theorem findFullPath_iff_split {R : Tree} (sp : Str) (a : Addr) (q : Str) (hu : SibUnique R) (v : Addr) :
    findFullPath R sp a q = .ok (some v) ↔
      (sub R v).isSome ∧ split sp (lstrip sp (rstrip sp q)) = pathNames R v := by
  have hpn : pathNames R v = R.name :: stepNames R [] v := by
    have := pathNames_append R v []
    rwa [pathNames_nil, List.nil_append] at this
  have hroot : (nameAt R []).getD [] = R.name := by simp [nameAt]
  unfold findFullPath
  simp only [root_eq_nil]
  rw [hroot]
  cases split sp (lstrip sp (rstrip sp q)) with
  | nil => simp [hpn]
  | cons w ws =>
    by_cases hw : w = R.name
    · subst hw
      simp only [List.head?_cons, bne_self_eq_false, Bool.false_eq_true, if_false, List.drop_one,
        List.tail_cons]
      constructor
      · intro h
        obtain ⟨ks, _, hv, hks⟩ := fullPathLoop_sound R ws [] v _ h rfl (by simp)
        exact ⟨hv, by rw [hks, pathNames_nil]; rfl⟩
      · rintro ⟨hv, hj⟩
        rw [hpn, List.cons.injEq] at hj
        rw [hj.2]
        exact fullPathLoop_complete hu v [] (some []) (by simpa using hv) rfl
    · simp [hw, hpn]

end Search
