import BigtreeProofs.Lemmas.NewickAttrs
/-! Helper lemmas for C06 (Newick): the writer's default options (names only) as the case of
`NewickAttrs` without length attribute and attribute list, where the parser's `length_attr` and
`attr_prefix` are arbitrary. Core Lean only. -/

namespace Newick
open Export

/-- names only -/
def noAttrs : Attrs → Attrs := fun _ => []

/-! ### what the writer emits with default options -/

mutual
/-- the string `tree_to_newick(t)` returns with default options (`write_default`): names only -/
def ws (c : Chars) : Tree → Str
  | .node _ n _ cs => if cs.isEmpty then serialize c n else '(' :: wsL c cs ++ ')' :: serialize c n
def wsL (c : Chars) : List Tree → Str
  | [] => []
  | [t] => ws c t
  | t :: u :: ts => ws c t ++ ',' :: wsL c (u :: ts)
end

mutual
theorem write_default (c : Chars) : ∀ (t : Tree) (r : Bool), write c {} r t = some (ws c t)
  | .node i n a cs => by
    intro r
    rw [write_node, ws, show nameStr c {} r n a cs.isEmpty = some (serialize c n) from
      nameStr_nolen (la := []) (al := []) (fun h => h.1 rfl), writeL_default c cs, show attrStr c {} a = [] from rfl]
    simp only [Option.bind_some, Option.map_some, List.append_nil]
    split <;> rfl
theorem writeL_default (c : Chars) : ∀ (ts : List Tree), writeL c {} ts = some (wsL c ts)
  | [] => rfl
  | [t] => write_default c t false
  | t :: u :: ts => by
    rw [writeL_cons_cons, wsL, write_default c t, writeL_default c (u :: ts)]
    rfl
end

/-! ### the tree read back, and the hypotheses that are void without lengths and attributes -/

mutual
theorem img_nil (r : Bool) : ∀ (t : Tree), img [] [] r t = canonWith noAttrs t
  | .node i n a cs => by rw [img, canonWith, imgL_nil cs]; simp [imgAttrs, listed, noAttrs]
theorem imgL_nil : ∀ (ts : List Tree), imgL [] [] ts = canonWithL noAttrs ts
  | [] => rfl
  | t :: ts => by rw [imgL, canonWithL, img_nil false t, imgL_nil ts]
end

mutual
theorem allNodes_of_forall (P : Tree → Prop) (h : ∀ u, P u) : ∀ (t : Tree), AllNodes P t
  | .node i n a cs => (allNodes_node P i n a cs).2 ⟨h _, allNodesL_of_forall P h cs⟩
theorem allNodesL_of_forall (P : Tree → Prop) (h : ∀ u, P u) : ∀ (ts : List Tree), AllNodesL P ts
  | [] => trivial
  | t :: ts => (allNodesL_cons P t ts).2 ⟨allNodes_of_forall P h t, allNodesL_of_forall P h ts⟩
end

theorem lenNode_nil (u : Tree) : LenNode [] u := .inl rfl

theorem attrNode_nil (q : Char) (u : Tree) : AttrNode q [] u := fun _ hk => nomatch hk

/-! ### the stack invariant -/

/-- the name pending and the children parked one level down -/
def parked (s : PState) (t : Tree) : PState :=
  { s with cum := t.name, dn := upd s.dn (s.depth + 1) (canonWithL noAttrs t.children) }

theorem go_wsL (c : Chars) (hc : c.OK) (la pre : Str) : ∀ (ts : List Tree), ts ≠ [] → ∀ (s : PState) (rest : Str),
    Ready s → GoodL c ts →
    go c la pre s (wsL c ts ++ ')' :: rest)
      = go c la pre { s with depth := s.depth - 1, dn := upd s.dn s.depth (s.dn s.depth ++ canonWithL noAttrs ts) } rest := by
  intro ts hts s rest hR hg
  rw [← imgL_nil]
  exact go_writeL hc (la := []) (al := []) (.inl rfl) (.inl rfl) ts hts (wsL c ts) s hR hg
    (allNodesL_of_forall _ lenNode_nil ts) (allNodesL_of_forall _ (attrNode_nil _) ts) (writeL_default c ts) rest

theorem go_ws (c : Chars) (hc : c.OK) (la pre : Str) : ∀ (t : Tree) (s : PState) (rest : Str),
    Ready s → Good c t → go c la pre s (ws c t ++ rest) = go c la pre (parked s t) rest
  | .node i n a cs, s, rest, hR, hg => by
    obtain ⟨hok, hq, hcs⟩ := good_node hg
    obtain ⟨dn, m, d, h0, rfl⟩ := ready_eq hR
    rw [ws]
    cases cs with
    | nil =>
      rw [List.isEmpty_nil, if_pos rfl, go_text hc n _ rest hq rfl, parked, Tree.children_node, canonWithL,
        upd_self_eq dn (d + 1) [] h0]
      rfl
    | cons e es =>
      rw [List.isEmpty_cons, if_neg Bool.false_ne_true, List.append_assoc, List.cons_append, List.cons_append,
        go_parens hc hR (fun rest => go_wsL c hc la pre (e :: es) (List.cons_ne_nil _ _) _ rest (ready_down _ hR) hcs),
        go_text hc n _ rest hq rfl]
      rfl

/-- `newick_to_tree(tree_to_newick(t))` for the default writer options -/
theorem parse_ws (c : Chars) (hc : c.OK) (la pre : Str) (t : Tree) (hg : Good c t) :
    parse c la pre (ws c t) = some (canonWith noAttrs t) := by
  rw [← img_nil true]
  exact parse_write_gen hc (.inl rfl) (.inl rfl) hg
    ⟨fun h => absurd rfl h.1, allNodesL_of_forall _ lenNode_nil _⟩ (allNodes_of_forall _ (attrNode_nil _) t)
    (write_default c t true)

end Newick
