import BigtreeModel.HelperDiff
import BigtreeProofs.Lemmas.StringsBridge
/-!
# String lemmas for `get_tree_diff` (C15)

`join` / `pathName` / `split` / `strip` for a one-character separator, as instances of the laws in
`Strings`; the string order `strLt`, which is core's `<` on `List Char`; the descending
duplicate-free sort `sortedDesc`.
-/

namespace Helper

theorem join_nil (sep : Str) : join sep [] = [] := rfl

theorem pathName_eq_join (c : Char) (xs : List Str) (h : xs ≠ []) :
    pathName [c] xs = join [c] ([] :: xs) :=
  (List.intercalate_cons_of_ne_nil (ys := [c]) (l := []) h).symm

theorem split_join (c : Char) (xs : List Str) (hne : xs ≠ []) (h : ∀ x ∈ xs, c ∉ x) :
    split [c] (join [c] xs) = xs := by
  rw [split_eq_strings _ (List.cons_ne_nil c [])]
  exact Strings.split_join [c] (List.cons_ne_nil c []) xs hne fun x hx => (Store.free_singleton c x).2 (h x hx)

theorem split_pathName (c : Char) (xs : List Str) (hne : xs ≠ []) (h : ∀ x ∈ xs, c ∉ x) :
    split [c] (pathName [c] xs) = [] :: xs := by
  rw [split_eq_strings _ (List.cons_ne_nil c [])]
  exact Strings.split_sep_join [c] (List.cons_ne_nil c []) xs hne fun x hx => (Store.free_singleton c x).2 (h x hx)

theorem pathName_inj (c : Char) (xs ys : List Str) (hx : xs ≠ []) (hy : ys ≠ [])
    (h1 : ∀ x ∈ xs, c ∉ x) (h2 : ∀ y ∈ ys, c ∉ y) (h : pathName [c] xs = pathName [c] ys) :
    xs = ys :=
  Strings.join_injective [c] (List.cons_ne_nil c []) xs ys hx hy
    (fun x hx => (Store.free_singleton c x).2 (h1 x hx)) (fun y hy => (Store.free_singleton c y).2 (h2 y hy))
    (List.append_cancel_left h)

/-- `strip` removes the leading separators of a joined path (a `path_name` has one, a path of
    `dataframe_to_tree` has none) and nothing else -/
theorem strip_join (c : Char) (lead : Str) (xs : List Str) (hl : ∀ d ∈ lead, d = c) (hne : xs ≠ [])
    (h : ∀ x ∈ xs, x ≠ [] ∧ c ∉ x) : strip [c] (lead ++ join [c] xs) = join [c] xs := by
  have := (Strings.strip_join_pad [c] xs hne
    (fun x hx => ⟨(h x hx).1, (Store.free_singleton c x).2 (h x hx).2⟩) lead []
    (fun d hd => List.mem_singleton.2 (hl d hd)) fun _ h => absurd h List.not_mem_nil).2
  rwa [List.append_nil] at this

theorem pathName_prefix (sep : Str) (xs ys : List Str) (hx : xs ≠ []) :
    pathName sep xs <+: pathName sep (xs ++ ys) := by
  by_cases hy : ys = []
  · rw [hy, List.append_nil]; exact List.prefix_refl _
  · exact ⟨sep ++ join sep ys, by
      rw [pathName, pathName, join, join, join, Strings.join_append sep hx hy]
      simp only [List.append_assoc]⟩

/-! ## the string order -/

theorem strLt_iff_lt (a b : Str) : strLt a b = true ↔ a < b := by
  induction a generalizing b with
  | nil => cases b <;> simp [strLt]
  | cons x xs ih =>
    cases b with
    | nil => simp [strLt]
    | cons y ys =>
      rw [strLt, List.cons_lt_cons_iff, Bool.or_eq_true, Bool.and_eq_true, decide_eq_true_iff, beq_iff_eq, ih]

/-! ## the descending sort -/

theorem mem_insDesc (x y : Str) (ps : List Str) : y ∈ insDesc x ps ↔ y = x ∨ y ∈ ps := by
  induction ps with
  | nil => exact List.mem_singleton.trans (or_iff_left List.not_mem_nil).symm
  | cons p ps ih =>
    rw [insDesc]
    by_cases h1 : strLt p x = true
    · rw [if_pos h1, List.mem_cons]
    · rw [if_neg h1]
      by_cases h2 : x = p
      · subst h2
        rw [if_pos (beq_self_eq_true x), List.mem_cons]
        exact ⟨.inr, fun h => h.elim .inl id⟩
      · rw [if_neg (mt beq_iff_eq.mp h2), List.mem_cons, ih, List.mem_cons]
        exact or_left_comm

theorem mem_sortedDesc (ps : List Str) (x : Str) : x ∈ sortedDesc ps ↔ x ∈ ps := by
  induction ps with
  | nil => rfl
  | cons p ps ih =>
    rw [show sortedDesc (p :: ps) = insDesc p (sortedDesc ps) from rfl, mem_insDesc, ih, List.mem_cons]

theorem insDesc_pairwise (x : Str) (ps : List Str) (h : ps.Pairwise (fun a b => b < a)) :
    (insDesc x ps).Pairwise (fun a b => b < a) := by
  induction ps with
  | nil => exact List.pairwise_singleton _ _
  | cons p ps ih =>
    have ⟨hp, hps⟩ := List.pairwise_cons.mp h
    rw [insDesc]
    by_cases hpx : p < x
    · rw [if_pos ((strLt_iff_lt p x).mpr hpx)]
      refine List.pairwise_cons.mpr ⟨fun b hb => ?_, h⟩
      rcases List.mem_cons.mp hb with rfl | hb
      · exact hpx
      · exact List.lt_trans (hp b hb) hpx
    · rw [if_neg (mt (strLt_iff_lt p x).mp hpx)]
      by_cases hxp : x = p
      · rw [if_pos (beq_iff_eq.mpr hxp)]; exact h
      · rw [if_neg (mt beq_iff_eq.mp hxp)]
        refine List.pairwise_cons.mpr ⟨fun b hb => ?_, ih hps⟩
        rcases (mem_insDesc x b ps).mp hb with rfl | hb
        · exact (List.le_iff_lt_or_eq.mp hpx).resolve_right hxp
        · exact hp b hb

theorem sortedDesc_pairwise (ps : List Str) : (sortedDesc ps).Pairwise (fun a b => b < a) := by
  induction ps with
  | nil => exact .nil
  | cons p ps ih => exact insDesc_pairwise p _ ih

/-- in the descending order no string comes before one of its extensions, and none twice -/
theorem sortedDesc_no_prefix (ps : List Str) : (sortedDesc ps).Pairwise (fun a b => ¬ a <+: b) :=
  (sortedDesc_pairwise ps).imp fun h hpre => hpre.le h

theorem sortedDesc_eq_nil (ps : List Str) : sortedDesc ps = [] ↔ ps = [] := by
  simp only [List.eq_nil_iff_forall_not_mem, mem_sortedDesc]

end Helper
