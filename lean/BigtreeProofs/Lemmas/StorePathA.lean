import BigtreeModel.StorePath
import BigtreeProofs.Lemmas.StoreBasic
/-!
# Paths on the pointer store: the upward walks (`anc`, `rootOf`) without fuel; routes from the root
are downward chains; sibling-name uniqueness and "same tree"
-/

namespace Store

/-! ## fuel: `n` steps of the upward walk are enough -/

theorem anc_length_lt {s : Store} (hw : WF s) (v : Nat) (hv : v < s.n) : (anc s s.n v).length < s.n :=
  anc_eq_ancF s s.n v ▸ ParentFn.ancF_length_lt hw.acyc hw.range hv s.n

theorem anc_root (s : Store) (f v : Nat) (h : s.parent v = none) : anc s f v = [] :=
  anc_eq_ancF s f v ▸ ParentFn.ancF_of_none h f

theorem anc_step {s : Store} (hw : WF s) (v p : Nat) (h : s.parent v = some p) :
    anc s s.n v = p :: anc s s.n p := by
  rw [anc_eq_ancF, anc_eq_ancF]
  exact ParentFn.ancF_step hw.acyc hw.range (Nat.le_refl _) h

theorem rootOf_eq_getLast (s : Store) : ∀ (f v : Nat), rootOf s f v = (v :: anc s f v).getLast (by simp) := by
  intro f
  induction f with
  | zero => intro v; rfl
  | succ f ih =>
    intro v
    rw [rootOf, anc]
    cases hp : s.parent v with
    | none => rfl
    | some p => simp only [ih p]; exact (List.getLast_cons (List.cons_ne_nil _ _)).symm

theorem rootOf_root (s : Store) (v : Nat) (h : s.parent v = none) : rootOf s s.n v = v := by
  rw [rootOf_eq_getLast]; simp [anc_root s s.n v h]

theorem rootOf_step {s : Store} (hw : WF s) (v p : Nat) (h : s.parent v = some p) :
    rootOf s s.n v = rootOf s s.n p := by
  rw [rootOf_eq_getLast, rootOf_eq_getLast]
  simp only [anc_step hw v p h]
  rw [List.getLast_cons (by simp)]

/-- the executable `root` walk reaches the root -/
theorem rootOf_spec {s : Store} (hw : WF s) {r v : Nat} (hr : Reach s r v) (hroot : s.parent r = none) :
    rootOf s s.n v = r := by
  induction hr with
  | refl => exact rootOf_root s r hroot
  | step _ hp ih => rw [rootOf_step hw _ _ hp]; exact ih

theorem rootOf_is_root {s : Store} (hw : WF s) (v : Nat) :
    s.parent (rootOf s s.n v) = none ∧ Reach s (rootOf s s.n v) v := by
  induction hw.acyc v with
  | intro v _ ih =>
    cases hp : s.parent v with
    | none => rw [rootOf_root s v hp]; exact ⟨hp, Reach.refl v⟩
    | some p =>
      rw [rootOf_step hw v p hp]
      exact ⟨(ih p hp).1, Reach.step (ih p hp).2 hp⟩

/-! ## the route from the root (`pathNodes`) is a downward chain -/

/-- consecutive entries are parent and child -/
def Down (s : Store) : List Nat → Prop
  | [] => True
  | [_] => True
  | a :: b :: t => s.parent b = some a ∧ Down s (b :: t)

theorem pathNodes_root (s : Store) (v : Nat) (h : s.parent v = none) : pathNodes s v = [v] := by
  simp [pathNodes, anc_root s s.n v h]

theorem pathNodes_step {s : Store} (hw : WF s) (v p : Nat) (h : s.parent v = some p) :
    pathNodes s v = pathNodes s p ++ [v] := by
  simp [pathNodes, anc_step hw v p h]

theorem pathNodes_getLast (s : Store) (v : Nat) : (pathNodes s v).getLast? = some v := by
  simp [pathNodes]

theorem pathNodes_head (s : Store) (v : Nat) : (pathNodes s v).head? = some (rootOf s s.n v) := by
  rw [rootOf_eq_getLast, pathNodes, List.head?_reverse, List.getLast?_eq_some_getLast (by simp)]

theorem down_snoc (s : Store) : ∀ (l : List Nat) (p v : Nat), Down s l → l.getLast? = some p →
    s.parent v = some p → Down s (l ++ [v]) := by
  intro l
  induction l with
  | nil => intro p v _ h; simp at h
  | cons a t ih =>
    intro p v hd hl hp
    cases t with
    | nil =>
      simp at hl; subst hl
      exact ⟨hp, trivial⟩
    | cons b t' =>
      refine ⟨hd.1, ?_⟩
      apply ih p v hd.2 _ hp
      simpa [List.getLast?_cons_cons] using hl

theorem down_pathNodes {s : Store} (hw : WF s) (v : Nat) : Down s (pathNodes s v) := by
  induction hw.acyc v with
  | intro v _ ih =>
    cases hp : s.parent v with
    | none => rw [pathNodes_root s v hp]; trivial
    | some p =>
      rw [pathNodes_step hw v p hp]
      exact down_snoc s _ p v (ih p hp) (pathNodes_getLast s p) hp

/-! ## the two notions that both `StorePathB` and `StorePathD` speak of -/

/-- no two children of one parent have the same name -/
def SibUnique (s : Store) : Prop :=
  ∀ p a b, a ∈ s.children p → b ∈ s.children p → s.name a = s.name b → a = b

def SameTree (s : Store) (u v : Nat) : Prop := rootOf s s.n u = rootOf s s.n v

instance (s : Store) (u v : Nat) : Decidable (SameTree s u v) := by unfold SameTree; infer_instance

end Store
