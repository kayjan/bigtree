import BigtreeModel.Helper
/-!
# Lemmas for C14: prune_tree / get_subtree on Model B

Both phases of `prune_tree` are restrictions of the input tree: the detach loop is `restrict (keepD A N)`,
which for non-nested targets keeps the routes to the targets and (unless exact) what lies below them; the depth
cut through the level groups is the structural `cutDepth`, which adds a depth test to the predicate. The rest
is about the nodes of a restriction (`keptAddrs`), `walk`, `find_path` and `locate`.
The level groups here carry addresses and no gate: `layerF`, `heightF` stand beside `layerL`, `heightL` of
`Lemmas/Iter.lean` and share no lemma with them.

The theorems by recursion over a tree and its forest match on that argument only and take the others by
`fun`: matching on all of them costs several times more to elaborate.
-/

namespace Helper

/-- the predicate the detach loop applies to a non-root node `b` -/
def keepD (A N : List Addr) (b : Addr) : Bool :=
  !(A.contains b.dropLast) || A.contains b || N.contains b

theorem detach_cond (A N : List Addr) (a : Addr) (k : Nat) :
    (A.contains a && !(A.contains (a ++ [k])) && !(N.contains (a ++ [k]))) = !keepD A N (a ++ [k]) := by
  rw [keepD, List.dropLast_concat, Bool.not_or, Bool.not_or, Bool.not_not]

mutual
theorem detach_eq_restrict (A N : List Addr) :
    ∀ (t : Tree) (a : Addr), detach A N a t = restrict (keepD A N) a t
  | .node i n av cs => fun a => by rw [detach, restrict, detachL_eq_restrictL A N cs a 0]
theorem detachL_eq_restrictL (A N : List Addr) :
    ∀ (cs : List Tree) (a : Addr) (k : Nat),
      detachL A N a (A.contains a) k cs = restrictL (keepD A N) a k cs
  | [] => fun a k => rfl
  | c :: cs => fun a k => by
    rw [detachL, restrictL, detach_cond, detachL_eq_restrictL A N cs a (k + 1),
      detach_eq_restrict A N c (a ++ [k])]
    cases keepD A N (a ++ [k]) <;> rfl
end

/-! ## restrictions agree when their predicates agree along kept routes -/

mutual
theorem restrict_congr (k1 k2 : Addr → Bool) (P : Addr → Prop)
    (h1 : ∀ b j, P b → k1 (b ++ [j]) = k2 (b ++ [j]))
    (h2 : ∀ b j, P b → k1 (b ++ [j]) = true → P (b ++ [j])) :
    ∀ (t : Tree) (a : Addr), P a → restrict k1 a t = restrict k2 a t
  | .node i n av cs => fun a ha => by rw [restrict, restrict, restrictL_congr k1 k2 P h1 h2 cs a 0 ha]
theorem restrictL_congr (k1 k2 : Addr → Bool) (P : Addr → Prop)
    (h1 : ∀ b j, P b → k1 (b ++ [j]) = k2 (b ++ [j]))
    (h2 : ∀ b j, P b → k1 (b ++ [j]) = true → P (b ++ [j])) :
    ∀ (cs : List Tree) (a : Addr) (k : Nat), P a → restrictL k1 a k cs = restrictL k2 a k cs
  | [] => fun _ _ _ => rfl
  | c :: cs => fun a k ha => by
    rw [restrictL, restrictL, ← h1 a k ha, restrictL_congr k1 k2 P h1 h2 cs a (k + 1) ha]
    split
    · next hk => rw [restrict_congr k1 k2 P h1 h2 c (a ++ [k]) (h2 a k ha hk)]
    · rfl
end

/-! ## the detach predicate for non-nested targets -/

/-- on a route to a target, or (unless `exact`) below a target -/
def keepT (ps : List Addr) (exact : Bool) (b : Addr) : Bool :=
  ps.any fun p => b.isPrefixOf p || (!exact && p.isPrefixOf b)

theorem keepT_iff (ps : List Addr) (exact : Bool) (b : Addr) :
    keepT ps exact b = true ↔ ∃ p ∈ ps, b <+: p ∨ (exact = false ∧ p <+: b) := by
  simp [keepT, List.any_eq_true, List.isPrefixOf_iff_prefix]

theorem pruneKeep_iff (ps : List Addr) (exact : Bool) (md : Nat) (b : Addr) :
    pruneKeep ps exact md b = true ↔
      (ps = [] ∨ ∃ p ∈ ps, b <+: p ∨ (exact = false ∧ p <+: b)) ∧ (md = 0 ∨ b.length + 1 ≤ md) := by
  simp only [pruneKeep, Bool.and_eq_true, Bool.or_eq_true, List.isEmpty_iff, beq_iff_eq, decide_eq_true_eq]
  exact and_congr_left' (or_congr_right (keepT_iff ps exact b))

theorem mem_properPrefixes (x p : Addr) : x ∈ properPrefixes p ↔ x <+: p ∧ x ≠ p := by
  simp only [properPrefixes, List.mem_map, List.mem_range]
  constructor
  · rintro ⟨k, hk, rfl⟩
    refine ⟨List.take_prefix k p, fun h => ?_⟩
    have := congrArg List.length h
    rw [List.length_take, Nat.min_eq_left (Nat.le_of_lt hk)] at this
    exact Nat.ne_of_lt hk this
  · rintro ⟨hx, hne⟩
    exact ⟨x.length, Nat.lt_of_le_of_ne hx.length_le fun e => hne (hx.eq_of_length e),
      (List.prefix_iff_eq_take.mp hx).symm⟩

/-- `ancestors_to_prune` as computed by `prunePaths` -/
def ancSet (ps : List Addr) (exact : Bool) : List Addr :=
  if exact then ps.flatMap properPrefixes ++ ps else ps.flatMap properPrefixes

theorem mem_ancSet (ps : List Addr) (exact : Bool) (x : Addr) :
    x ∈ ancSet ps exact ↔ (∃ p ∈ ps, x <+: p ∧ x ≠ p) ∨ (exact = true ∧ x ∈ ps) := by
  cases exact
  · simp only [ancSet, Bool.false_eq_true, if_false, List.mem_flatMap, mem_properPrefixes, false_and, or_false]
  · simp only [ancSet, if_true, List.mem_append, List.mem_flatMap, mem_properPrefixes, true_and]

theorem keepD_eq_keepT (ps : List Addr) (exact : Bool) (hnn : NonNested ps)
    (b : Addr) (j : Nat) (hb : keepT ps exact b = true) :
    keepD (ancSet ps exact) ps (b ++ [j]) = keepT ps exact (b ++ [j]) := by
  rw [Bool.eq_iff_iff]
  simp only [keepD, Bool.or_eq_true, Bool.not_eq_true', List.dropLast_concat, keepT_iff]
  rw [← Bool.not_eq_true, List.contains_iff_mem, List.contains_iff_mem, List.contains_iff_mem,
    mem_ancSet, mem_ancSet]
  rw [keepT_iff] at hb
  constructor
  · rintro ((hnA | hA) | hN)
    · obtain ⟨p, hp, h | ⟨he, h⟩⟩ := hb
      · by_cases hbp : b = p
        · subst hbp
          cases hex : exact
          · exact ⟨b, hp, Or.inr ⟨rfl, List.prefix_append b [j]⟩⟩
          · exact absurd (Or.inr ⟨hex, hp⟩) hnA
        · exact absurd (Or.inl ⟨p, hp, h, hbp⟩) hnA
      · exact ⟨p, hp, Or.inr ⟨he, h.trans (List.prefix_append b [j])⟩⟩
    · rcases hA with ⟨p, hp, h, _⟩ | ⟨_, h⟩
      · exact ⟨p, hp, Or.inl h⟩
      · exact ⟨_, h, Or.inl (List.prefix_refl _)⟩
    · exact ⟨_, hN, Or.inl (List.prefix_refl _)⟩
  · rintro ⟨p, hp, h | ⟨he, h⟩⟩
    · by_cases hcp : b ++ [j] = p
      · exact Or.inr (hcp ▸ hp)
      · exact Or.inl (Or.inr (Or.inl ⟨p, hp, h, hcp⟩))
    · rcases List.prefix_concat_iff.mp h with h | h
      · exact Or.inr (h ▸ hp)
      · -- `b` is below the target `p`: were `b` a proper ancestor of a target `p'`, `p` and `p'` would be nested
        refine Or.inl (Or.inl ?_)
        rintro (⟨p', hp', hpre, hne⟩ | ⟨hex, _⟩)
        · have hpp' : p <+: p' := h.trans hpre
          have := hnn p hp p' hp' hpp'
          subst this
          apply hne
          exact List.IsPrefix.eq_of_length_le hpre (h.length_le)
        · rw [he] at hex; exact Bool.false_ne_true hex

/-- the path phase of `prune_tree`, for non-nested targets, keeps exactly the routes to the targets
    and (unless exact) what lies below them -/
theorem detach_targets (ps : List Addr) (exact : Bool) (hnn : NonNested ps) (hne : ps ≠ []) (t : Tree) :
    detach (ancSet ps exact) ps [] t = restrict (keepT ps exact) [] t := by
  have hroot : keepT ps exact [] = true :=
    let ⟨p, hp⟩ := List.exists_mem_of_ne_nil ps hne
    (keepT_iff ps exact []).2 ⟨p, hp, Or.inl List.nil_prefix⟩
  rw [detach_eq_restrict]
  exact restrict_congr _ _ (fun b => keepT ps exact b = true) (keepD_eq_keepT ps exact hnn)
    (fun b j hb hk => by rw [← keepD_eq_keepT ps exact hnn b j hb]; exact hk) t [] hroot

/-! ## the structural depth cut of a restriction is a restriction -/

mutual
theorem restrict_true : ∀ (t : Tree) (a : Addr), restrict (fun _ => true) a t = t
  | .node i n av cs => fun a => by rw [restrict, restrictL_true cs a 0]
theorem restrictL_true : ∀ (cs : List Tree) (a : Addr) (k : Nat), restrictL (fun _ => true) a k cs = cs
  | [] => fun _ _ => rfl
  | c :: cs => fun a k => by rw [restrictL, if_pos rfl, restrict_true c, restrictL_true cs]
end

theorem restrictL_none (keep : Addr → Bool) (a : Addr) (h : ∀ k, keep (a ++ [k]) = false) :
    ∀ (cs : List Tree) (k : Nat), restrictL keep a k cs = []
  | [] => fun _ => rfl
  | c :: cs => fun k => by rw [restrictL, h k, if_neg Bool.false_ne_true]; exact restrictL_none keep a h cs (k + 1)

/-- `keep` and within `max_depth = md`; the node at address `b` has depth `b.length + 1` -/
def withDepth (keep : Addr → Bool) (md : Nat) (b : Addr) : Bool := keep b && decide (b.length + 1 ≤ md)

theorem withDepth_snoc (keep : Addr → Bool) (md : Nat) (a : Addr) (k : Nat) :
    withDepth keep md (a ++ [k]) = (keep (a ++ [k]) && decide (a.length + 2 ≤ md)) := by
  rw [withDepth, List.length_append]; rfl

mutual
theorem cutDepth_restrict (keep : Addr → Bool) (md : Nat) :
    ∀ (t : Tree) (a : Addr), a.length + 1 ≤ md →
      cutDepth md (a.length + 1) (restrict keep a t) = restrict (withDepth keep md) a t
  | .node i n av cs => fun a h => by
    rw [restrict, restrict, cutDepth]
    split
    · next hd =>
      -- the children are one level too deep
      rw [restrictL_none (withDepth keep md) a fun k => by
        rw [withDepth_snoc, ← hd, decide_eq_false (Nat.not_succ_le_self _), Bool.and_false]]
    · next hd => rw [cutDepthL_restrictL keep md cs a 0 (Nat.lt_of_le_of_ne h hd)]
theorem cutDepthL_restrictL (keep : Addr → Bool) (md : Nat) :
    ∀ (cs : List Tree) (a : Addr) (k : Nat), a.length + 2 ≤ md →
      cutDepthL md (a.length + 1 + 1) (restrictL keep a k cs) = restrictL (withDepth keep md) a k cs
  | [] => fun _ _ _ => rfl
  | c :: cs => fun a k h => by
    rw [restrictL, restrictL, withDepth_snoc, decide_eq_true h, Bool.and_true]
    split
    · have := cutDepth_restrict keep md c (a ++ [k]) (by rw [List.length_append]; exact h)
      rw [List.length_append, List.length_singleton] at this
      rw [cutDepthL, cutDepthL_restrictL keep md cs a (k + 1) h, this]
    · exact cutDepthL_restrictL keep md cs a (k + 1) h
end

/-! ## the level groups are the depth layers -/

mutual
/-- addresses of the nodes at relative depth `j` below the node `t` whose address is `a` -/
def layerAddrs : Nat → Addr → Tree → List Addr
  | 0, a, _ => [a]
  | j + 1, a, .node _ _ _ cs => layerAddrsL j a 0 cs
def layerAddrsL (j : Nat) (a : Addr) (k : Nat) : List Tree → List Addr
  | [] => []
  | c :: cs => layerAddrs j (a ++ [k]) c ++ layerAddrsL j a (k + 1) cs
end

/-- layer `j` of a forest given as the work list of `levelGroups`: subtrees paired with their addresses -/
def layerF (j : Nat) (F : List (Addr × Tree)) : List Addr := F.flatMap fun at' => layerAddrs j at'.1 at'.2

def heightF : List (Addr × Tree) → Nat
  | [] => 0
  | (_, t) :: r => max (height t) (heightF r)

/-- the children `cs` of the node at `a` paired with their addresses, the first being child number `k` -/
def kidsOf (a : Addr) (k : Nat) (cs : List Tree) : List (Addr × Tree) :=
  (cs.zipIdx k).map fun ck => (a ++ [ck.2], ck.1)

theorem nextLevel_cons (a : Addr) (t : Tree) (r : List (Addr × Tree)) :
    nextLevel ((a, t) :: r) = kidsOf a 0 t.children ++ nextLevel r := rfl

theorem layerF_kidsOf (j : Nat) (a : Addr) : ∀ (cs : List Tree) (k : Nat),
    layerF j (kidsOf a k cs) = layerAddrsL j a k cs
  | [] => fun _ => rfl
  | c :: cs => fun k => congrArg (layerAddrs j (a ++ [k]) c ++ ·) (layerF_kidsOf j a cs (k + 1))

theorem layerF_append (j : Nat) (F G : List (Addr × Tree)) : layerF j (F ++ G) = layerF j F ++ layerF j G :=
  List.flatMap_append

theorem layerF_succ (j : Nat) : ∀ F : List (Addr × Tree), layerF (j + 1) F = layerF j (nextLevel F)
  | [] => rfl
  | (a, .node i n av cs) :: r => by
    rw [nextLevel_cons, layerF_append, layerF_kidsOf, ← layerF_succ j r]; rfl

theorem layerF_zero (F : List (Addr × Tree)) : layerF 0 F = F.map (·.1) := by
  induction F with
  | nil => rfl
  | cons x r ih => rw [layerF, List.flatMap_cons, layerAddrs, List.map_cons, ← ih]; rfl

theorem heightF_append (F G : List (Addr × Tree)) : heightF (F ++ G) = max (heightF F) (heightF G) := by
  induction F with
  | nil => exact (Nat.zero_max _).symm
  | cons x r ih => simp only [List.cons_append, heightF, ih, Nat.max_assoc]

theorem heightF_kidsOf (a : Addr) : ∀ (cs : List Tree) (k : Nat), heightF (kidsOf a k cs) = height.heightL cs
  | [] => fun _ => rfl
  | c :: cs => fun k => congrArg (max (height c)) (heightF_kidsOf a cs (k + 1))

theorem heightF_nextLevel : ∀ F : List (Addr × Tree), heightF (nextLevel F) = heightF F - 1
  | [] => rfl
  | (a, .node i n av cs) :: r => by
    rw [nextLevel_cons, heightF_append, heightF_kidsOf, heightF_nextLevel r, heightF, height,
      Tree.children_node, ← Nat.sub_max_sub_right, Nat.add_sub_cancel_left]

theorem heightF_eq_zero : ∀ {F : List (Addr × Tree)}, heightF F = 0 → F = []
  | [] => fun _ => rfl
  | (_, .node _ _ _ _) :: _ => fun h => by
    rw [heightF, height, Nat.max_eq_zero_iff, Nat.add_comm] at h; exact absurd h.1 (Nat.succ_ne_zero _)

/-- with fuel for the whole forest, group `j` is layer `j`, and there is no group `j` only if that layer is empty -/
theorem levelGroups_getD : ∀ (f j : Nat) (F : List (Addr × Tree)), heightF F ≤ f →
    ((levelGroups f F)[j]?).getD [] = layerF j F
  | 0, _, _, h => by rw [heightF_eq_zero (Nat.le_zero.1 h)]; rfl
  | f + 1, 0, F, _ => by rw [levelGroups, List.getElem?_cons_zero, Option.getD_some, layerF_zero]
  | f + 1, j + 1, F, h => by
    rw [levelGroups, List.getElem?_cons_succ, layerF_succ]
    split
    · next he => rw [List.isEmpty_iff.1 he]; rfl
    · exact levelGroups_getD f j (nextLevel F) (by rw [heightF_nextLevel]; exact Nat.sub_le_of_le_add h)

/-! ## deleting the children of every node of one layer, one after the other, is the depth cut -/

theorem snoc_prefix_inj {a p : Addr} {k k' : Nat} (h1 : (a ++ [k]) <+: p) (h2 : (a ++ [k']) <+: p) : k = k' := by
  have hl : (a ++ [k]).length = (a ++ [k']).length := by rw [List.length_append, List.length_append]; rfl
  have := (List.prefix_of_prefix_length_le h1 h2 (Nat.le_of_eq hl)).eq_of_length hl
  exact (List.cons.inj (List.append_cancel_left this)).1

mutual
theorem delChildrenAt_frame (p : Addr) : ∀ (t : Tree) (b : Addr), ¬ b <+: p → delChildrenAt p b t = t
  | .node i n av cs => fun b h => by
    have hne : b ≠ p := fun e => h (e ▸ List.prefix_refl _)
    rw [delChildrenAt, if_neg hne,
      delChildrenAtL_frame p cs b 0 fun k' _ hk => h ((List.prefix_append b [k']).trans hk)]
theorem delChildrenAtL_frame (p : Addr) : ∀ (cs : List Tree) (a : Addr) (k : Nat),
    (∀ k', k ≤ k' → ¬ (a ++ [k']) <+: p) → delChildrenAtL p a k cs = cs
  | [] => fun _ _ _ => rfl
  | c :: cs => fun a k h => by
    rw [delChildrenAtL, delChildrenAt_frame p c (a ++ [k]) (h k (Nat.le_refl _)),
      delChildrenAtL_frame p cs a (k + 1) fun k' hk => h k' (Nat.le_of_succ_le hk)]
end

mutual
theorem layerAddrs_prefix : ∀ (j : Nat) (t : Tree) (a p : Addr), p ∈ layerAddrs j a t → a <+: p ∧ p.length = a.length + j
  | 0, _ => fun a p h => by
    rw [layerAddrs, List.mem_singleton] at h; subst h; exact ⟨List.prefix_refl _, rfl⟩
  | j + 1, .node i n av cs => fun a p h => by
    rw [layerAddrs] at h
    obtain ⟨k', _, hp, hl⟩ := layerAddrsL_prefix j cs a 0 p h
    exact ⟨(List.prefix_append a [k']).trans hp, by rw [hl, Nat.add_assoc, Nat.add_comm 1 j]⟩
theorem layerAddrsL_prefix : ∀ (j : Nat) (cs : List Tree) (a : Addr) (k : Nat) (p : Addr), p ∈ layerAddrsL j a k cs →
    ∃ k', k ≤ k' ∧ (a ++ [k']) <+: p ∧ p.length = a.length + 1 + j
  | _, [] => fun _ _ _ h => nomatch h
  | j, c :: cs => fun a k p h => by
    rw [layerAddrsL, List.mem_append] at h
    rcases h with h | h
    · obtain ⟨h1, h2⟩ := layerAddrs_prefix j c (a ++ [k]) p h
      exact ⟨k, Nat.le_refl _, h1, by rw [h2, List.length_append]; rfl⟩
    · obtain ⟨k', hk, h1, h2⟩ := layerAddrsL_prefix j cs a (k + 1) p h
      exact ⟨k', Nat.le_of_succ_le hk, h1, h2⟩
end

theorem foldl_comm_of_mem {α β γ} (h : β → α) (f : α → γ → α) (g : β → γ → β) :
    ∀ (ps : List γ) (y : β), (∀ p ∈ ps, ∀ y, f (h y) p = h (g y p)) → ps.foldl f (h y) = h (ps.foldl g y)
  | [] => fun _ _ => rfl
  | p :: ps => fun y H => by
    rw [List.foldl_cons, List.foldl_cons, H p List.mem_cons_self]
    exact foldl_comm_of_mem h f g ps _ fun q hq => H q (List.mem_cons_of_mem _ hq)

theorem fold_del_node (a : Addr) (i : Nat) (n : Str) (av : Attrs) (ps : List Addr) (cs : List Tree)
    (H : ∀ p ∈ ps, p ≠ a) :
    ps.foldl (fun T p => delChildrenAt p a T) (.node i n av cs)
      = .node i n av (ps.foldl (fun xs p => delChildrenAtL p a 0 xs) cs) :=
  foldl_comm_of_mem (Tree.node i n av) _ _ ps cs fun p hp xs => by
    rw [delChildrenAt, if_neg (H p hp).symm]

theorem fold_del_head (a : Addr) (k : Nat) (ps : List Addr) (c : Tree) (cs : List Tree)
    (H : ∀ p ∈ ps, (a ++ [k]) <+: p) :
    ps.foldl (fun xs p => delChildrenAtL p a k xs) (c :: cs)
      = (ps.foldl (fun T p => delChildrenAt p (a ++ [k]) T) c) :: cs :=
  foldl_comm_of_mem (· :: cs) _ _ ps c fun p hp T => by
    rw [delChildrenAtL, delChildrenAtL_frame p cs a (k + 1)
      fun k' hk hk' => Nat.not_succ_le_self k (snoc_prefix_inj (H p hp) hk' ▸ hk)]

theorem fold_del_tail (a : Addr) (k : Nat) (ps : List Addr) (c : Tree) (cs : List Tree)
    (H : ∀ p ∈ ps, ∃ k', k + 1 ≤ k' ∧ (a ++ [k']) <+: p) :
    ps.foldl (fun xs p => delChildrenAtL p a k xs) (c :: cs)
      = c :: (ps.foldl (fun xs p => delChildrenAtL p a (k + 1) xs) cs) :=
  foldl_comm_of_mem (c :: ·) _ _ ps cs fun p hp xs => by
    obtain ⟨k', hk, hp'⟩ := H p hp
    rw [delChildrenAtL, delChildrenAt_frame p c (a ++ [k])
      fun hk' => Nat.not_succ_le_self k (snoc_prefix_inj hk' hp' ▸ hk)]

mutual
theorem fold_layer_cut : ∀ (j : Nat) (t : Tree) (a : Addr) (d : Nat),
    (layerAddrs j a t).foldl (fun T p => delChildrenAt p a T) t = cutDepth (d + j) d t
  | 0, .node i n av cs => fun a d => by
    rw [layerAddrs, List.foldl_cons, List.foldl_nil, delChildrenAt, if_pos rfl, cutDepth, Nat.add_zero, if_pos rfl]
  | j + 1, .node i n av cs => fun a d => by
    rw [layerAddrs, cutDepth, if_neg (Nat.ne_of_lt (Nat.lt_add_of_pos_right (Nat.succ_pos j))),
      fold_del_node a i n av _ cs, fold_layerL_cut j cs a 0 d, Nat.add_right_comm]
    · rfl
    · -- no address of a deeper layer is the address of the node itself
      intro p hp e
      obtain ⟨k', _, _, hl⟩ := layerAddrsL_prefix j cs a 0 p hp
      rw [e] at hl
      exact Nat.ne_of_lt (Nat.lt_of_lt_of_le (Nat.lt_succ_self _) (Nat.le_add_right _ j)) hl
theorem fold_layerL_cut : ∀ (j : Nat) (cs : List Tree) (a : Addr) (k : Nat) (d : Nat),
    (layerAddrsL j a k cs).foldl (fun xs p => delChildrenAtL p a k xs) cs = cutDepthL (d + 1 + j) (d + 1) cs
  | _, [] => fun _ _ _ => rfl
  | j, c :: cs => fun a k d => by
    rw [layerAddrsL, List.foldl_append, cutDepthL,
      fold_del_head a k _ c cs fun p hp => (layerAddrs_prefix j c (a ++ [k]) p hp).1,
      fold_del_tail a k _ _ cs fun p hp => by
        obtain ⟨k', hk, h1, _⟩ := layerAddrsL_prefix j cs a (k + 1) p hp
        exact ⟨k', hk, h1⟩,
      fold_layer_cut j c (a ++ [k]) (d + 1), fold_layerL_cut j cs a (k + 1) d]
end

/-- the depth phase of `prune_tree` is the structural depth cut -/
theorem depthCut_eq_cutDepth (md : Nat) (h : 1 ≤ md) (t : Tree) : depthCut md t = cutDepth md 1 t := by
  have hl : ((levelGroups (height t) [([], t)])[md - 1]?).getD [] = layerAddrs (md - 1) [] t :=
    (levelGroups_getD _ _ _ (Nat.le_of_eq (Nat.max_zero _))).trans (List.append_nil _)
  -- an absent group stands for an empty layer, and folding over no address leaves the tree as it is
  have key := fold_layer_cut (md - 1) t [] 1
  rw [Nat.add_sub_cancel' h] at key
  rw [depthCut, ← key, ← hl]
  cases (levelGroups (height t) [([], t)])[md - 1]? <;> rfl

/-! ## the nodes of a restriction -/

theorem subAt_snoc : ∀ (a : Addr) (root : Tree) (k : Nat),
    subAt root (a ++ [k]) = (subAt root a).bind fun t => t.children[k]?
  | [], .node i n av cs, k => by
    rw [List.nil_append, subAt, subAt, Option.bind_some, Tree.children_node]
    cases cs[k]? <;> rfl
  | j :: a, .node i n av cs, k => by
    rw [List.cons_append, subAt, subAt]
    cases cs[j]? with
    | none => rfl
    | some c => exact subAt_snoc a c k

/-- (id, name, attrs) of the node of `root` at address `b` -/
def labelAt (root : Tree) (b : Addr) : Option (Nat × Str × Attrs) := (subAt root b).map label

mutual
theorem preLabels_restrict (keep : Addr → Bool) (root : Tree) :
    ∀ (t : Tree) (a : Addr), subAt root a = some t →
      preLabels (restrict keep a t) = (keptAddrs keep a t).filterMap (labelAt root)
  | .node i n av cs => fun a h => by
    have hl : labelAt root a = some (i, n, av) := by rw [labelAt, h]; rfl
    rw [restrict, preLabels, keptAddrs, List.filterMap_cons, hl,
      preLabelsL_restrictL keep root cs a 0 fun j c hc => by rw [subAt_snoc, h, Nat.zero_add]; exact hc]
theorem preLabelsL_restrictL (keep : Addr → Bool) (root : Tree) :
    ∀ (cs : List Tree) (a : Addr) (k : Nat), (∀ j c, cs[j]? = some c → subAt root (a ++ [k + j]) = some c) →
      preLabelsL (restrictL keep a k cs) = (keptAddrsL keep a k cs).filterMap (labelAt root)
  | [] => fun _ _ _ => rfl
  | c :: cs => fun a k h => by
    have ht : ∀ j c', cs[j]? = some c' → subAt root (a ++ [k + 1 + j]) = some c' := fun j c' hj => by
      rw [Nat.add_right_comm]; exact h (j + 1) c' hj
    rw [restrictL, keptAddrsL]
    split
    · rw [preLabelsL, List.filterMap_append, preLabels_restrict keep root c (a ++ [k]) (h 0 c rfl),
        preLabelsL_restrictL keep root cs a (k + 1) ht]
    · exact preLabelsL_restrictL keep root cs a (k + 1) ht
end

mutual
theorem keptAddrs_sublist (keep : Addr → Bool) : ∀ (t : Tree) (a : Addr),
    (keptAddrs keep a t).Sublist (addrs a t)
  | .node _ _ _ cs => fun a => (keptAddrsL_sublist keep cs a 0).cons_cons a
theorem keptAddrsL_sublist (keep : Addr → Bool) : ∀ (cs : List Tree) (a : Addr) (k : Nat),
    (keptAddrsL keep a k cs).Sublist (keptAddrsL (fun _ => true) a k cs)
  | [] => fun _ _ => .slnil
  | c :: cs => fun a k => by
    rw [keptAddrsL, keptAddrsL, if_pos rfl]
    split
    · exact (keptAddrs_sublist keep c (a ++ [k])).append (keptAddrsL_sublist keep cs a (k + 1))
    · exact (keptAddrsL_sublist keep cs a (k + 1)).trans (List.sublist_append_right _ _)
end

/-- the children list seen from index `k`: past its head, look one further on in its tail -/
theorem getElem?_cons_sub {α} (c : α) (cs : List α) {j k : Nat} (h : k + 1 ≤ j) :
    (c :: cs)[j - k]? = cs[j - (k + 1)]? := by
  have : j - k = j - (k + 1) + 1 := (Nat.succ_pred_eq_of_pos (Nat.sub_pos_of_lt h)).symm
  rw [this, List.getElem?_cons_succ]

mutual
theorem mem_addrs_iff : ∀ (t : Tree) (a x : Addr), x ∈ addrs a t ↔ ∃ rel, x = a ++ rel ∧ (subAt t rel).isSome
  | .node i n av cs => fun a x => by
    rw [addrs, keptAddrs, List.mem_cons, mem_addrsL_iff cs a 0 x]
    constructor
    · rintro (rfl | ⟨j, rel, c, hc, _, rfl, hs⟩)
      · exact ⟨[], (List.append_nil _).symm, rfl⟩
      · exact ⟨j :: rel, rfl, by rw [subAt, show cs[j]? = some c from hc]; exact hs⟩
    · rintro ⟨rel, rfl, hs⟩
      cases rel with
      | nil => exact Or.inl (List.append_nil a)
      | cons j rel =>
        rw [subAt] at hs
        cases hc : cs[j]? with
        | none => rw [hc] at hs; exact absurd hs Bool.false_ne_true
        | some c => rw [hc] at hs; exact Or.inr ⟨j, rel, c, hc, Nat.zero_le _, rfl, hs⟩
theorem mem_addrsL_iff : ∀ (cs : List Tree) (a : Addr) (k : Nat) (x : Addr),
    x ∈ keptAddrsL (fun _ => true) a k cs ↔
      ∃ j rel c, cs[j - k]? = some c ∧ k ≤ j ∧ x = a ++ j :: rel ∧ (subAt c rel).isSome
  | [] => fun _ _ _ => by simp [keptAddrsL]
  | c :: cs => fun a k x => by
    rw [keptAddrsL, if_pos rfl, List.mem_append, ← addrs, mem_addrs_iff c (a ++ [k]) x,
      mem_addrsL_iff cs a (k + 1) x]
    constructor
    · rintro (⟨rel, rfl, hs⟩ | ⟨j, rel, c', hc, hj, rfl, hs⟩)
      · exact ⟨k, rel, c, by rw [Nat.sub_self]; rfl, Nat.le_refl _, List.append_assoc a [k] rel, hs⟩
      · exact ⟨j, rel, c', (getElem?_cons_sub c cs hj).trans hc, Nat.le_of_succ_le hj, rfl, hs⟩
    · rintro ⟨j, rel, c', hc, hj, rfl, hs⟩
      rcases Nat.eq_or_lt_of_le hj with rfl | hlt
      · rw [Nat.sub_self, List.getElem?_cons_zero, Option.some.injEq] at hc
        exact Or.inl ⟨rel, (List.append_assoc a [k] rel).symm, hc ▸ hs⟩
      · exact Or.inr ⟨j, rel, c', (getElem?_cons_sub c cs hlt).symm.trans hc, hlt, rfl, hs⟩
end

theorem keptAddrs_prefix (keep : Addr → Bool) (t : Tree) (a x : Addr) (h : x ∈ keptAddrs keep a t) : a <+: x := by
  obtain ⟨rel, rfl, _⟩ := (mem_addrs_iff t a x).1 ((keptAddrs_sublist keep t a).subset h)
  exact List.prefix_append a rel

theorem keptAddrsL_prefix (keep : Addr → Bool) (cs : List Tree) (a : Addr) (k : Nat) (x : Addr)
    (h : x ∈ keptAddrsL keep a k cs) : ∃ k', k ≤ k' ∧ (a ++ [k']) <+: x := by
  obtain ⟨j, rel, _, _, hj, rfl, _⟩ := (mem_addrsL_iff cs a k x).1 ((keptAddrsL_sublist keep cs a k).subset h)
  exact ⟨j, hj, rel, List.append_assoc a [j] rel⟩

mutual
theorem mem_keptAddrs (keep : Addr → Bool)
    (hK : ∀ b c : Addr, c <+: b → keep b = true → keep c = true) :
    ∀ (t : Tree) (a x : Addr), x ∈ keptAddrs keep a t ↔ x ∈ addrs a t ∧ (x = a ∨ keep x = true)
  | .node i n av cs => fun a x => by
    simp only [addrs, keptAddrs, List.mem_cons]
    rw [mem_keptAddrsL keep hK cs a 0 x]
    constructor
    · rintro (h | ⟨h1, h2⟩)
      · exact ⟨Or.inl h, Or.inl h⟩
      · exact ⟨Or.inr h1, Or.inr h2⟩
    · rintro ⟨h1 | h1, h2 | h2⟩
      · exact Or.inl h1
      · exact Or.inl h1
      · exact Or.inl h2
      · exact Or.inr ⟨h1, h2⟩
theorem mem_keptAddrsL (keep : Addr → Bool)
    (hK : ∀ b c : Addr, c <+: b → keep b = true → keep c = true) :
    ∀ (cs : List Tree) (a : Addr) (k : Nat) (x : Addr),
      x ∈ keptAddrsL keep a k cs ↔ x ∈ keptAddrsL (fun _ => true) a k cs ∧ keep x = true
  | [] => fun _ _ _ => by simp [keptAddrsL]
  | c :: cs => fun a k x => by
    have ih2 := mem_keptAddrsL keep hK cs a (k + 1) x
    rw [keptAddrsL, keptAddrsL, if_pos rfl, List.mem_append, ← addrs]
    split
    · next hk =>
      rw [List.mem_append, mem_keptAddrs keep hK c (a ++ [k]) x, ih2]
      constructor
      · rintro (⟨h1, h2 | h2⟩ | ⟨h1, h2⟩)
        · exact ⟨Or.inl h1, h2 ▸ hk⟩
        · exact ⟨Or.inl h1, h2⟩
        · exact ⟨Or.inr h1, h2⟩
      · rintro ⟨h1 | h1, h2⟩
        · exact Or.inl ⟨h1, Or.inr h2⟩
        · exact Or.inr ⟨h1, h2⟩
    · next hk =>
      -- nothing below a child that fails a prefix-closed predicate satisfies it
      rw [ih2]
      exact ⟨fun h => ⟨Or.inr h.1, h.2⟩, fun h => h.1.elim
        (fun h1 => absurd (hK x _ (keptAddrs_prefix _ c (a ++ [k]) x h1) h.2) hk) fun h1 => ⟨h1, h.2⟩⟩
end

/-! ## `walk` lists the addresses, each once -/

mutual
theorem walk_subAt : ∀ (t : Tree) (a : Addr) (anc : List Str) (v : Visit), v ∈ walk a anc t →
    ∃ rel, v.addr = a ++ rel ∧ subAt t rel = some v.sub
  | .node i n av cs => fun a anc v h => by
    rw [walk, List.mem_cons] at h
    rcases h with rfl | h
    · exact ⟨[], (List.append_nil _).symm, rfl⟩
    · obtain ⟨j, rel, c, hc, _, hv, hs⟩ := walkL_subAt cs a (anc ++ [n]) 0 v h
      exact ⟨j :: rel, hv, by rw [subAt, show cs[j]? = some c from hc]; exact hs⟩
theorem walkL_subAt : ∀ (cs : List Tree) (a : Addr) (anc : List Str) (k : Nat) (v : Visit), v ∈ walkL a anc k cs →
    ∃ j rel c, cs[j - k]? = some c ∧ k ≤ j ∧ v.addr = a ++ j :: rel ∧ subAt c rel = some v.sub
  | [] => fun _ _ _ _ h => nomatch h
  | c :: cs => fun a anc k v h => by
    rw [walkL, List.mem_append] at h
    rcases h with h | h
    · obtain ⟨rel, hv, hs⟩ := walk_subAt c (a ++ [k]) anc v h
      exact ⟨k, rel, c, by rw [Nat.sub_self]; rfl, Nat.le_refl _, hv.trans (List.append_assoc a [k] rel), hs⟩
    · obtain ⟨j, rel, c', hc, hj, hv, hs⟩ := walkL_subAt cs a anc (k + 1) v h
      exact ⟨j, rel, c', (getElem?_cons_sub c cs hj).trans hc, Nat.le_of_succ_le hj, hv, hs⟩
end

mutual
theorem walk_addrs : ∀ (t : Tree) (a : Addr) (anc : List Str), (walk a anc t).map (·.addr) = addrs a t
  | .node i n av cs => fun a anc => by rw [walk, List.map_cons, walkL_addrs cs a (anc ++ [n]) 0]; rfl
theorem walkL_addrs : ∀ (cs : List Tree) (a : Addr) (anc : List Str) (k : Nat),
    (walkL a anc k cs).map (·.addr) = keptAddrsL (fun _ => true) a k cs
  | [] => fun _ _ _ => rfl
  | c :: cs => fun a anc k => by
    rw [walkL, List.map_append, walk_addrs c (a ++ [k]) anc, walkL_addrs cs a anc (k + 1)]; rfl
end

mutual
theorem addrs_nodup : ∀ (t : Tree) (a : Addr), (addrs a t).Nodup
  | .node i n av cs => fun a => by
    rw [addrs, keptAddrs, List.nodup_cons]
    refine ⟨fun h => ?_, addrsL_nodup cs a 0⟩
    -- an address below `a` is longer than `a`
    obtain ⟨k', _, hk⟩ := keptAddrsL_prefix _ cs a 0 a h
    have := hk.length_le
    rw [List.length_append] at this
    exact Nat.not_succ_le_self _ this
theorem addrsL_nodup : ∀ (cs : List Tree) (a : Addr) (k : Nat), (keptAddrsL (fun _ => true) a k cs).Nodup
  | [] => fun _ _ => .nil
  | c :: cs => fun a k => by
    rw [keptAddrsL, if_pos rfl, List.nodup_append]
    refine ⟨addrs_nodup c (a ++ [k]), addrsL_nodup cs a (k + 1), fun x hx y hy e => ?_⟩
    -- the two parts lie below different children
    subst e
    obtain ⟨k', hk, p2⟩ := keptAddrsL_prefix _ cs a (k + 1) x hy
    exact Nat.not_succ_le_self k (snoc_prefix_inj (keptAddrs_prefix _ c (a ++ [k]) x hx) p2 ▸ hk)
end

theorem walk_nodup (t : Tree) (a : Addr) (anc : List Str) : (walk a anc t).Nodup := by
  have h := addrs_nodup t a
  rw [← walk_addrs t a anc] at h
  exact List.Pairwise.of_map (·.addr) (fun a b hab e => hab (congrArg _ e)) h

/-! ## `find_path` returns the unique match -/

/-- the nodes whose `path_name` ends with the (right-stripped) query -/
def matching (sep : Str) (anc : List Str) (t : Tree) (q : Str) : List Visit :=
  (walk [] anc t).filter fun v => (rstrip sep q).isSuffixOf (pathName sep v.names)

theorem mem_matching {sep : Str} {anc : List Str} {t : Tree} {q : Str} {w : Visit} :
    w ∈ matching sep anc t q ↔ w ∈ walk [] anc t ∧ (rstrip sep q) <:+ pathName sep w.names := by
  rw [matching, List.mem_filter, List.isSuffixOf_iff_suffix]

theorem findPath_eq_some_iff_matching (sep : Str) (anc : List Str) (t : Tree) (q : Str) (v : Visit) :
    findPath sep anc t q = .ok (some v) ↔ matching sep anc t q = [v] := by
  rw [findPath, ← matching]
  rcases matching sep anc t q with _ | ⟨w, _ | ⟨w', l⟩⟩ <;> simp

theorem findPath_eq_none_iff_matching (sep : Str) (anc : List Str) (t : Tree) (q : Str) :
    findPath sep anc t q = .ok none ↔ matching sep anc t q = [] := by
  rw [findPath, ← matching]
  rcases matching sep anc t q with _ | ⟨w, _ | ⟨w', l⟩⟩ <;> simp

theorem findPath_eq_none_iff (sep : Str) (anc : List Str) (t : Tree) (q : Str) :
    findPath sep anc t q = .ok none ↔ ∀ w ∈ walk [] anc t, ¬ (rstrip sep q) <:+ pathName sep w.names := by
  rw [findPath_eq_none_iff_matching, List.eq_nil_iff_forall_not_mem]
  exact forall_congr' fun w => by rw [mem_matching, not_and]

theorem eq_singleton_of_nodup {α : Type} : ∀ (l : List α) (v : α), l.Nodup → v ∈ l → (∀ w ∈ l, w = v) → l = [v]
  | [] => fun _ _ hv _ => nomatch hv
  | [x] => fun v _ _ h => by rw [h x List.mem_cons_self]
  | x :: y :: r => fun v hn _ h => by
    rw [h x List.mem_cons_self, h y (List.mem_cons_of_mem _ List.mem_cons_self)] at hn
    exact absurd List.mem_cons_self (List.nodup_cons.1 hn).1

theorem findPath_eq_some_iff (sep : Str) (anc : List Str) (t : Tree) (q : Str) (v : Visit) :
    findPath sep anc t q = .ok (some v) ↔
      v ∈ walk [] anc t ∧ (rstrip sep q) <:+ pathName sep v.names ∧
        ∀ w ∈ walk [] anc t, (rstrip sep q) <:+ pathName sep w.names → w = v := by
  rw [findPath_eq_some_iff_matching]
  constructor
  · intro hm
    have hv : ∀ w, w ∈ matching sep anc t q ↔ w = v := fun w => by rw [hm, List.mem_singleton]
    have := mem_matching.1 ((hv v).2 rfl)
    exact ⟨this.1, this.2, fun w hw hs => (hv w).1 (mem_matching.2 ⟨hw, hs⟩)⟩
  · rintro ⟨h1, h2, h3⟩
    exact eq_singleton_of_nodup _ _ ((walk_nodup t [] anc).filter _) (mem_matching.2 ⟨h1, h2⟩)
      fun w hw => h3 w (mem_matching.1 hw).1 (mem_matching.1 hw).2

theorem locate_cons_ok (treeSep : Str) (t : Tree) (sepArg : Str) (q : Str) (qs : List Str) (ps : List Addr) :
    locate treeSep t sepArg (q :: qs) = .ok ps ↔
      ∃ v ps', findPath treeSep [] t (replace sepArg treeSep q) = .ok (some v) ∧
        locate treeSep t sepArg qs = .ok ps' ∧ ps = v.addr :: ps' := by
  rw [locate]
  split
  · simp [*]
  · simp [*]
  · next v hv =>
    cases locate treeSep t sepArg qs <;> simp [hv, Except.map, eq_comm]

theorem locate_length (treeSep : Str) (t : Tree) (sepArg : Str) :
    ∀ (paths : List Str) (ps : List Addr), locate treeSep t sepArg paths = .ok ps → ps.length = paths.length
  | [] => fun ps h => by cases h; rfl
  | q :: qs => fun ps h => by
    obtain ⟨v, ps', _, hr, rfl⟩ := (locate_cons_ok treeSep t sepArg q qs ps).1 h
    exact congrArg (· + 1) (locate_length treeSep t sepArg qs ps' hr)

/-- what it means for the textual path `q` to designate the node at address `p` -/
def Designates (treeSep : Str) (t : Tree) (sepArg : Str) (q : Str) (p : Addr) : Prop :=
  ∃ v, v.addr = p ∧ v ∈ walk [] [] t ∧
    (rstrip treeSep (replace sepArg treeSep q)) <:+ pathName treeSep v.names ∧
    ∀ w ∈ walk [] [] t, (rstrip treeSep (replace sepArg treeSep q)) <:+ pathName treeSep w.names → w = v

theorem locate_sound (treeSep : Str) (t : Tree) (sepArg : Str) :
    ∀ (paths : List Str) (ps : List Addr), locate treeSep t sepArg paths = .ok ps →
      ∀ qp ∈ paths.zip ps, Designates treeSep t sepArg qp.1 qp.2
  | [] => fun ps h => fun _ hqp => nomatch hqp
  | q :: qs => fun ps h => by
    obtain ⟨v, ps', hv, hr, rfl⟩ := (locate_cons_ok treeSep t sepArg q qs ps).1 h
    intro qp hqp
    rw [List.zip_cons_cons, List.mem_cons] at hqp
    rcases hqp with rfl | hqp
    · exact ⟨v, rfl, (findPath_eq_some_iff _ _ _ _ _).1 hv⟩
    · exact locate_sound treeSep t sepArg qs ps' hr qp hqp

/-! ## the two phases of `prune_tree` as restrictions -/

/-- the path phase, for located, non-nested targets; without paths nothing is removed -/
theorem prunePaths_eq (treeSep : Str) (t : Tree) (paths : List Str) (exact : Bool) (sepArg : Str)
    (ps : List Addr) (hloc : locate treeSep t sepArg paths = .ok ps) (hnn : NonNested ps) :
    prunePaths treeSep t paths exact sepArg
      = .ok (restrict (fun b => ps.isEmpty || keepT ps exact b) [] t) := by
  have hlen := locate_length treeSep t sepArg paths ps hloc
  unfold prunePaths
  cases ps with
  | nil =>
    rw [List.length_eq_zero_iff.1 hlen.symm]
    exact congrArg Except.ok (restrict_true t []).symm
  | cons p ps =>
    cases paths with
    | nil => cases hlen
    | cons q qs =>
      rw [hloc]
      exact congrArg Except.ok (detach_targets (p :: ps) exact hnn (List.cons_ne_nil _ _) t)

theorem depthPhase_restrict (keep : Addr → Bool) (md : Nat) (t : Tree) :
    (if md == 0 then restrict keep [] t else depthCut md (restrict keep [] t))
      = restrict (fun b => keep b && (md == 0 || decide (b.length + 1 ≤ md))) [] t := by
  cases md with
  | zero => simp only [beq_self_eq_true, if_true, Bool.true_or, Bool.and_true]
  | succ m =>
    exact (depthCut_eq_cutDepth _ (Nat.succ_pos m) _).trans
      (cutDepth_restrict keep (m + 1) t [] (Nat.succ_pos m))

end Helper
