import BigtreeModel.Render
import BigtreeProofs.Lemmas.RenderNat
import BigtreeProofs.Lemmas.RenderLinks
/-! Helper lemmas for C18 (tree_to_dot): vertex ids are pairwise distinct when sibling names are
distinct, the separator occurs in no name and no name ends in a digit. -/
namespace Render

/-! ### the name dictionary -/
theorem put_nil (k : Str) (v : List Str) : NameDict.put [] k v = [(k, v)] := rfl

theorem put_cons_eq (ev : List Str) (nd : NameDict) (k : Str) (v : List Str) :
    NameDict.put ((k, ev) :: nd) k v = (k, v) :: nd.map (fun e => if e.1 == k then (k, v) else e) := by
  simp [NameDict.put]

theorem put_cons_ne (ek : Str) (ev : List Str) (nd : NameDict) (k : Str) (v : List Str) (h : ek ≠ k) :
    NameDict.put ((ek, ev) :: nd) k v = (ek, ev) :: NameDict.put nd k v := by
  have hb : (ek == k) = false := by simpa using h
  unfold NameDict.put
  by_cases ha : nd.any (·.1 == k) = true
  · simp only [List.any_cons, hb, Bool.false_or, ha, ↓reduceIte, List.map_cons, Bool.false_eq_true]
  · simp only [List.any_cons, hb, Bool.false_or, ha, Bool.false_eq_true, ↓reduceIte, List.cons_append]

theorem get_cons_eq (ev : List Str) (nd : NameDict) (k : Str) : NameDict.get ((k, ev) :: nd) k = ev := by
  simp [NameDict.get, List.lookup]

theorem get_cons_ne (ek : Str) (ev : List Str) (nd : NameDict) (k : Str) (h : k ≠ ek) :
    NameDict.get ((ek, ev) :: nd) k = NameDict.get nd k := by
  have hb : (k == ek) = false := by simpa using h
  simp [NameDict.get, List.lookup, hb]

theorem get_put_same : ∀ (nd : NameDict) (k : Str) (v : List Str), (nd.put k v).get k = v
  | [], k, v => by rw [put_nil, get_cons_eq]
  | (ek, ev) :: nd, k, v => by
    by_cases he : ek = k
    · subst he; rw [put_cons_eq, get_cons_eq]
    · rw [put_cons_ne _ _ _ _ _ he, get_cons_ne _ _ _ _ (fun x => he x.symm)]
      exact get_put_same nd k v

theorem get_map_other (nd : NameDict) (k k' : Str) (v : List Str) (h : k' ≠ k) :
    NameDict.get (nd.map (fun e => if e.1 == k then (k, v) else e)) k' = NameDict.get nd k' := by
  induction nd with
  | nil => rfl
  | cons e nd ih =>
    obtain ⟨ek, ev⟩ := e
    by_cases he : ek = k
    · subst he
      simp only [List.map_cons, beq_self_eq_true, ↓reduceIte]
      rw [get_cons_ne _ _ _ _ h, get_cons_ne _ _ _ _ h, ih]
    · have hb : (ek == k) = false := by simpa using he
      simp only [List.map_cons, hb, Bool.false_eq_true, ↓reduceIte]
      by_cases hk : k' = ek
      · subst hk; rw [get_cons_eq, get_cons_eq]
      · rw [get_cons_ne _ _ _ _ hk, get_cons_ne _ _ _ _ hk, ih]

theorem get_put_other : ∀ (nd : NameDict) (k k' : Str) (v : List Str), k' ≠ k → (nd.put k v).get k' = nd.get k'
  | [], k, k', v, h => by rw [put_nil, get_cons_ne _ _ _ _ h]
  | (ek, ev) :: nd, k, k', v, h => by
    by_cases he : ek = k
    · subst he
      rw [put_cons_eq, get_cons_ne _ _ _ _ h, get_cons_ne _ _ _ _ h, get_map_other _ _ _ _ h]
    · rw [put_cons_ne _ _ _ _ _ he]
      by_cases hk : k' = ek
      · subst hk; rw [get_cons_eq, get_cons_eq]
      · rw [get_cons_ne _ _ _ _ hk, get_cons_ne _ _ _ _ hk]
        exact get_put_other nd k k' v h

/-! ### `tree_to_dot` as a fold over the pre-order sequence of (label, path_name) -/

/-- the three `name_dict` lines of `_recursive_append` for a node with label `e.1` and path_name `e.2` -/
def dstep (nd : NameDict) (e : Str × Str) : NameDict :=
  nd.put e.1 (if (nd.get e.1).contains e.2 then nd.get e.1 else nd.get e.1 ++ [e.2])

/-- the ids `_recursive_append` gives to the entries, starting from `name_dict = nd` -/
def idsOf : NameDict → List (Str × Str) → List Str
  | _, [] => []
  | nd, e :: r => (e.1 ++ natStr (((dstep nd e).get e.1).idxOf e.2)) :: idsOf (dstep nd e) r

theorem idsOf_append : ∀ (a b : List (Str × Str)) (nd : NameDict),
    idsOf nd (a ++ b) = idsOf nd a ++ idsOf (a.foldl dstep nd) b
  | [], _, _ => rfl
  | e :: a, b, nd => by simp [idsOf, idsOf_append a b]

mutual
/-- (label, path_name) of the nodes in pre-order; `pp` = the parent's path_name -/
def seqT (sep pp : Str) : Tree → List (Str × Str)
  | .node _ n _ cs => (n, pp ++ sep ++ n) :: seqL sep (pp ++ sep ++ n) cs
def seqL (sep pp : Str) : List Tree → List (Str × Str)
  | [] => []
  | c :: cs => seqT sep pp c ++ seqL sep pp cs
end

mutual
theorem dotT_seq (sep : Str) (nd : NameDict) (parent : Option Str) (pp : Str) (t : Tree) :
    (dotT sep nd parent pp t).vertices.map (·.1) = idsOf nd (seqT sep pp t) ∧
    (dotT sep nd parent pp t).dict = (seqT sep pp t).foldl dstep nd := by
  match t with
  | .node i n a cs =>
    have hg : (dstep nd (n, pp ++ sep ++ n)).get n = _ := get_put_same _ _ _
    have ih := dotL_seq sep (dstep nd (n, pp ++ sep ++ n))
      (n ++ natStr (((dstep nd (n, pp ++ sep ++ n)).get n).idxOf (pp ++ sep ++ n))) (pp ++ sep ++ n) cs
    rw [seqT, idsOf, List.foldl_cons, ← ih.1, ← ih.2, hg]
    exact ⟨rfl, rfl⟩
theorem dotL_seq (sep : Str) (nd : NameDict) (parent : Str) (pp : Str) (cs : List Tree) :
    (dotL sep nd parent pp cs).vertices.map (·.1) = idsOf nd (seqL sep pp cs) ∧
    (dotL sep nd parent pp cs).dict = (seqL sep pp cs).foldl dstep nd := by
  match cs with
  | [] => exact ⟨rfl, rfl⟩
  | c :: cs =>
    have h1 := dotT_seq sep nd (some parent) pp c
    have h2 := dotL_seq sep (dotT sep nd (some parent) pp c).dict parent pp cs
    simp only [dotL, seqL, List.map_append, idsOf_append, List.foldl_append]
    rw [h1.2] at h2
    exact ⟨by rw [h1.1, h1.2, h2.1], by rw [h1.2]; exact h2.2⟩
end

/-! ### the list-level argument -/

/-- `nd` holds, per label, the paths of the entries processed so far -/
def DInv (nd : NameDict) (prev : List (Str × Str)) : Prop :=
  ∀ n, nd.get n = (prev.filter (fun e => e.1 == n)).map (·.2)

theorem dstep_inv {nd : NameDict} {prev : List (Str × Str)} {e : Str × Str} (h : DInv nd prev)
    (hp : e.2 ∉ prev.map (·.2)) :
    DInv (dstep nd e) (prev ++ [e]) ∧ ((dstep nd e).get e.1).idxOf e.2 = prev.countP (·.1 == e.1) := by
  have hnot : e.2 ∉ nd.get e.1 := by
    rw [h e.1]
    exact fun hm => hp ((List.filter_sublist.map _).subset hm)
  have hget : (dstep nd e).get e.1 = nd.get e.1 ++ [e.2] := by
    unfold dstep
    rw [get_put_same, if_neg (by simpa using hnot)]
  constructor
  · intro n
    by_cases hn : n = e.1
    · subst hn
      rw [hget, h e.1]
      simp [List.filter_append]
    · unfold dstep
      rw [get_put_other _ _ _ _ hn, h n]
      simp [List.filter_append, Ne.symm hn]
  · rw [hget, List.idxOf_append, if_neg hnot, h e.1]
    simp [List.countP_eq_length_filter]

/-- the id of an entry is its label followed by the number of earlier entries with that label -/
def specIds : List (Str × Str) → List (Str × Str) → List Str
  | _, [] => []
  | prev, e :: r => (e.1 ++ natStr (prev.countP (·.1 == e.1))) :: specIds (prev ++ [e]) r

theorem idsOf_eq_spec : ∀ (seq : List (Str × Str)) (nd : NameDict) (prev : List (Str × Str)),
    DInv nd prev → (prev.map (·.2) ++ seq.map (·.2)).Nodup → idsOf nd seq = specIds prev seq
  | [], _, _, _, _ => rfl
  | e :: r, nd, prev, h, hn => by
    have hs := dstep_inv h (e := e) fun hm => (List.nodup_append.mp hn).2.2 _ hm _ (List.mem_cons_self ..) rfl
    rw [idsOf, specIds, hs.2, idsOf_eq_spec r _ _ hs.1 (by simpa [List.append_assoc] using hn)]

theorem specIds_form : ∀ (seq prev : List (Str × Str)), ∀ id ∈ specIds prev seq,
    ∃ e ∈ seq, ∃ k, id = e.1 ++ natStr k ∧ prev.countP (·.1 == e.1) ≤ k
  | [], _, _, h => by cases h
  | e :: r, prev, id, h => by
    rw [specIds, List.mem_cons] at h
    rcases h with rfl | h
    · exact ⟨e, List.mem_cons_self .., _, rfl, Nat.le_refl _⟩
    · obtain ⟨e', he', k, hk, hle⟩ := specIds_form r _ id h
      rw [List.countP_append] at hle
      exact ⟨e', List.mem_cons_of_mem _ he', k, hk, Nat.le_trans (Nat.le_add_right ..) hle⟩

theorem label_number_inj {a b : Str} {i j : Nat} (ha : noDigitEnd a = true) (hb : noDigitEnd b = true)
    (h : a ++ natStr i = b ++ natStr j) : a = b ∧ i = j := by
  have nd : ∀ {s : Str}, noDigitEnd s = true → ∀ x, s.getLast? = some x → x.isDigit = false := by
    intro s hs x hx
    simpa [noDigitEnd, hx] using hs
  have := span_unique_right (natStr_isDigit i) (natStr_isDigit j) (nd ha) (nd hb) h
  exact ⟨this.1, natStr_injective this.2⟩

theorem specIds_nodup : ∀ (seq prev : List (Str × Str)), (∀ e ∈ seq, noDigitEnd e.1 = true) →
    (specIds prev seq).Nodup
  | [], _, _ => List.nodup_nil
  | e :: r, prev, hd => by
    rw [specIds, List.nodup_cons]
    refine ⟨fun hm => ?_, specIds_nodup r _ fun x hx => hd x (List.mem_cons_of_mem _ hx)⟩
    -- a later entry with the same label has counted `e` already
    obtain ⟨e', he', k, hk, hle⟩ := specIds_form r _ _ hm
    obtain ⟨h1, h2⟩ := label_number_inj (hd e (List.mem_cons_self ..)) (hd e' (List.mem_cons_of_mem _ he')) hk
    rw [← h1, ← h2, List.countP_append, List.countP_singleton, if_pos (beq_self_eq_true _)] at hle
    exact Nat.not_succ_le_self _ hle

theorem idsOf_nodup (seq : List (Str × Str)) (hp : (seq.map (·.2)).Nodup) (hd : ∀ e ∈ seq, noDigitEnd e.1 = true) :
    (idsOf [] seq).Nodup := by
  rw [idsOf_eq_spec seq [] [] (fun n => rfl) hp]
  exact specIds_nodup seq [] hd

/-! ### distinct nodes have distinct path names -/

mutual
/-- below `pp`, a path continues with the separator, the name of the subtree's root and then nothing or another separator -/
theorem seqT_form (c : Char) (pp : Str) (t : Tree) :
    ∀ e ∈ seqT [c] pp t, ∃ rest, e.2 = pp ++ c :: (t.name ++ rest) ∧ ∀ x, rest.head? = some x → (x != c) = false := by
  match t with
  | .node i n a cs =>
    intro e he
    rw [seqT, List.mem_cons] at he
    rcases he with rfl | he
    · exact ⟨[], by rw [List.append_nil, List.append_assoc]; rfl, fun _ h => nomatch h⟩
    · obtain ⟨k, _, rest, hr, _⟩ := seqL_form c (pp ++ [c] ++ n) cs e he
      exact ⟨c :: (k.name ++ rest), by rw [hr, List.append_assoc, List.append_assoc]; rfl,
        fun x hx => Option.some.inj hx ▸ bne_self_eq_false c⟩
theorem seqL_form (c : Char) (pp : Str) (cs : List Tree) :
    ∀ e ∈ seqL [c] pp cs, ∃ k ∈ cs, ∃ rest, e.2 = pp ++ c :: (k.name ++ rest) ∧
      ∀ x, rest.head? = some x → (x != c) = false := by
  match cs with
  | [] => intro e he; cases he
  | k :: ks =>
    intro e he
    rw [seqL, List.mem_append] at he
    rcases he with he | he
    · exact ⟨k, List.mem_cons_self .., seqT_form c pp k e he⟩
    · obtain ⟨k', hk', h⟩ := seqL_form c pp ks e he
      exact ⟨k', List.mem_cons_of_mem _ hk', h⟩
end

mutual
theorem seqT_labels (sep pp : Str) (t : Tree) : ∀ e ∈ seqT sep pp t, e.1 ∈ namesT t := by
  match t with
  | .node i n a cs =>
    intro e he
    rw [seqT, List.mem_cons] at he
    rw [namesT, List.mem_cons]
    exact he.imp (congrArg Prod.fst) (seqL_labels sep _ cs e)
theorem seqL_labels (sep pp : Str) (cs : List Tree) : ∀ e ∈ seqL sep pp cs, e.1 ∈ namesL cs := by
  match cs with
  | [] => intro e he; cases he
  | k :: ks =>
    intro e he
    rw [seqL, List.mem_append] at he
    rw [namesL, List.mem_append]
    exact he.imp (seqT_labels sep pp k e) (seqL_labels sep pp ks e)
end

mutual
theorem seqT_paths_nodup (c : Char) (pp : Str) (t : Tree) (hsib : sibDistinct t = true)
    (hsep : ∀ n ∈ namesT t, c ∉ n) : ((seqT [c] pp t).map (·.2)).Nodup := by
  match t with
  | .node i n a cs =>
    simp only [sibDistinct, Bool.and_eq_true, decide_eq_true_eq] at hsib
    rw [seqT, List.map_cons, List.nodup_cons]
    refine ⟨fun hm => ?_, seqL_paths_nodup c _ cs hsib.1 hsib.2 fun m hm => hsep m (List.mem_cons_of_mem _ hm)⟩
    -- the paths below properly extend the path of this node
    obtain ⟨e, he, heq⟩ := List.mem_map.mp hm
    obtain ⟨k, _, rest, hr, _⟩ := seqL_form c (pp ++ [c] ++ n) cs e he
    exact List.cons_ne_nil _ _ (List.append_right_eq_self.mp (hr ▸ heq))
theorem seqL_paths_nodup (c : Char) (pp : Str) (cs : List Tree) (hnd : (cs.map Tree.name).Nodup)
    (hsib : sibDistinct.sibDistinctL cs = true) (hsep : ∀ n ∈ namesL cs, c ∉ n) :
    ((seqL [c] pp cs).map (·.2)).Nodup := by
  match cs with
  | [] => exact List.nodup_nil
  | k :: ks =>
    simp only [sibDistinct.sibDistinctL, Bool.and_eq_true] at hsib
    rw [List.map_cons, List.nodup_cons] at hnd
    rw [namesL] at hsep
    rw [seqL, List.map_append, List.nodup_append]
    refine ⟨seqT_paths_nodup c pp k hsib.1 fun m hm => hsep m (List.mem_append_left _ hm),
      seqL_paths_nodup c pp ks hnd.2 hsib.2 fun m hm => hsep m (List.mem_append_right _ hm), ?_⟩
    -- a path below `k` and one below a later sibling `k'` continue with `k.name` resp. `k'.name` up to the next separator
    intro x hx y hy hxy
    subst hxy
    obtain ⟨e1, he1, h1⟩ := List.mem_map.mp hx
    obtain ⟨e2, he2, h2⟩ := List.mem_map.mp hy
    obtain ⟨r1, hr1, hs1⟩ := seqT_form c pp k e1 he1
    obtain ⟨k', hk', r2, hr2, hs2⟩ := seqL_form c pp ks e2 he2
    have heq : k.name ++ r1 = k'.name ++ r2 :=
      List.cons.inj (List.append_cancel_left (hr1.symm.trans ((h1.trans h2.symm).trans hr2))) |>.2
    have notc : ∀ {m : Str}, c ∉ m → ∀ x ∈ m, (x != c) = true := fun hm x hx => bne_iff_ne.mpr fun e => hm (e ▸ hx)
    have := span_unique (notc (hsep _ (List.mem_append_left _ (name_mem_namesT k))))
      (notc (hsep _ (List.mem_append_right _ (namesL_of_mem hk' _ (name_mem_namesT k'))))) hs1 hs2 heq
    exact hnd.1 (this.1 ▸ List.mem_map_of_mem hk')
end
end Render
