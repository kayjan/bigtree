import BigtreeProofs.Lemmas.BinStoreThms
/-! The invariant `BWF` is preserved by every accepted operation of the two-slot store, and the
closed forms of the accepted operations that C11 states its effects with. -/
namespace BinStore

/-! ### accepted `parent` assignment -/

theorem setParent_ok {s : Store} {a : Bool} {f : Fault} {v : Nat} {np : Option Nat}
    (hok : (setParent a f s v np).2 = .ok) :
    (a && parentTypeBad s np) = false ∧ (a && parentLoopBad s v np) = false ∧ f ≠ Fault.pre ∧
    (parentTry f s v (s.parent v) np).2.2 = false ∧
    (setParent a f s v np).1 = (parentTry f s v (s.parent v) np).1 := by
  unfold setParent at hok ⊢
  by_cases h1 : (a && parentTypeBad s np) = true
  · simp [h1] at hok
  by_cases h2 : (a && parentLoopBad s v np) = true
  · simp [h1, h2] at hok
  by_cases h3 : f = Fault.pre
  · simp [h1, h2, h3] at hok
  by_cases h4 : (parentTry f s v (s.parent v) np).2.2 = true
  · simp [h1, h2, h3, h4] at hok
  simp [h1, h2, h3, h4]

/-- slot list of `x` after an accepted `v.parent = np` -/
def parentSlots (s : Store) (v : Nat) (np : Option Nat) (x : Nat) : List (Option Nat) :=
  match np with
  | none => detached s v x
  | some p =>
    if x = p then
      match firstNone (detached s v p) with
      | some j => (detached s v p).set j (some v)
      | none => detached s v p
    else detached s v x

theorem parentTry_spec {s : Store} (h : BWF s) (f : Fault) (v : Nat) (np : Option Nat)
    (h4 : (parentTry f s v (s.parent v) np).2.2 = false) :
    (parentTry f s v (s.parent v) np).1.n = s.n ∧
    (∀ x, (parentTry f s v (s.parent v) np).1.parent x = if x = v then np else s.parent x) ∧
    (∀ x, (parentTry f s v (s.parent v) np).1.slots x = parentSlots s v np x) ∧
    (∀ p, np = some p → ∃ j, firstNone (detached s v p) = some j) := by
  rw [parentTry_eq h] at h4 ⊢
  rw [attach_eq] at h4 ⊢
  cases np with
  | none => exact ⟨rfl, fun _ => rfl, fun _ => rfl, fun _ e => nomatch e⟩
  | some p =>
    simp only [leave_slots] at h4 ⊢
    cases hj : firstNone (detached s v p) with
    | none => simp [hj] at h4
    | some j =>
      refine ⟨rfl, fun _ => rfl, fun x => ?_, fun _ e => ⟨j, Option.some.inj e ▸ hj⟩⟩
      simp only [setSlotAt_slots, setPar_slots, leave_slots, parentSlots, hj]

theorem mem_parentSlots {s : Store} (h : BWF s) (v : Nat) (np : Option Nat) (x c : Nat)
    (h4 : ∀ p, np = some p → ∃ j, firstNone (detached s v p) = some j) :
    some c ∈ parentSlots s v np x ↔ (c = v ∧ np = some x) ∨ (c ≠ v ∧ some c ∈ s.slots x) := by
  cases np with
  | none => simp [parentSlots, mem_detached h]
  | some p =>
    obtain ⟨j, hj⟩ := h4 p rfl
    by_cases hx : x = p
    · subst hx
      simp only [parentSlots, if_true, hj, mem_set_firstNone hj, mem_detached h]
      grind
    · have : ¬ p = x := fun e => hx e.symm
      simp [parentSlots, hx, mem_detached h, this]

theorem count_parentSlots {s : Store} (h : BWF s) (v : Nat) (np : Option Nat) (x c : Nat) :
    (parentSlots s v np x).count (some c) ≤ 1 := by
  cases np with
  | none => exact count_detached h v x c
  | some p =>
    by_cases hx : x = p
    · subst hx
      simp only [parentSlots, if_true]
      cases hj : firstNone (detached s v x) with
      | none => exact count_detached h v x c
      | some j =>
        simp only [count_set_firstNone c hj]
        by_cases hc : c = v
        · subst hc
          simp [List.count_eq_zero.2 (not_mem_detached h c x)]
        · simp [hc]; exact count_detached h v x c
    · simp only [parentSlots, hx, if_false]; exact count_detached h v x c

theorem parentSlots_length {s : Store} (h : BWF s) (v : Nat) (np : Option Nat) (x : Nat) :
    (parentSlots s v np x).length = 2 := by
  cases np with
  | none => exact detached_length h v x
  | some p =>
    simp only [parentSlots]
    split
    · split <;> simp [detached_length h]
    · exact detached_length h v x

theorem bwf_setParent {s : Store} (h : BWF s) (f : Fault) (v : Nat) (np : Option Nat) (hv : v < s.n)
    (hok : (setParent true f s v np).2 = .ok) : BWF (setParent true f s v np).1 := by
  obtain ⟨h1, h2, _, h4, heq⟩ := setParent_ok hok
  rw [heq]
  obtain ⟨en, ep, es, e4⟩ := parentTry_spec h f v np h4
  generalize (parentTry f s v (s.parent v) np).1 = t at en ep es ⊢
  have key : ∀ q c, some c ∈ t.slots q ↔ t.parent c = some q := fun q c => by
    rw [es, ep, mem_parentSlots h v np q c e4]
    by_cases hcv : c = v
    · simp [hcv]
    · simpa [hcv] using ⟨h.down q c, h.up c q⟩
  refine ⟨fun x => ?_, fun c q => (key q c).2, fun q c => (key q c).1, fun q c => ?_, ?_, fun c q hc => ?_⟩
  · rw [es]; exact parentSlots_length h v np x
  · rw [es]; exact count_parentSlots h v np q c
  · -- the only new edge goes from `v` up to `np`, and the loop check has passed
    cases np with
    | none =>
      refine acyc_reparent h.acyc v (fun _ => False) (fun x p hx => .inr ⟨id, ?_⟩) (fun _ => False.elim)
      rw [ep] at hx
      split at hx
      · cases hx
      · exact hx
    | some p =>
      obtain ⟨hpv, hanc⟩ := parentLoopBad_eq_false.1 h2
      refine acyc_reparent h.acyc p (· = v) (fun x q hx => ?_) (fun c hc => ?_)
      · rw [ep] at hx
        split at hx
        · rename_i hxv; exact .inl ⟨hxv, (Option.some.inj hx).symm⟩
        · rename_i hxv; exact .inr ⟨hxv, hx⟩
      · subst hc
        exact ⟨fun e => hpv e.symm, fun hr => hanc ((anc_complete h.acyc h.range).2 hr)⟩
  · rw [ep] at hc
    rw [en]
    split at hc
    · rename_i hcv
      subst hc
      exact ⟨hcv ▸ hv, parentTypeBad_eq_false.1 h1⟩
    · exact h.range c q hc

/-- closed form of an accepted `v.parent = np` -/
theorem parent_effect {s : Store} (h : BWF s) (f : Fault) (v : Nat) (np : Option Nat)
    (hok : (setParent true f s v np).2 = .ok) :
    (∀ x, (setParent true f s v np).1.parent x = if x = v then np else s.parent x) ∧
    (∀ x, (setParent true f s v np).1.slots x = parentSlots s v np x) ∧
    (∀ p, np = some p → ∃ j, firstNone (detached s v p) = some j) := by
  obtain ⟨_, _, _, h4, heq⟩ := setParent_ok hok
  rw [heq]
  exact (parentTry_spec h f v np h4).2

/-- `v.parent = p` is refused exactly when (after `v` has left its old slot) `p` has no empty slot -/
theorem parent_full_iff {s : Store} (h : BWF s) (v p : Nat) (hp : p < s.n) (hpv : p ≠ v)
    (hanc : v ∉ anc s s.n p) :
    (setParent true Fault.none s v (some p)).2 = .rej ↔ firstNone (detached s v p) = none := by
  have hty := parentTypeBad_eq_false.2 hp
  have hlp := parentLoopBad_eq_false.2 ⟨hpv, hanc⟩
  unfold setParent
  simp only [hty, hlp, Bool.and_false, Bool.false_eq_true, if_false, parentTry_eq h, attach_eq,
    leave_slots]
  cases firstNone (detached s v p) <;> simp

/-! ### accepted `children` assignment -/

theorem setChildren_ok {s : Store} {f : Fault} {v : Nat} {l : List (Option Nat)}
    (h : BWF s) (hok : (setChildren true f s v l).2 = .ok) :
    ∃ c1 c2, normChildren l = some [c1, c2] ∧ ValidNew s v c1 c2 ∧ f = Fault.none ∧
      (setChildren true f s v l).1 = (childrenTry f s v [c1, c2]).1 := by
  rcases setChildren_cases h true f v l with e | ⟨c1, c2, hn, hb, hf, e⟩
  · rw [e] at hok; cases hok
  · exact ⟨c1, c2, hn, childrenLoopBad_two.1 (by simpa using hb), hf, by rw [e]⟩

/-- closed form of an accepted `v.children = l` -/
theorem children_effect {s : Store} (h : BWF s) (f : Fault) (v : Nat) (l : List (Option Nat))
    (hok : (setChildren true f s v l).2 = .ok) :
    ∃ c1 c2, normChildren l = some [c1, c2] ∧ ValidNew s v c1 c2 ∧
      (setChildren true f s v l).1 = adopted s v [c1, c2] := by
  obtain ⟨c1, c2, hnorm, hval, _, heq⟩ := setChildren_ok h hok
  exact ⟨c1, c2, hnorm, hval, by rw [heq, childrenTry_eq h f v _ (count_pair_le hval.distinct)]⟩

theorem bwf_adopted {s : Store} (h : BWF s) {v : Nat} (hv : v < s.n) {new : List (Option Nat)}
    (hlen : new.length = 2) (hnd : ∀ c, new.count (some c) ≤ 1)
    (hnew : ∀ c, some c ∈ new → c < s.n ∧ c ≠ v ∧ c ∉ anc s s.n v) : BWF (adopted s v new) := by
  refine ⟨fun x => ?_, fun c q hc => ?_, fun q c hm => ?_, fun q c => ?_, ?_, ?_⟩
  · rw [adopted_slots]; split
    · exact hlen
    · rw [clearAll_length, h.len2]
  · rw [adopted_slots]
    rw [adopted_parent] at hc
    rcases ParentFn.adoptFn_eq_some.1 hc with ⟨hc, rfl⟩ | ⟨hc, hp, hq⟩
    · rwa [if_pos rfl]
    · rw [if_neg hq]; exact mem_clearAll.2 ⟨hc, h.up c q hp⟩
  · rw [adopted_parent]
    refine ParentFn.adoptFn_eq_some.2 ?_
    rw [adopted_slots] at hm
    split at hm
    · rename_i hq; exact Or.inl ⟨hm, hq⟩
    · rename_i hq
      obtain ⟨hc, hm⟩ := mem_clearAll.1 hm
      exact Or.inr ⟨hc, h.down q c hm, hq⟩
  · rw [adopted_slots]; split
    · exact hnd c
    · exact Nat.le_trans (count_clearAll_le _ _ c) (h.distinct q c)
  · exact ParentFn.acc_adoptFn h.acyc fun c hc =>
      ⟨(hnew c hc).2.1, fun hr => (hnew c hc).2.2 ((anc_complete h.acyc h.range).2 hr)⟩
  · exact ParentFn.range_adoptFn h.range hv fun c hc => (hnew c hc).1

theorem bwf_setChildren {s : Store} (h : BWF s) (f : Fault) (v : Nat) (l : List (Option Nat)) (hv : v < s.n)
    (hok : (setChildren true f s v l).2 = .ok) : BWF (setChildren true f s v l).1 := by
  obtain ⟨c1, c2, _, hval, heq⟩ := children_effect h f v l hok
  rw [heq]
  refine bwf_adopted h hv rfl (count_pair_le hval.distinct) fun c hc => ?_
  have hc : c1 = some c ∨ c2 = some c := by simpa [eq_comm] using hc
  exact ⟨hval.range c hc, hval.ne_self c hc, hval.not_anc c hc⟩

/-! ### `del`, `sort`; the invariant over one call and over histories -/

theorem bwf_delChildren {s : Store} (h : BWF s) (v : Nat) (hv : v < s.n) : BWF (delChildren s v).1 := by
  simp only [delChildren, delChildrenBody_eq h]
  exact bwf_adopted h hv rfl (by simp) (by simp)

theorem bwf_setSlots_perm {s : Store} (h : BWF s) {v : Nat} {l : List (Option Nat)}
    (hl : l.Perm (s.slots v)) : BWF (setSlots s v l) := by
  refine ⟨fun x => ?_, fun c q hc => ?_, fun q c hm => ?_, fun q c => ?_, h.acyc, h.range⟩
  · simp only [setSlots_slots]; split
    · rw [hl.length_eq, h.len2]
    · exact h.len2 x
  · simp only [setSlots_slots]; split
    · rename_i hq; exact hl.mem_iff.2 (hq ▸ h.up c q hc)
    · exact h.up c q hc
  · simp only [setSlots_slots] at hm; split at hm
    · rename_i hq; exact hq ▸ h.down v c (hl.mem_iff.1 hm)
    · exact h.down q c hm
  · simp only [setSlots_slots]; split
    · rw [hl.count_eq]; exact h.distinct v c
    · exact h.distinct q c

theorem sortChildren_eq (s : Store) (v : Nat) (sw : Bool) :
    sortChildren s v sw = s ∨ ∃ l, sortChildren s v sw = setSlots s v l := by
  unfold sortChildren
  by_cases h2 : ((s.slots v).filter Option.isSome).length = 2
  · exact Or.inr ⟨_, if_pos h2⟩
  · exact Or.inl (if_neg h2)

theorem bwf_sortChildren {s : Store} (h : BWF s) (v : Nat) (sw : Bool) : BWF (sortChildren s v sw) := by
  unfold sortChildren
  by_cases h2 : ((s.slots v).filter Option.isSome).length = 2
  · -- both slots are occupied, so the filtered list is the list itself
    have : (s.slots v).filter Option.isSome = s.slots v :=
      List.filter_eq_self.2 (List.length_filter_eq_length_iff.1 (h2.trans (h.len2 v).symm))
    rw [if_pos h2, this]
    cases sw
    · exact bwf_setSlots_perm h (List.Perm.refl _)
    · exact bwf_setSlots_perm h (List.reverse_perm _)
  · rw [if_neg h2]; exact h

/-- **invariant step**: every operation, every argument, every fault (checks on) keeps the store
well-formed and neither creates nor destroys nodes -/
theorem step_inv {s : Store} (h : BWF s) (op : Op) : BWF (step true s op).1 ∧ (step true s op).1.n = s.n := by
  refine step_cases (P := fun r => BWF (r true).1 ∧ (r true).1.n = s.n) op ⟨h, rfl⟩
    (fun v np f hv => ?_) (fun v l f hv => ?_)
    (fun v hv => ⟨bwf_delChildren h v hv, ?_⟩) (fun v sw _ => ⟨bwf_sortChildren h v sw, ?_⟩)
  · cases hout : (setParent true f s v np).2 with
    | rej => rw [setParent_rej_id h true f v np hout]; exact ⟨h, rfl⟩
    | ok =>
      refine ⟨bwf_setParent h f v np hv hout, ?_⟩
      obtain ⟨_, _, _, h4, heq⟩ := setParent_ok hout
      rw [heq]; exact (parentTry_spec h f v np h4).1
  · cases hout : (setChildren true f s v l).2 with
    | rej => rw [setChildren_rej_id h f v l hout]; exact ⟨h, rfl⟩
    | ok =>
      refine ⟨bwf_setChildren h f v l hv hout, ?_⟩
      obtain ⟨_, _, _, _, heq⟩ := children_effect h f v l hout
      rw [heq]; rfl
  · simp only [delChildren, delChildrenBody_eq h]; rfl
  · rcases sortChildren_eq s v sw with e | ⟨l, e⟩ <;> rw [e] <;> rfl

theorem run_inv {s : Store} (h : BWF s) (ops : List Op) : BWF (run true s ops) ∧ (run true s ops).n = s.n := by
  induction ops generalizing s with
  | nil => exact ⟨h, rfl⟩
  | cons op ops ih =>
    obtain ⟨h', hn⟩ := step_inv h op
    exact ⟨(ih h').1, (ih h').2.trans hn⟩

/-- dropping the rejected calls of a history does not change the final store (C02 + invariant) -/
theorem run_acceptedOps : ∀ (s : Store) (ops : List Op), BWF s →
    run true s (acceptedOps s ops) = run true s ops
  | _, [], _ => rfl
  | s, op :: ops, h => by
    simp only [acceptedOps]
    split
    · simp only [run, List.foldl_cons]
      exact run_acceptedOps _ ops (step_inv h op).1
    · rename_i hno
      have hr : (step true s op).2 = .rej := by
        cases hh : (step true s op).2 with
        | ok => exact absurd hh hno
        | rej => rfl
      simp only [run, List.foldl_cons]
      rw [step_rej_id h op hr]
      exact run_acceptedOps s ops h

end BinStore
