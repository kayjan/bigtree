import BigtreeModel.Paths
import BigtreeProofs.Lemmas.PathsStr
import BigtreeProofs.Lemmas.PathsAddr
import BigtreeProofs.Lemmas.PathsSet
import BigtreeProofs.Lemmas.PathsLoop
/-!
# `duplicate_name_allowed=False`: `find_name` over the whole tree + full-path comparison (C05)

Under sibling-uniqueness and a one-character tree separator that occurs in no name, a lookup that
does not raise finds exactly what `find_child_by_name` finds, so a successful call builds the
same tree as with duplicates allowed.
-/

namespace Paths
open Str

/-! ## `find_name` -/

theorem mem_findNameL (c : Str) : ∀ (cs : List Tree) (k0 : Nat) (ad : Addr),
    ad ∈ findNameL c k0 cs ↔
      ∃ (j : Nat) (ks : Addr) (d : Tree), ad = (k0 + j) :: ks ∧ cs[j]? = some d ∧ ks ∈ findName c d := by
  intro cs
  induction cs with
  | nil => intro k0 ad; simp [findNameL]
  | cons x xs ih =>
    intro k0 ad
    rw [findNameL, List.mem_append, List.mem_map, ih]
    constructor
    · rintro (⟨ks, hks, rfl⟩ | ⟨j, ks, d, rfl, hd, hks⟩)
      · exact ⟨0, ks, x, rfl, rfl, hks⟩
      · exact ⟨j + 1, ks, d, by rw [Nat.add_assoc, Nat.add_comm 1 j], hd, hks⟩
    · rintro ⟨j, ks, d, rfl, hd, hks⟩
      cases j with
      | zero => cases hd; exact .inl ⟨ks, hks, rfl⟩
      | succ j => exact .inr ⟨j, ks, d, by rw [Nat.add_assoc, Nat.add_comm 1 j], hd, hks⟩

theorem mem_findName (c : Str) : ∀ (t : Tree) (ad : Addr),
    ad ∈ findName c t ↔ ∃ n, nodeAt ad t = some n ∧ n.name = c := by
  intro t
  induction t using Tree.ind with
  | h i n at' cs ih =>
    intro ad
    rw [findName, List.mem_append, mem_findNameL]
    constructor
    · rintro (h | ⟨j, ks, d, rfl, hd, hks⟩)
      · split at h
        · rename_i hn
          cases List.mem_singleton.mp h
          exact ⟨_, rfl, hn⟩
        · cases h
      · obtain ⟨m, hm, hmn⟩ := (ih d (List.mem_of_getElem? hd) ks).mp hks
        rw [Nat.zero_add]
        exact ⟨m, nodeAt_cons_eq_some.mpr ⟨d, hd, hm⟩, hmn⟩
    · rintro ⟨m, hm, hmn⟩
      cases ad with
      | nil =>
        cases hm
        exact .inl (by rw [if_pos (show n = c from hmn)]; exact List.mem_singleton_self _)
      | cons j ks =>
        obtain ⟨d, hd, hm⟩ := nodeAt_cons_eq_some.mp hm
        exact .inr ⟨j, ks, d, by rw [Nat.zero_add], hd, (ih d (List.mem_of_getElem? hd) ks).mpr ⟨m, hm, hmn⟩⟩

/-! ## separator-free names -/

/-- the character `s` occurs in no node name of `t` -/
def SepFree (s : Char) (t : Tree) : Prop := ∀ q ∈ paths t, ∀ x ∈ q, s ∉ x

theorem SepFree.namesAlong {s : Char} {t n : Tree} {a : Addr} (h : SepFree s t) (hn : nodeAt a t = some n) :
    ∀ x ∈ namesAlong a t, s ∉ x :=
  h _ ((mem_paths_addr t _).mpr ⟨a, n, hn, rfl⟩)

theorem sepFree_appendChild {s : Char} {new t p : Tree} {a : Addr} (hnew : new.children = [])
    (hf : SepFree s t) (hp : nodeAt a t = some p) (hc : s ∉ new.name) :
    SepFree s (modifyAt (appendChild new) a t) := by
  intro q hq x hx
  rcases (mem_paths_appendChild hnew hp q).mp hq with hq | rfl
  · exact hf q hq x hx
  · rcases List.mem_append.mp hx with hx | hx
    · exact hf.namesAlong hp x hx
    · rw [List.mem_singleton.mp hx]; exact hc

/-! ## names (for "all names distinct") -/

@[simp] theorem namesL_nil : namesL [] = [] := by simp [namesL]
@[simp] theorem namesL_cons (c cs) : namesL (c :: cs) = names c ++ namesL cs := by simp [namesL]

theorem namesL_append (cs ds : List Tree) : namesL (cs ++ ds) = namesL cs ++ namesL ds := by
  induction cs with
  | nil => rfl
  | cons c cs ih => rw [List.cons_append, namesL_cons, namesL_cons, ih, List.append_assoc]

theorem names_eq_map_paths : ∀ (t : Tree), names t = (paths t).map fun q => q.getLast?.getD [] := by
  intro t
  induction t using Tree.ind with
  | h i n at' cs ih =>
    have hL : namesL cs = (pathsL cs).map fun q => q.getLast?.getD [] := by
      induction cs with
      | nil => rfl
      | cons c cs ihc =>
        rw [namesL_cons, pathsL_cons, List.map_append, ih c List.mem_cons_self,
          ihc fun d hd => ih d (List.mem_cons_of_mem _ hd)]
    rw [names, paths_eq, List.map_cons, List.map_map, Tree.children_node, hL]
    refine congrArg _ (List.map_congr_left fun q hq => ?_)
    obtain ⟨c, -, hqc⟩ := mem_pathsL.mp hq
    cases q with
    | nil => cases head_of_mem_paths hqc
    | cons y ys => rfl

theorem mem_names_iff (t : Tree) (x : Str) : x ∈ names t ↔ ∃ a n, nodeAt a t = some n ∧ n.name = x := by
  simp only [names_eq_map_paths, List.mem_map, mem_paths_addr]
  constructor
  · rintro ⟨_, ⟨a, n, hn, rfl⟩, rfl⟩
    exact ⟨a, n, hn, by rw [namesAlong_getLast a t n hn]; rfl⟩
  · rintro ⟨a, n, hn, rfl⟩
    exact ⟨_, ⟨a, n, hn, rfl⟩, by rw [namesAlong_getLast a t n hn]; rfl⟩

theorem names_appendChild_perm {new t p : Tree} {a : Addr} (hnew : new.children = []) (hs : SibUnique t)
    (hp : nodeAt a t = some p) (hc : new.name ∉ p.children.map Tree.name) :
    (names (modifyAt (appendChild new) a t)).Perm (new.name :: names t) := by
  have hperm : (paths (modifyAt (appendChild new) a t)).Perm ((namesAlong a t ++ [new.name]) :: paths t) :=
    (List.perm_ext_iff_of_nodup (nodup_paths _ (sibUnique_appendChild hnew hs hp hc))
      (List.nodup_cons.mpr ⟨not_mem_paths_of_no_child hs hp hc, nodup_paths t hs⟩)).mpr
      fun q => by rw [mem_paths_appendChild hnew hp, List.mem_cons, or_comm]
  rw [names_eq_map_paths, names_eq_map_paths t]
  have := hperm.map fun q => q.getLast?.getD []
  rwa [List.map_cons, List.getLast?_append, List.getLast?_singleton] at this

theorem names_modifyAt_same (f : Tree → Tree) (hn : ∀ t, (f t).name = t.name)
    (hc : ∀ t, (f t).children = t.children) (a : Addr) (t : Tree) : names (modifyAt f a t) = names t := by
  rw [names_eq_map_paths, names_eq_map_paths t, paths_modifyAt_same f hn hc]

theorem findName_nil_iff (c : Str) (t : Tree) : findName c t = [] ↔ c ∉ names t := by
  simp only [List.eq_nil_iff_forall_not_mem, mem_findName, mem_names_iff, not_exists]

/-! ## the loop with duplicates disallowed -/

theorem lookup_nodup_eq (s : Char) (t p : Tree) (paddr : Addr) (pre : List Str) (c : Str) (r : Option Addr)
    (hs : SibUnique t) (hp : nodeAt paddr t = some p) (hn : namesAlong paddr t = pre)
    (hf : SepFree s t) (hc : s ∉ c)
    (h : lookup [s] false t paddr (pre ++ [c]) c = .ok r) :
    lookup [s] true t paddr (pre ++ [c]) c = .ok r := by
  simp only [lookup, Bool.false_eq_true, if_false] at h
  simp only [lookup, if_true, hp]
  split at h
  · -- no node of that name at all, in particular no such child
    rename_i hfn
    cases h
    have : childIdxs c 0 p.children = [] := by
      rw [childIdxs_nil_iff]
      intro hm
      obtain ⟨d, hd, hdn⟩ := List.mem_map.mp hm
      obtain ⟨j, hj, rfl⟩ := List.getElem_of_mem hd
      have : paddr ++ [j] ∈ findName c t := (mem_findName c t _).mpr
        ⟨_, nodeAt_snoc_eq_some.mpr ⟨p, hp, List.getElem?_eq_getElem hj⟩, hdn⟩
      rw [hfn] at this; cases this
    rw [this]
  · rename_i ad hfn
    split at h
    · cases h
    · rename_i hpn
      cases h
      have hpn : pathName [s] ad t = [s] ++ join [s] (pre ++ [c]) := Decidable.not_not.mp hpn
      obtain ⟨m, hm, hmn⟩ := (mem_findName c t ad).mp (hfn ▸ List.mem_singleton_self ad)
      -- equal path strings, hence equal name lists
      have hnames : Paths.namesAlong ad t = Paths.namesAlong paddr t ++ [c] := by
        rw [hn]
        apply join_inj s _ _ (namesAlong_ne_nil ad t) (List.append_ne_nil_of_right_ne_nil _ (List.cons_ne_nil _ _))
          (hf.namesAlong hm) _ (List.append_cancel_left hpn)
        intro x hx
        rcases List.mem_append.mp hx with hx | hx
        · exact hf.namesAlong hp x (hn ▸ hx)
        · rw [List.mem_singleton.mp hx]; exact hc
      obtain ⟨k, rfl, hk, -⟩ := namesAlong_eq_snoc hs hp hm hnames
      rw [childIdxs_unique c p.children 0 k m ((sibUnique_iff p).mp (hs.nodeAt _ hp)).1 hk hmn, Nat.zero_add]
  · cases h

theorem lookup_nodup_none (ts : Str) (t : Tree) (paddr : Addr) (pre' : List Str) (c : Str)
    (h : lookup ts false t paddr pre' c = .ok none) : c ∉ names t := by
  simp only [lookup, Bool.false_eq_true, if_false] at h
  split at h
  · rename_i hf; exact (findName_nil_iff c t).mp hf
  · split at h <;> cases h
  · cases h

theorem insertLoop_nodup (s : Char) (attrs : Attrs) : ∀ (rest pre : List Str) (t : Tree) (paddr : Addr)
    (fresh : Nat) (p : Tree) (r : Tree × Addr × Nat),
    SibUnique t → nodeAt paddr t = some p → namesAlong paddr t = pre → SepFree s t →
    (∀ x ∈ rest, s ∉ x) →
    insertLoop [s] false attrs rest pre t paddr fresh = .ok r →
    insertLoop [s] true attrs rest pre t paddr fresh = .ok r ∧
      ((names t).Nodup → (names r.1).Nodup) := by
  intro rest
  induction rest with
  | nil =>
    intro pre t paddr fresh p r _ _ _ _ _ h
    cases h
    exact ⟨rfl, id⟩
  | cons c rest ih =>
    intro pre t paddr fresh p r hs hp hn hf hrest h
    have hc : s ∉ c := hrest c List.mem_cons_self
    have hrest' : ∀ x ∈ rest, s ∉ x := fun x hx => hrest x (List.mem_cons_of_mem _ hx)
    cases hl : lookup [s] false t paddr (pre ++ [c]) c with
    | error e => rw [insertLoop, hl] at h; cases h
    | ok found =>
      have hl' := lookup_nodup_eq s t p paddr pre c found hs hp hn hf hc hl
      cases found with
      | some ad =>
        rw [insertLoop_cons_some hl] at h
        rw [insertLoop_cons_some hl']
        obtain ⟨k, d, rfl, hd, rfl⟩ := lookup_dup_some hp hl'
        exact ih _ _ _ _ _ _ hs (nodeAt_snoc_eq_some.mpr ⟨p, hp, hd⟩)
          (by rw [namesAlong_snoc _ _ _ _ _ hp hd, hn]) hf hrest' h
      | none =>
        by_cases hce : c = []
        · rw [insertLoop, hl, if_pos hce] at h; cases h
        rw [insertLoop_cons_none hl hp hce] at h
        rw [insertLoop_cons_none hl' hp hce]
        generalize hnew : Tree.node fresh c (if rest.isEmpty = true then attrs else []) [] = new at h ⊢
        have hnewc : new.children = [] := by rw [← hnew]; rfl
        have hnewn : new.name = c := by rw [← hnew]; rfl
        have hcp : new.name ∉ p.children.map Tree.name := hnewn ▸ lookup_dup_none hp hl'
        have hs1 := sibUnique_appendChild hnewc hs hp hcp
        have hn2 := namesAlong_appendChild_self new hp
        rw [hn, hnewn] at hn2
        obtain ⟨r1, r2⟩ := ih _ _ _ _ _ _ hs1 (nodeAt_appendChild_self new hp) hn2
          (sepFree_appendChild hnewc hf hp (hnewn ▸ hc)) hrest' h
        refine ⟨r1, fun hnd => r2 ?_⟩
        have hcn : new.name ∉ names t := hnewn ▸ lookup_nodup_none [s] t paddr (pre ++ [c]) c hl
        exact (names_appendChild_perm hnewc hs hp hcp).nodup_iff.mpr
          (List.nodup_cons.mpr ⟨hcn, hnd⟩)

/-- `add_path_to_tree` on components, duplicates disallowed: a call that does not raise returns
    exactly what the call with duplicates allowed returns, and keeps all names distinct. -/
theorem addComps_nodup (s : Char) (t : Tree) (fresh : Nat) (branch : List Str) (attrs : Attrs)
    (r : Tree × Addr × Nat) (hs : SibUnique t) (hf : SepFree s t) (hb : ∀ x ∈ branch, s ∉ x)
    (h : addComps [s] false t fresh branch attrs = .ok r) :
    addComps [s] true t fresh branch attrs = .ok r ∧ ((names t).Nodup → (names r.1).Nodup) := by
  obtain ⟨t', ad, fr'⟩ := r
  obtain ⟨rest, t1, rfl, hl, rfl⟩ := addComps_ok h
  obtain ⟨h1, h2⟩ := insertLoop_nodup s attrs rest [t.name] t [] fresh t _ hs rfl rfl hf
    (fun x hx => hb x (List.mem_cons_of_mem _ hx)) hl
  refine ⟨?_, fun hnd => ?_⟩
  · rw [addComps, if_neg (fun h => h rfl), h1]
  · rw [names_modifyAt_same _ (setAttrs_name attrs) (setAttrs_children attrs)]
    exact h2 hnd

end Paths
