import BigtreeProofs.Lemmas.DiffInsert
import BigtreeProofs.Lemmas.DiffRows
/-!
# C15: `dataframe_to_tree` on the kept (marked) paths
-/
namespace Helper

/-! ## `add_path_to_tree` on a well-formed path string -/

/-- on the joined names `r :: rest`, with or without leading separators: root check, then descent -/
theorem addPath_join (c : Char) (u : Upd) (T : Tree) (lead r : Str) (rest : List Str)
    (hl : ∀ d ∈ lead, d = c) (hg : ∀ n ∈ r :: rest, n ≠ [] ∧ c ∉ n) :
    addPath [c] u T (lead ++ join [c] (r :: rest)) =
      if r != T.name then .error .treeError else ins u rest T := by
  have hne : lead ++ join [c] (r :: rest) ≠ [] := by
    obtain ⟨t, ht⟩ := Strings.join_cons_head [c] r rest
    rw [join, ht]
    exact List.append_ne_nil_of_right_ne_nil _
      (List.append_ne_nil_of_left_ne_nil (hg r (List.mem_cons_self ..)).1 _)
  rw [addPath, List.isEmpty_eq_false_iff.mpr hne, strip_join c lead _ hl (List.cons_ne_nil _ _) hg,
    split_join c _ (List.cons_ne_nil _ _) fun x hx => (hg x hx).2]
  rfl

/-! ## the fold of insertions -/

theorem rebuild_fold (c : Char) (r : Str) : ∀ (ms : List (List Str)) (T : Tree), Bare T → T.name = r →
    (∀ m ∈ ms, (∃ rest, m = r :: rest) ∧ ∀ n ∈ m, n ≠ [] ∧ c ∉ n) →
    ∃ T', (ms.map (join [c])).foldlM (fun t p => addPath [c] .nothing t p) T = .ok T' ∧
      Bare T' ∧ T'.name = r ∧
      ∀ q, q ∈ keys T' ↔ q ∈ keys T ∨ (q ≠ [] ∧ ∃ m ∈ ms, q <+: m) := by
  intro ms
  induction ms with
  | nil => exact fun T hb hn _ => ⟨T, rfl, hb, hn, by simp⟩
  | cons m ms ih =>
    intro T hb hn hm
    obtain ⟨⟨rest, rfl⟩, hg⟩ := hm m (List.mem_cons_self ..)
    obtain ⟨T1, h1, hb1, hn1, hk1⟩ := ins_nothing_spec rest T hb
    obtain ⟨T', h', hb', hn', hk'⟩ := ih T1 hb1 (hn1.trans hn) fun m' hm' => hm m' (List.mem_cons_of_mem _ hm')
    have hadd := addPath_join c .nothing T [] r rest (fun _ h => absurd h List.not_mem_nil) hg
    rw [List.nil_append] at hadd
    refine ⟨T', ?_, hb', hn', fun q => ?_⟩
    · rw [List.map_cons, List.foldlM_cons, hadd, hn, bne_self_eq_false, if_neg Bool.false_ne_true, h1]
      exact h'
    · rw [hk', hk1, hn, or_assoc, ← and_or_left]
      simp only [List.mem_cons, exists_eq_or_imp]

/-- `dataframe_to_tree` of well-formed path names with a common root name -/
theorem rebuild_spec (c : Char) (r : Str) (m0 : List Str) (ms : List (List Str))
    (hm : ∀ m ∈ m0 :: ms, (∃ rest, m = r :: rest) ∧ ∀ n ∈ m, n ≠ [] ∧ c ∉ n) :
    ∃ T', rebuild [c] ((m0 :: ms).map (pathName [c])) = .ok T' ∧ Bare T' ∧
      ∀ q, q ∈ keys T' ↔ q ≠ [] ∧ ∃ m ∈ m0 :: ms, q <+: m := by
  have hstrip : ((m0 :: ms).map (pathName [c])).map (strip [c]) = (m0 :: ms).map (join [c]) := by
    rw [List.map_map]
    refine List.map_congr_left fun m hmm => ?_
    obtain ⟨⟨rest, rfl⟩, hg⟩ := hm m hmm
    exact strip_join c [c] _ (fun _ => List.mem_singleton.mp) (List.cons_ne_nil _ _) hg
  obtain ⟨⟨rest0, rfl⟩, hg0⟩ := hm _ (List.mem_cons_self ..)
  obtain ⟨T', h', hb', -, hk'⟩ := rebuild_fold c r _ (.node 0 r [] []) (.mk _ _ _ _ ⟨.nil, rfl⟩ nofun) rfl hm
  refine ⟨T', ?_, hb', fun q => ?_⟩
  · rw [rebuild, hstrip]
    rw [List.map_cons] at h' ⊢
    simp only [split_join c _ (List.cons_ne_nil _ _) fun x hx => (hg0 x hx).2, List.headD_cons]
    exact h'
  · rw [hk', keys_node, List.flatMap_nil, List.map_nil, List.mem_singleton]
    refine or_iff_right_of_imp ?_
    rintro rfl
    exact ⟨List.cons_ne_nil _ _, _, List.mem_cons_self .., List.cons_prefix_cons.mpr ⟨rfl, List.nil_prefix⟩⟩

theorem rebuild_kept (c : Char) (attrList : List Str) (t1 t2 : Tree) (h : DiffOK c t1 t2) (onlyDiff : Bool)
    (hne : keptC attrList t1 t2 onlyDiff ≠ []) :
    ∃ T', rebuild [c] (((keptC attrList t1 t2 onlyDiff).map (mrow c attrList t1 t2)).map (·.path)) = .ok T' ∧
      Bare T' ∧ (keys T').Perm ((keptPaths attrList t1 t2 onlyDiff).map (markPM t1 t2)) := by
  have hunm : ∀ p ∈ allPaths t1 t2, ∀ n ∈ p, ¬ endsWithMark n := fun p hp n hn =>
    ((allPaths_good c t1 t2 h p hp).2 n hn).2.2
  have hgood : ∀ m ∈ (keptC attrList t1 t2 onlyDiff).map (markPM t1 t2),
      (∃ rest, m = t1.name :: rest) ∧ ∀ n ∈ m, n ≠ [] ∧ c ∉ n := by
    intro m hm
    obtain ⟨p, hp, rfl⟩ := List.mem_map.mp hm
    have hpa := keptC_sub attrList t1 t2 onlyDiff p hp
    have gp := allPaths_good c t1 t2 h p hpa
    exact ⟨markPM_head c t1 t2 h p hpa,
      markFull_good c _ p h.sepOK (fun n hn => ⟨(gp.2 n hn).1, (gp.2 n hn).2.1⟩)⟩
  rw [show ((keptC attrList t1 t2 onlyDiff).map (mrow c attrList t1 t2)).map (·.path) =
    ((keptC attrList t1 t2 onlyDiff).map (markPM t1 t2)).map (pathName [c]) from by
      rw [List.map_map, List.map_map]; rfl]
  obtain ⟨m0, ms, hK⟩ := List.exists_cons_of_ne_nil (mt List.map_eq_nil_iff.mp hne)
  rw [hK] at hgood ⊢
  obtain ⟨T', h', hb', hk'⟩ := rebuild_spec c t1.name m0 ms hgood
  refine ⟨T', h', hb', (List.perm_ext_iff_of_nodup (keys_nodup T' hb'.sibU) ?_).mpr fun q => ?_⟩
  · exact nodup_map_on _ _ (fun x hx y hy => markFull_inj _ x y
      (hunm x ((mem_keptPaths_iff ..).mp hx).1) (hunm y ((mem_keptPaths_iff ..).mp hy).1))
      (keptPaths_nodup c attrList t1 t2 h onlyDiff)
  · rw [hk', ← hK]
    simp only [List.mem_map]
    constructor
    · rintro ⟨hqne, m, ⟨p, hp, rfl⟩, hpre⟩
      obtain ⟨p', hp', rfl⟩ := (prefix_markFull_iff _ p q).mp hpre
      exact ⟨p', (mem_keptPaths_iff attrList t1 t2 onlyDiff p').mpr
        ⟨allPaths_prefix_closed t1 t2 p p' (keptC_sub attrList t1 t2 onlyDiff p hp) hp'
          (mt (markFull_eq_nil _ p').mpr hqne), p, hp, hp'⟩, rfl⟩
    · rintro ⟨p', hp', rfl⟩
      obtain ⟨hpa, p, hp, hpre⟩ := (mem_keptPaths_iff attrList t1 t2 onlyDiff p').mp hp'
      exact ⟨mt (markFull_eq_nil _ p').mp (allPaths_good c t1 t2 h p' hpa).1,
        markPM t1 t2 p, ⟨p, hp, rfl⟩, (prefix_markFull_iff _ p _).mpr ⟨p', hpre, rfl⟩⟩

end Helper
