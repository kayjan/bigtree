import BigtreeProofs.Lemmas.ExportPaths
/-! Helper lemmas for C06: distinct paths, the dict and nested round trips. Core Lean only. -/

namespace Export

/-- distinct nodes have distinct `path_name`s: their name lists differ (`entries_nodup`), and
joining good name lists is injective -/
theorem paths_nodup (sep : Char) (t : Tree) (anc : List Str) (h1 : AllNodes NodeOK t)
    (h2 : AllNodes (SepFree sep) t) (hanc : CompsOK sep anc) :
    ((preCtx anc t).map fun x => pathName sep x.1 x.2.name).Nodup := by
  have hn : ((preCtx anc t).map fun x => x.1 ++ [x.2.name]).Nodup := by
    have h := congrArg (List.map Prod.fst) (preCtx_entries describe t anc)
    rw [List.map_map, List.map_map] at h
    have : (((entries describe t).map Prod.fst).map fun p => anc ++ p).Nodup :=
      List.Pairwise.map _ (fun _ _ hab h => hab (List.append_cancel_left h)) (entries_nodup sep describe t h1 h2)
    rw [List.map_map] at this
    exact (congrArg List.Nodup h).mpr this
  have hp : (((preCtx anc t).map fun x => x.1 ++ [x.2.name]).map fun p => sep :: joinC sep p).Nodup := by
    refine List.pairwise_map.mpr (List.Pairwise.imp_of_mem ?_ hn)
    intro p q hp hq hpq heq
    obtain ⟨x, hx, rfl⟩ := List.mem_map.mp hp
    obtain ⟨y, hy, rfl⟩ := List.mem_map.mp hq
    have hx' := preCtx_comps sep t anc h1 h2 hanc x hx
    have hy' := preCtx_comps sep t anc h1 h2 hanc y hy
    exact hpq (joinC_inj sep _ _ (List.concat_ne_nil _ _) (List.concat_ne_nil _ _) (fun s hs => (hx' s hs).2)
      (fun s hs => (hy' s hs).2) (List.cons.inj heq).2)
  rwa [List.map_map] at hp

theorem treeToDict_eq (o : Opts) (sep : Char) (t : Tree) (anc : List Str) (h1 : AllNodes NodeOK t)
    (h2 : AllNodes (SepFree sep) t) (hanc : CompsOK sep anc) :
    treeToDict o sep anc t = dictSpec o sep (preCtx anc t) := by
  have hsub : ((dictSpec o sep (preCtx anc t)).map Prod.fst).Sublist
      ((preCtx anc t).map fun x => pathName sep x.1 x.2.name) := by
    rw [dictSpec, List.map_map]
    exact List.filter_sublist.map _
  rw [treeToDict, appendDict_eq]
  exact (foldl_dset_fresh _ [] (hsub.nodup (paths_nodup sep t anc h1 h2 hanc)) (fun _ _ h => nomatch h)).trans
    (List.nil_append _)

theorem filterDictAttrs_full (v : Val) (a : Attrs) :
    filterDictAttrs ((strName, v) :: describe a) = describe a := by
  rw [filterDictAttrs, List.filter_cons, if_neg (by simp)]
  apply List.filter_eq_self.mpr
  intro kv hkv
  rw [bne_iff_ne]
  exact fun e => describe_no_name a (e ▸ List.mem_map_of_mem (f := Prod.fst) hkv)

theorem record_full_dict (sep : Char) (anc : List Str) (t : Tree) (h : NodeOK t) :
    record (fullOpts []) sep anc t = (strName, .str t.name) :: describe t.attrs := by
  unfold record
  simp only [fullOpts, ne_eq, not_true_eq_false, if_false, strName_ne_nil, not_false_eq_true, if_true]
  exact addAttrs_full_name [] t.attrs _ h.2.1

/-- `dict_to_tree` on a dictionary whose keys all begin with `sep`, the first being `sep + n`: of the
four keys tried for the root attributes only `sep + n` is present, and the rest is the insertion loop -/
theorem dictToTree_of_head (sep : Char) (n : Str) (r0 : Rec) (d : List (Str × Rec)) (hn : n ≠ []) (hsep : sep ∉ n)
    (hr0 : r0 ≠ []) (h0 : d.head? = some (sep :: n, r0)) (hd : ∀ k ∈ d.map Prod.fst, k.head? = some sep) :
    dictToTree sep d
      = foldInsert sep (.node 0 n (filterDictAttrs r0) []) (d.map fun pr => (pr.1, filterDictAttrs pr.2)) := by
  have hroot : (splitC sep (stripC sep (sep :: n))).headD [] = n :=
    congrArg (·.headD []) ((decodes_lead sep [sep] (fun _ h => h) [n] (List.cons_ne_nil _ _)
      fun x hx => List.mem_singleton.mp hx ▸ ⟨hn, hsep⟩).2 : splitC sep (stripC sep (sep :: n)) = [n])
  have hget : dget d n = none := by
    apply dget_of_not_mem
    intro hmem
    cases n with
    | nil => exact hn rfl
    | cons c n' => exact hsep (Option.some.inj (hd _ hmem) ▸ List.mem_cons_self)
  cases d with
  | nil => cases h0
  | cons e rest =>
    cases Option.some.inj h0
    rw [dictToTree]
    simp only [hroot, hget, dget_cons_self, Option.getD_none, Option.getD_some, firstNonEmpty, ne_eq,
      not_true_eq_false, if_false, hr0, not_false_eq_true, if_true, hn]

theorem dictToTree_full (sep : Char) (i : Nat) (n : Str) (a : Attrs) (cs : List Tree)
    (h1 : AllNodes NodeOK (.node i n a cs)) (h2 : AllNodes (SepFree sep) (.node i n a cs)) :
    dictToTree sep (dictSpec (fullOpts []) sep (preCtx [] (.node i n a cs))) = some (canon (.node i n a cs)) := by
  have hd : dictSpec (fullOpts []) sep (preCtx [] (.node i n a cs))
      = (preCtx [] (.node i n a cs)).map fun x =>
          (pathName sep x.1 x.2.name, (strName, Val.str x.2.name) :: describe x.2.attrs) := by
    rw [dictSpec, List.filter_eq_self.mpr (fun x _ => selected_full [] x)]
    exact List.map_congr_left fun x hx => by rw [record_full_dict sep x.1 x.2 (allNodes_preCtx NodeOK _ [] h1 x hx)]
  have hn : n ≠ [] ∧ sep ∉ n := ⟨h1.1.1, h2.1⟩
  rw [hd, dictToTree_of_head sep n ((strName, .str n) :: describe a) _ hn.1 hn.2 (List.cons_ne_nil _ _) (by rw [preCtx]; rfl),
    List.map_map]
  · simp only [Function.comp_def, filterDictAttrs_full]
    exact foldInsert_preCtx sep _ (decodes_lead sep [sep] fun _ h => h) describe describe_keys_nodup i n a cs h1 h2
  · intro k hk
    rw [List.map_map] at hk
    obtain ⟨x, _, rfl⟩ := List.mem_map.mp hk
    rfl

theorem nestedFields_full (pc : Str) (t : Tree) (h : NodeOK t) :
    nestedFields (fullOpts pc) t = (strName, .str t.name) :: describe t.attrs :=
  addAttrs_full_name pc t.attrs _ h.2.1

/-- what `_recursive_add_child` accepts: a non-empty string under `nameKey`, children that are accepted
and have pairwise different names -/
theorem nestedToTree_mk (nameKey : Str) (fields : Rec) (kids : List Nested) (n : Str) (cs : List Tree)
    (hget : dget fields nameKey = some (.str n)) (hn : n ≠ []) (hkids : nestedToTreeL nameKey kids = some cs)
    (hdup : dupNames cs = false) :
    nestedToTree nameKey (.mk fields kids) = some (.node 0 n (fields.filter fun kv => kv.1 != nameKey) cs) := by
  rw [nestedToTree, hget]
  simp only [hn, hkids, hdup, if_false, Bool.false_eq_true]

mutual
theorem nestedToTree_mirror (pc : Str) : ∀ (t : Tree), AllNodes NodeOK t →
    nestedToTree strName (mirror (fullOpts pc) t) = some (canon t)
  | .node i n a cs => by
    intro h
    obtain ⟨hok, hcs⟩ := (allNodes_node ..).mp h
    rw [mirror, nestedFields_full pc _ hok]
    exact (nestedToTree_mk strName _ _ n _ (dget_cons_self ..) hok.1 (nestedToTreeL_mirror pc cs hcs)
      (dupNames_false _ (by rw [canonL_names]; exact hok.2.2))).trans
      (congrArg (fun f => some (Tree.node 0 n f _)) (filterDictAttrs_full _ a))
theorem nestedToTreeL_mirror (pc : Str) : ∀ (ts : List Tree), AllNodesL NodeOK ts →
    nestedToTreeL strName (mirrorL (fullOpts pc) ts) = some (canonWithL describe ts)
  | [] => fun _ => rfl
  | t :: ts => by
    intro h
    rw [allNodesL_cons] at h
    rw [mirrorL, nestedToTreeL, nestedToTree_mirror pc t h.1, nestedToTreeL_mirror pc ts h.2, canonWithL, canon]
end

end Export
