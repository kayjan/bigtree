import BigtreeProofs.Lemmas.CopyStoreBasic
import BigtreeProofs.Lemmas.CopyStoreFrame
/-!
# What the non-vacuity examples of `Properties/C07.lean` need: a concrete store, and Boolean forms
of `Closed` and of statements about an `Except` result, for the kernel to evaluate
-/

namespace CopyStore

/-- `Closed` as a Boolean -/
def closedB (s : Store) : Bool :=
  s.cells.all fun c =>
    (match c.parent with
      | none => true
      | some p => decide (p < s.n)) && c.children.all fun ch => decide (ch < s.n)

theorem closed_of_closedB (s : Store) (h : closedB s = true) : Closed s := by
  intro i c hc
  have := List.all_eq_true.1 h c (List.mem_of_getElem? hc)
  simp only [Bool.and_eq_true, List.all_eq_true, decide_eq_true_eq] at this
  refine ⟨fun p hp => ?_, this.2⟩
  have h1 := this.1
  rw [hp] at h1
  simpa using h1

/-- root "r" (id 0) with children "a" (1) and "b" (2); "c" (3) is a child of "a" -/
def s4 : Store := ⟨[
  ⟨none, [1, 2], ['r'], []⟩,
  ⟨some 0, [3], ['a'], [(['x'], .int 1)]⟩,
  ⟨some 0, [], ['b'], []⟩,
  ⟨some 1, [], ['c'], []⟩]⟩

theorem s4_closed : Closed s4 := closed_of_closedB s4 (by decide +kernel)

theorem s4_n : s4.n = 4 := rfl

/-! `Except` has no decidable equality; these turn a test vector about a result of the
compositions into a Boolean that the kernel evaluates. -/

theorem exists_ok {ε α : Type} {x : Except ε α} {P : α → Prop} [DecidablePred P]
    (h : (match x with | .ok r => decide (P r) | .error _ => false) = true) :
    ∃ r, x = .ok r ∧ P r := by
  cases x with
  | error e => cases h
  | ok r => exact ⟨r, rfl, of_decide_eq_true h⟩

theorem eq_error {ε α : Type} [DecidableEq ε] {x : Except ε α} {e : ε}
    (h : (match x with | .ok _ => false | .error e' => decide (e' = e)) = true) :
    x = .error e := by
  cases x with
  | error e' => exact congrArg _ (of_decide_eq_true h)
  | ok r => cases h

end CopyStore
