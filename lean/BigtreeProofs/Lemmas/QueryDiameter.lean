import BigtreeModel.Query
import BigtreeProofs.Lemmas.QueryProps
/-! Helper lemmas for C12 (Tier 2): diameter = the largest number of edges between two nodes of
the subtree. -/

namespace Query

/-! ### the two largest entries -/

theorem mem_insertDesc (x y : Nat) (s : List Nat) : y ∈ insertDesc x s ↔ y = x ∨ y ∈ s := by
  induction s with
  | nil => simp [insertDesc]
  | cons z zs ih =>
    rw [insertDesc]
    split
    · exact List.mem_cons
    · rw [List.mem_cons, ih, List.mem_cons, or_left_comm]

theorem insertDesc_sorted (x : Nat) (s : List Nat) (hs : s.Pairwise (· ≥ ·)) :
    (insertDesc x s).Pairwise (· ≥ ·) := by
  induction s with
  | nil => simp [insertDesc]
  | cons z zs ih =>
    rw [insertDesc]
    have hz := List.pairwise_cons.1 hs
    split
    · next hxz =>
      refine List.pairwise_cons.2 ⟨fun y hy => ?_, hs⟩
      rcases List.mem_cons.1 hy with rfl | hy
      · exact hxz
      · exact Nat.le_trans (hz.1 y hy) hxz
    · next hxz =>
      refine List.pairwise_cons.2 ⟨fun y hy => ?_, ih hz.2⟩
      rcases (mem_insertDesc x y zs).1 hy with rfl | hy
      · exact Nat.le_of_lt (Nat.not_le.1 hxz)
      · exact hz.1 y hy

theorem sortDesc_sorted (l : List Nat) : (sortDesc l).Pairwise (· ≥ ·) := by
  induction l with
  | nil => exact List.Pairwise.nil
  | cons x xs ih => exact insertDesc_sorted x _ ih

theorem head_insertDesc (x : Nat) (s : List Nat) :
    (insertDesc x s).head?.getD 0 = max x (s.head?.getD 0) := by
  cases s with
  | nil => exact (Nat.max_zero x).symm
  | cons z zs =>
    rw [insertDesc]
    split
    · next h => exact (Nat.max_eq_left h).symm
    · next h => exact (Nat.max_eq_right (Nat.le_of_lt (Nat.not_le.1 h))).symm

theorem head_sortDesc (l : List Nat) : (sortDesc l).head?.getD 0 = lmax l := by
  induction l with
  | nil => rfl
  | cons x xs ih => rw [sortDesc, head_insertDesc, ih, lmax]

theorem sum_take_two (y : Nat) (t : List Nat) : ((y :: t).take 2).sum = y + t.head?.getD 0 := by
  cases t <;> simp

/-- inserting `x` into a descending list: either `x` joins the head, or the head stays and `x`
    competes with the second entry -/
theorem take2_insertDesc (x : Nat) (s : List Nat) (hs : s.Pairwise (· ≥ ·)) :
    ((insertDesc x s).take 2).sum = max ((s.take 2).sum) (x + s.head?.getD 0) := by
  cases s with
  | nil => simp [insertDesc]
  | cons y t =>
    have hty : t.head?.getD 0 ≤ y := by
      cases t with
      | nil => exact Nat.zero_le y
      | cons z r => exact (List.pairwise_cons.1 hs).1 z List.mem_cons_self
    rw [insertDesc, sum_take_two, List.head?_cons, Option.getD_some]
    split
    · next h =>
      rw [sum_take_two, List.head?_cons, Option.getD_some, Nat.add_comm x y]
      exact (Nat.max_eq_right (Nat.add_le_add_left (Nat.le_trans hty h) y)).symm
    · rw [sum_take_two, head_insertDesc, ← Nat.add_max_add_left, Nat.max_comm, Nat.add_comm y x]

theorem top2Sum_cons (x : Nat) (l : List Nat) : top2Sum (x :: l) = max (top2Sum l) (x + lmax l) := by
  unfold top2Sum nlargest
  rw [sortDesc, take2_insertDesc x _ (sortDesc_sorted l), head_sortDesc]

theorem top2Sum_nil : top2Sum [] = 0 := rfl

theorem top2Sum_mono (x : Nat) (l : List Nat) : top2Sum l ≤ top2Sum (x :: l) := by
  rw [top2Sum_cons]; exact Nat.le_max_left _ _

theorem lmax_le_top2Sum (l : List Nat) : lmax l ≤ top2Sum l := by
  induction l with
  | nil => exact Nat.le_refl 0
  | cons x xs ih =>
    rw [top2Sum_cons, lmax]
    exact Nat.max_le.2 ⟨Nat.le_trans (Nat.le_add_right x _) (Nat.le_max_right _ _),
      Nat.le_trans ih (Nat.le_max_left _ _)⟩

theorem add_le_top2Sum {l : List Nat} {i j x y : Nat} (hij : i ≠ j) (hi : l[i]? = some x) (hj : l[j]? = some y) :
    x + y ≤ top2Sum l := by
  induction l generalizing i j with
  | nil => cases hi
  | cons z l ih =>
    rw [top2Sum_cons]
    have head : ∀ {k w : Nat}, l[k]? = some w → z + w ≤ max (top2Sum l) (z + lmax l) := fun hk =>
      Nat.le_trans (Nat.add_le_add_left (le_lmax (List.mem_of_getElem? hk)) z) (Nat.le_max_right _ _)
    cases i with
    | zero =>
      cases hi
      cases j with
      | zero => exact absurd rfl hij
      | succ j => exact head hj
    | succ i =>
      cases j with
      | zero => cases hj; rw [Nat.add_comm]; exact head hi
      | succ j => exact Nat.le_trans (ih (fun e => hij (congrArg (· + 1) e)) hi hj) (Nat.le_max_left _ _)

/-! ### distances -/

theorem dist_nil_left (v : Addr) : dist [] v = v.length := by
  rw [dist, List.length_nil, Nat.zero_add]; exact Nat.sub_zero _

theorem dist_nil_right (u : Addr) : dist u [] = u.length := by
  cases u <;> exact Nat.sub_zero _

theorem dist_cons_same (k : Nat) (x y : Addr) : dist (k :: x) (k :: y) = dist x y := by
  rw [dist, lcpLen, if_pos rfl, List.length_cons, List.length_cons, Nat.add_add_add_comm, Nat.mul_succ,
    Nat.add_sub_add_right, dist]

theorem dist_cons_ne {j k : Nat} (h : j ≠ k) (x y : Addr) :
    dist (j :: x) (k :: y) = (x.length + 1) + (y.length + 1) := by
  rw [dist, lcpLen, if_neg h]; rfl

theorem dist_append_left (a x y : Addr) : dist (a ++ x) (a ++ y) = dist x y := by
  induction a with
  | nil => rfl
  | cons k ks ih => rw [List.cons_append, List.cons_append, dist_cons_same, ih]

/-! ### upper bound: no two nodes are further apart than `diamSpec` -/

theorem diamSpecL_eq_lmax (cs : List Tree) : diamSpecL cs = lmax (cs.map diamSpec) := by
  induction cs with
  | nil => rfl
  | cons c cs ih => rw [diamSpecL, List.map_cons, lmax, ih]

theorem length_le_diamSpec {t : Tree} {v : Addr} (h : (sub t v).isSome) : v.length ≤ diamSpec t := by
  cases t with
  | node i n a cs =>
    have h1 := length_lt_height_of_sub v _ h
    rw [Iter.height, ← lmax_heights, Nat.add_comm] at h1
    rw [diamSpec]
    exact Nat.le_trans (Nat.le_of_add_le_add_left h1)
      (Nat.le_trans (lmax_le_top2Sum _) (Nat.le_max_left _ _))

/-- below the same child the child's bound applies; below two different children the two heights
    are two different entries of the list of heights -/
theorem dist_le_diamSpec (u v : Addr) (t : Tree) (hu : (sub t u).isSome) (hv : (sub t v).isSome) :
    dist u v ≤ diamSpec t := by
  induction u generalizing v t with
  | nil => rw [dist_nil_left]; exact length_le_diamSpec hv
  | cons j x ih =>
    cases v with
    | nil => rw [dist_nil_right]; exact length_le_diamSpec hu
    | cons k y =>
      obtain ⟨c, hc, hx⟩ := sub_cons_isSome hu
      obtain ⟨d, hd, hy⟩ := sub_cons_isSome hv
      cases t with
      | node _ _ _ cs =>
        rw [Tree.children_node] at hc hd
        rw [diamSpec]
        by_cases hjk : j = k
        · subst hjk
          cases hc.symm.trans hd
          rw [dist_cons_same, diamSpecL_eq_lmax]
          exact Nat.le_trans (ih y c hx hy)
            (Nat.le_trans (le_lmax (List.mem_map_of_mem (List.mem_of_getElem? hc))) (Nat.le_max_right _ _))
        · rw [dist_cons_ne hjk]
          have hh : ∀ {i : Nat} {e : Tree}, cs[i]? = some e → (heights cs)[i]? = some (Iter.height e) :=
            fun h => by rw [heights, List.getElem?_map, h]; rfl
          exact Nat.le_trans
            (Nat.add_le_add (length_lt_height_of_sub x c hx) (length_lt_height_of_sub y d hy))
            (Nat.le_trans (add_le_top2Sum hjk (hh hc) (hh hd)) (Nat.le_max_left _ _))

/-! ### the bound is attained -/

theorem mem_cons_locsL_lift {k : Nat} {c : Tree} {cs : List Tree} {u : Addr}
    (h : u ∈ ([] :: locsL (k + 1) cs)) : u ∈ ([] :: locsL k (c :: cs)) := by
  rcases List.mem_cons.1 h with rfl | h
  · exact List.mem_cons_self
  · rw [locsL_cons]; exact List.mem_cons_of_mem _ (List.mem_append_right _ h)

theorem exists_pair_top2 (cs : List Tree) : ∀ k,
    ∃ u ∈ ([] :: locsL k cs), ∃ v ∈ ([] :: locsL k cs), dist u v = top2Sum (heights cs) := by
  induction cs with
  | nil => intro k; exact ⟨[], List.mem_cons_self, [], List.mem_cons_self, rfl⟩
  | cons c cs ih =>
    intro k
    rw [heights, List.map_cons, top2Sum_cons, ← heights, lmax_heights]
    rcases Nat.le_total (top2Sum (heights cs)) (Iter.height c + Iter.height.heightL cs) with hle | hle
    · -- a deepest node below the first child and a deepest node below the others (the root if none)
      rw [Nat.max_eq_right hle]
      obtain ⟨x, hx, hxl⟩ := exists_loc_height c
      have hu : k :: x ∈ ([] :: locsL k (c :: cs)) :=
        List.mem_cons_of_mem _ (mem_locsL.2 ⟨0, c, x, rfl, hx, rfl⟩)
      by_cases hcs : cs = []
      · subst hcs
        exact ⟨k :: x, hu, [], List.mem_cons_self, by rw [dist_nil_right, List.length_cons, hxl]; rfl⟩
      · obtain ⟨v, hv, hvl⟩ := exists_locL_height hcs (fun t _ => exists_loc_height t) (k + 1)
        obtain ⟨i, _, y, _, _, rfl⟩ := mem_locsL.1 hv
        refine ⟨k :: x, hu, _, mem_cons_locsL_lift (List.mem_cons_of_mem _ hv), ?_⟩
        rw [dist_cons_ne (Nat.ne_of_lt (Nat.lt_add_right i (Nat.lt_succ_self k))), hxl, ← List.length_cons, hvl]
    · rw [Nat.max_eq_left hle]
      obtain ⟨u, hu, v, hv, hd⟩ := ih (k + 1)
      exact ⟨u, mem_cons_locsL_lift hu, v, mem_cons_locsL_lift hv, hd⟩

theorem exists_pair_diamSpec : ∀ (t : Tree), ∃ u ∈ locs t, ∃ v ∈ locs t, dist u v = diamSpec t := by
  intro t
  induction t using Tree.ind with
  | h i n a cs ih =>
    rw [locs, diamSpec]
    rcases Nat.le_total (top2Sum (heights cs)) (diamSpecL cs) with hle | hle
    · rw [Nat.max_eq_right hle]
      by_cases hcs : cs = []
      · subst hcs; exact ⟨[], List.mem_cons_self, [], List.mem_cons_self, rfl⟩
      · -- the pair lies below the child with the largest `diamSpec`
        rw [diamSpecL_eq_lmax]
        obtain ⟨c, hc, he⟩ := List.mem_map.1 (lmax_mem (l := cs.map diamSpec) (by simpa using hcs))
        obtain ⟨k, hk⟩ := List.getElem?_of_mem hc
        obtain ⟨x, hx, y, hy, hd⟩ := ih c hc
        exact ⟨(0 + k) :: x, List.mem_cons_of_mem _ (mem_locsL.2 ⟨k, c, x, hk, hx, rfl⟩),
          (0 + k) :: y, List.mem_cons_of_mem _ (mem_locsL.2 ⟨k, c, y, hk, hy, rfl⟩),
          by rw [dist_cons_same, hd, he]⟩
    · rw [Nat.max_eq_left hle]; exact exists_pair_top2 cs 0

theorem diameter_longest (t : Tree) :
    (∀ u ∈ locs t, ∀ v ∈ locs t, dist u v ≤ diameter t) ∧ ∃ u ∈ locs t, ∃ v ∈ locs t, dist u v = diameter t := by
  rw [diameter_eq_diamSpec]
  exact ⟨fun u hu v hv => dist_le_diamSpec u v t ((mem_locs_iff t u).1 hu) ((mem_locs_iff t v).1 hv),
    exists_pair_diamSpec t⟩

end Query
