import BigtreeModel.Plot
import BigtreeProofs.Lemmas.Plot
import BigtreeProofs.Lemmas.PlotContourLevels
import BigtreeProofs.Lemmas.PlotContourWalk
import BigtreeProofs.Lemmas.PlotContourShift
import BigtreeProofs.Lemmas.PlotContourClass
/-!
# The first pass separates all cousins on the class `Sk.exact`

* `Cross sub a b` — every node of the sibling subtree `a` is `sub` left of every node of the sibling
  subtree `b` on the same level (below the two roots);
* `sortedT_node` — children with sorted levels that are pairwise `Cross`, `sib` apart in `x` and carry
  non-decreasing shifts make every level of the parent sorted with gap `m ≤ sib, sub`;
* `InvC` — the invariant of the sibling loop; `shiftSiblings_invC` is the step: the shift found by
  `maxShift` moves the new subtree far enough from every left sibling (`gss_top`), and spreading the
  left siblings proportionally never brings two of them closer;
* `firstPass_sorted` — the result for a whole tree of the class.
-/

namespace Plot

/-! ## cross separation of sibling subtrees -/

/-- below the two sibling roots, `a` is `sub` left of `b` on every level -/
def Cross (sub : Rat) (a b : PT) : Prop :=
  ∀ n, ∀ p ∈ plv 0 a (n + 1), ∀ q ∈ plv 0 b (n + 1), p + sub ≤ q

theorem rat_move {p q sub need e1 e2 : Rat} (h : p + sub - q ≤ need) (he : need + e1 ≤ e2) :
    p + e1 + sub ≤ q + e2 := by
  rw [Rat.sub_right_le_iff_le_add] at h
  rw [rat_add_right_comm p e1 sub, Rat.add_comm q e2]
  refine Rat.le_trans (Rat.add_le_add_right.mpr h) ?_
  rw [rat_add_right_comm need q e1]
  exact Rat.add_le_add_right.mpr he

/-- if `b` has to move by `need` relative to `a`, moving it by at least that much more is enough -/
theorem cross_addShift_of {sub need e1 e2 : Rat} {a b : PT}
    (h : ∀ n p q, p ∈ plv 0 a (n + 1) → q ∈ plv 0 b (n + 1) → p + sub - q ≤ need)
    (he : need + e1 ≤ e2) : Cross sub (a.addShift e1) (b.addShift e2) := by
  intro n p hp q hq
  rw [plv_addShift] at hp hq
  obtain ⟨p0, hp0, rfl⟩ := List.mem_map.mp hp
  obtain ⟨q0, hq0, rfl⟩ := List.mem_map.mp hq
  exact rat_move (h n p0 q0 hp0 hq0) he

theorem cross_addShift {sub e1 e2 : Rat} {a b : PT} (h : Cross sub a b) (he : e1 ≤ e2) :
    Cross sub (a.addShift e1) (b.addShift e2) := by
  refine cross_addShift_of (need := 0) (fun n p q hp hq => ?_) (by rwa [Rat.zero_add])
  rw [Rat.sub_right_le_iff_le_add, Rat.zero_add]
  exact h n p hp q hq

theorem sortedT_node {sib sub m : Rat} (hm : 0 ≤ m) (h1 : m ≤ sib) (h2 : m ≤ sub) {cs : List PT}
    (hx : XChain sib cs) (hmono : (cs.map PT.shift).Pairwise (· ≤ ·)) (hs : ∀ k ∈ cs, SortedT m k)
    (hc : cs.Pairwise (Cross sub)) (x md s : Rat) : SortedT m (.node x md s cs) := by
  intro c n
  match n with
  | 0 => rw [plv]; exact List.pairwise_singleton _ _
  | 1 =>
    rw [plv, flv_zero]
    exact chain_pairwise (R := fun u v => u + m ≤ v)
      (fun _ _ _ hab hbc => Rat.le_trans hab (rat_le_of_add_le hm hbc)) _
      (chain_sep h1 (fun _ => rfl) cs hx hmono)
  | n + 2 =>
    rw [plv]
    refine flv_sorted cs (fun k hk => hs k hk _ _) (hc.imp fun {a b} hab p hp q hq => ?_)
    rw [← Rat.zero_add (c + md + s), plv_add] at hp hq
    obtain ⟨p0, hp0, rfl⟩ := List.mem_map.mp hp
    obtain ⟨q0, hq0, rfl⟩ := List.mem_map.mp hq
    rw [rat_add_right_comm]
    exact Rat.add_le_add_right.mpr (Rat.le_trans (Rat.add_le_add_left.mpr h2) (hab n p0 hp0 q0 hq0))

/-! ## the shift loop -/

theorem bumpPT_cross {sub s : Rat} (hs : 0 ≤ s) (j m : Nat) (l : List PT) (h : l.Pairwise (Cross sub)) :
    (bumpPT s j m l).Pairwise (Cross sub) := by
  induction l generalizing m with
  | nil => exact List.Pairwise.nil
  | cons a l ih =>
    rw [List.pairwise_cons] at h
    rw [bumpPT, List.pairwise_cons]
    refine ⟨fun b' hb' => ?_, ih (m + 1) h.2⟩
    obtain ⟨i, hi, rfl⟩ := bumpPT_mem_idx hb'
    exact cross_addShift (h.1 _ (List.getElem_mem hi))
      (rat_scale_mono hs (Nat.le_trans (Nat.le_succ m) (Nat.le_add_right _ i)) j)

/-- invariant of the sibling loop for the cousin clause -/
structure InvC (m sub : Rat) (done : List PT) : Prop where
  each : ∀ k ∈ done, SortedT m k
  cross : done.Pairwise (Cross sub)

/-- the left sibling `i` moves by `s·i/j`, the new node `j` by `s`: their distance grows by
    `s·(1 - i/j)`, which covers `r·(1 - i/j)` for every `r ≤ s` -/
theorem rat_shift_enough {r s : Rat} {i j : Nat} (hij : i < j) (h : r ≤ s) :
    r * (1 - (i : Rat) / (j : Rat)) + s * (i : Rat) / (j : Rat) ≤ s * (j : Rat) / (j : Rat) := by
  have e : s * (1 - (i : Rat) / (j : Rat)) + s * (i : Rat) / (j : Rat) = s := by
    rw [Rat.div_def, Rat.div_def]; grind
  have h3 := Rat.mul_le_mul_of_nonneg_right h (Rat.le_of_lt (rat_factor_pos hij))
  have hj : (j : Rat) ≠ 0 := (Rat.ne_of_lt (Rat.natCast_pos.mpr (Nat.zero_lt_of_lt hij))).symm
  rw [Rat.mul_div_cancel hj]
  have := Rat.add_le_add_right (c := s * (i : Rat) / (j : Rat)) |>.mpr h3
  rwa [e] at this

theorem shiftSiblings_invC {m sub : Rat} (hm : 0 ≤ m) {done : List PT} {node : PT} {tl : List Rat}
    (hinv : InvC m sub done) (hnode : SortedT m node)
    (hpair : ∀ (i : Nat) (h : i < done.length), PairCond i (done[i]).sk node.sk) :
    InvC m sub (shiftSiblings sub done node tl).1 := by
  rw [shiftSiblings_eq]
  have hs := maxShift_acc_le sub node done.length done 0 0
  refine ⟨bumpPT_forall (fun _ _ => sortedT_addShift) _ _ _ _
    (List.forall_mem_append.mpr ⟨hinv.each, List.forall_mem_singleton.mpr hnode⟩), ?_⟩
  rw [bumpPT_append, List.pairwise_append]
  refine ⟨bumpPT_cross hs _ 0 done hinv.cross, List.pairwise_singleton _ _, fun a' ha' b' hb' => ?_⟩
  obtain ⟨i, hi, rfl⟩ := bumpPT_mem_idx ha'
  rw [bumpPT, bumpPT, List.mem_singleton] at hb'
  subst hb'
  have hmx := maxShift_ge sub node done.length done 0 0 i hi
  simp only [Nat.zero_add] at hmx ⊢
  exact cross_addShift_of (gss_top sub i done.length hi done[i] node hm
    (hinv.each _ (List.getElem_mem hi)) hnode (hpair i hi)) (rat_shift_enough hi hmx)

/-! ## the whole tree -/

theorem Sk.pairCond_of_groupOK {D T : List Sk} {t : Sk} (h : Sk.groupOK (D ++ t :: T) = true) (i : Nat)
    (hi : i < D.length) : PairCond i D[i] t := by
  cases D with
  | nil => exact absurd hi (Nat.not_lt_zero i)
  | cons c0 D =>
    rw [List.cons_append, Sk.groupOK_cons, List.pairwise_append] at h
    cases i with
    | zero => exact Or.inl ⟨rfl, h.1 t (List.mem_append_right _ List.mem_cons_self)⟩
    | succ i => exact Or.inr (h.2.2.2 _ (List.getElem_mem _) t List.mem_cons_self)

/-- what the induction over the tree provides for one member of the sibling group: its annotated
    children make a sorted subtree under any root -/
def NodeC (P : Params) (m : Rat) (t : ST) : Prop :=
  ∀ x md s, SortedT m (.node x md s (fpKids P t))

theorem fpGroup_invC (P : Params) {m : Rat} (hm : 0 ≤ m) (ts : List ST) (hts : ∀ t ∈ ts, NodeC P m t)
    (done : List PT) (pend : List Rat) (hinv : InvC m P.sub done)
    (hG : Sk.groupOK (done.map PT.sk ++ ts.map ST.sk) = true) :
    InvC m P.sub (fpGroup P ts done pend) := by
  induction ts generalizing done pend with
  | nil => rw [fpGroup]; exact hinv
  | cons t ts ih =>
    rw [List.forall_mem_cons] at hts
    rw [fpGroup]
    rw [List.map_cons] at hG
    have hnode : SortedT m (place P.sib done (pend.headD 0) (fpKids P t)) := by
      obtain ⟨x, md, he, -⟩ := place_eq P.sib done (pend.headD 0) (fpKids P t)
      rw [he]
      exact hts.1 _ _ _
    refine ih hts.2 _ _ (shiftSiblings_invC hm hinv hnode fun i hi => ?_) ?_
    · have := Sk.pairCond_of_groupOK hG i (by rwa [List.length_map])
      rwa [List.getElem_map, ← place_fpKids_sk P done (pend.headD 0) t] at this
    · rwa [shiftSiblings_sk, place_fpKids_sk, List.append_assoc]

theorem kids_sortedT (P : Params) {m : Rat} (hm : 0 ≤ m) (h1 : m ≤ P.sib) (h2 : m ≤ P.sub) {t : ST}
    (hmono : t.Mono) (hinv : InvC m P.sub (fpKids P t)) : NodeC P m t :=
  sortedT_node hm h1 h2 (fpKids_ok P t).1 (fpKids_q bumpClosed_mono P t hmono).1 hinv.each hinv.cross

theorem fpKids_invC (P : Params) {m : Rat} (hm : 0 ≤ m) (h1 : m ≤ P.sib) (h2 : m ≤ P.sub) :
    ∀ t : ST, t.sk.exact = true → t.Mono → InvC m P.sub (fpKids P t) := by
  apply ST.ind
  intro s cs ih hex hmono
  rw [ST.sk_eq, Sk.exact_node, ST.children_node] at hex
  rw [ST.Mono, ST.allGroups_node] at hmono
  rw [fpKids]
  refine fpGroup_invC P hm cs (fun t ht => ?_) [] _ ⟨fun _ h => (nomatch h), List.Pairwise.nil⟩ hex.1
  exact kids_sortedT P hm h1 h2 (hmono.2 t ht)
    (ih t ht (hex.2 _ (List.mem_map_of_mem ht)) (hmono.2 t ht))

theorem firstPass_sorted (P : Params) {m : Rat} (hm : 0 ≤ m) (h1 : m ≤ P.sib) (h2 : m ≤ P.sub)
    (t : ST) (hex : t.sk.exact = true) (hmono : t.Mono) : SortedT m (firstPass P t) :=
  kids_sortedT P hm h1 h2 hmono (fpKids_invC P hm h1 h2 t hex hmono) _ _ _

/-- the cousin clause for the three passes on a tree of the class whose entry shifts are monotone -/
theorem passes_level_sorted (P : Params) {m : Rat} (hm : 0 ≤ m) (h1 : m ≤ P.sib) (h2 : m ≤ P.sub)
    (t : ST) (hex : t.sk.exact = true) (hmono : t.Mono) (d : Nat) :
    ((passes P t).level d).Pairwise (fun a b => a.x + m ≤ b.x) := by
  rw [← List.pairwise_map (f := FT.x) (R := fun a b => a + m ≤ b), FT.level, List.map_map]
  cases d with
  | zero => rw [filter_withDepth_of_lt _ Nat.zero_lt_one]; exact List.Pairwise.nil
  | succ d =>
    rw [passes_eq, Nat.add_comm d 1]
    -- level `d + 1` of the drawing is level `d` of the annotated tree moved by a constant
    exact fin_level_x P _ _ _ 1 0 1 d ▸ sorted_map_add (firstPass_sorted P hm h1 h2 t hex hmono 0 d)

end Plot
