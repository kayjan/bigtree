import BigtreeModel.Paths
import BigtreeProofs.Lemmas.PathsAddr
import BigtreeProofs.Lemmas.PathsSet
/-!
# The loop of `add_path_to_tree` with `duplicate_name_allowed=True` (C05)

One invariant for the loop (`insertLoop_dup`): sibling-uniqueness, the returned address, the set of
paths, the frame for old nodes, the attributes of new nodes, and the children-order invariant used
for "children ordered by first appearance". The theorems about one call follow from it and the
frame of `set_attrs`.
-/

namespace Paths
open Str

/-! ## `find_child_by_name` -/

theorem mem_childIdxs (c : Str) {j : Nat} : ∀ (cs : List Tree) (k : Nat),
    j ∈ childIdxs c k cs ↔ ∃ i d, cs[i]? = some d ∧ d.name = c ∧ j = k + i := by
  intro cs
  induction cs with
  | nil => intro k; simp [childIdxs]
  | cons x xs ih =>
    intro k
    have hcons : j ∈ childIdxs c k (x :: xs) ↔ (x.name = c ∧ j = k) ∨ j ∈ childIdxs c (k + 1) xs := by
      rw [childIdxs]
      split
      · rename_i h; rw [List.mem_cons, and_iff_right h]
      · rename_i h; rw [iff_false_intro (fun e : x.name = c ∧ j = k => h e.1), false_or]
    have hk : ∀ i, k + 1 + i = k + (i + 1) := fun i => (Nat.add_right_comm k 1 i).trans (Nat.add_assoc k i 1)
    rw [hcons, ih]
    constructor
    · rintro (⟨hx, rfl⟩ | ⟨i, d, hd, hn, rfl⟩)
      · exact ⟨0, x, rfl, hx, rfl⟩
      · exact ⟨i + 1, d, hd, hn, hk i⟩
    · rintro ⟨i, d, hd, hn, rfl⟩
      cases i with
      | zero => cases hd; exact .inl ⟨hn, rfl⟩
      | succ i => exact .inr ⟨i, d, hd, hn, (hk i).symm⟩

theorem childIdxs_nil_iff (c : Str) (cs : List Tree) (k : Nat) :
    childIdxs c k cs = [] ↔ c ∉ cs.map Tree.name := by
  simp only [List.eq_nil_iff_forall_not_mem, mem_childIdxs, List.mem_map]
  constructor
  · rintro h ⟨d, hd, hn⟩
    obtain ⟨i, hi, rfl⟩ := List.getElem_of_mem hd
    exact h _ ⟨i, _, List.getElem?_eq_getElem hi, hn, rfl⟩
  · rintro h j ⟨i, d, hd, hn, -⟩
    exact h ⟨d, List.mem_of_getElem? hd, hn⟩

theorem childIdxs_unique (c : Str) : ∀ (cs : List Tree) (k j : Nat) (d : Tree),
    (cs.map Tree.name).Nodup → cs[j]? = some d → d.name = c → childIdxs c k cs = [k + j] := by
  intro cs
  induction cs with
  | nil => intro k j d _ h; cases h
  | cons x xs ih =>
    intro k j d hnd hd hn
    rw [List.map_cons, List.nodup_cons] at hnd
    cases j with
    | zero =>
      cases hd
      rw [childIdxs, if_pos hn, (childIdxs_nil_iff c xs (k + 1)).mpr (hn ▸ hnd.1)]
      rfl
    | succ j =>
      have hx : x.name ≠ c := fun e =>
        hnd.1 (List.mem_map.mpr ⟨d, List.mem_of_getElem? hd, hn.trans e.symm⟩)
      rw [childIdxs, if_neg hx, ih (k + 1) j d hnd.2 hd hn, Nat.add_right_comm, Nat.add_assoc]

/-! ## the lookup and one round of the loop -/

theorem lookup_dup_some {ts : Str} {t p : Tree} {paddr ad : Addr} {pre' : List Str} {c : Str}
    (hp : nodeAt paddr t = some p) (h : lookup ts true t paddr pre' c = .ok (some ad)) :
    ∃ k d, ad = paddr ++ [k] ∧ p.children[k]? = some d ∧ d.name = c := by
  simp only [lookup, if_true, hp] at h
  split at h
  · cases h
  · rename_i k hci
    cases h
    obtain ⟨i, d, hd, hn, rfl⟩ := (mem_childIdxs c p.children 0).mp (hci ▸ List.mem_singleton_self k)
    exact ⟨_, d, rfl, by rw [Nat.zero_add]; exact hd, hn⟩
  · cases h

theorem lookup_dup_none {ts : Str} {t p : Tree} {paddr : Addr} {pre' : List Str} {c : Str}
    (hp : nodeAt paddr t = some p) (h : lookup ts true t paddr pre' c = .ok none) :
    c ∉ p.children.map Tree.name := by
  simp only [lookup, if_true, hp] at h
  split at h
  · rename_i hci; exact (childIdxs_nil_iff c p.children 0).mp hci
  · cases h
  · cases h

section round
variable {ts : Str} {dupOk : Bool} {attrs : Attrs} {c : Str} {rest pre : List Str} {t : Tree} {a : Addr} {fr : Nat}

theorem insertLoop_cons_some {ad : Addr} (h : lookup ts dupOk t a (pre ++ [c]) c = .ok (some ad)) :
    insertLoop ts dupOk attrs (c :: rest) pre t a fr = insertLoop ts dupOk attrs rest (pre ++ [c]) t ad fr := by
  rw [insertLoop, h]

theorem insertLoop_cons_none {p : Tree} (h : lookup ts dupOk t a (pre ++ [c]) c = .ok none)
    (hp : nodeAt a t = some p) (hc : c ≠ []) :
    insertLoop ts dupOk attrs (c :: rest) pre t a fr = insertLoop ts dupOk attrs rest (pre ++ [c])
      (modifyAt (appendChild (.node fr c (if rest.isEmpty then attrs else []) [])) a t)
      (a ++ [p.children.length]) (fr + 1) := by
  rw [insertLoop, h]
  simp only [hc, if_false, hp, Option.map, Option.getD]

end round

/-! ## frame -/

/-- every node of `t` is still there in `t'`: same address, id, name, attributes, path -/
def Frame (t t' : Tree) : Prop :=
  ∀ b n, nodeAt b t = some n → ∃ n', nodeAt b t' = some n' ∧ n'.id = n.id ∧ n'.name = n.name ∧
    n'.attrs = n.attrs ∧ namesAlong b t' = namesAlong b t

theorem Frame.refl (t : Tree) : Frame t t := fun _ n h => ⟨n, h, rfl, rfl, rfl, rfl⟩

theorem Frame.trans {t t' t'' : Tree} (h1 : Frame t t') (h2 : Frame t' t'') : Frame t t'' := by
  intro b n hn
  obtain ⟨n', hn', a1, a2, a3, a4⟩ := h1 b n hn
  obtain ⟨n'', hn'', b1, b2, b3, b4⟩ := h2 b n' hn'
  exact ⟨n'', hn'', b1.trans a1, b2.trans a2, b3.trans a3, b4.trans a4⟩

theorem frame_appendChild (new : Tree) (a : Addr) (t : Tree) :
    Frame t (modifyAt (appendChild new) a t) := by
  intro b n hn
  obtain ⟨n', h1, h2, h3, h4, h5, h6⟩ := nodeAt_modifyAt_grows (grows_appendChild new) a b t n hn
  refine ⟨n', h1, h2, h3, ?_, h4⟩
  by_cases hba : b = a
  · rw [h6 hba, appendChild_attrs]
  · exact (h5 hba).1

/-! ## children order -/

/-- child names of the node at `b` (`none` on an invalid address) -/
def kidNames (b : Addr) (t : Tree) : Option (List Str) := (nodeAt b t).map fun n => n.children.map Tree.name

/-- the paths of the children of `n`, given the path `nm` of `n` -/
def kidPaths (nm : List Str) (n : Tree) : List (List Str) := (n.children.map Tree.name).map fun x => nm ++ [x]

theorem kidPaths_appendChild {new t p : Tree} {a : Addr} (hnew : new.children = []) (hp : nodeAt a t = some p)
    {L : List (List Str)} (hL : ∀ b n, nodeAt b t = some n → (kidPaths (namesAlong b t) n).Sublist L)
    (b : Addr) (n' : Tree) (hn' : nodeAt b (modifyAt (appendChild new) a t) = some n') :
    (kidPaths (namesAlong b (modifyAt (appendChild new) a t)) n').Sublist
      (L ++ [namesAlong a t ++ [new.name]]) := by
  cases hb : nodeAt b t with
  | none =>
    obtain ⟨-, rfl⟩ := nodeAt_appendChild_new hnew hp hb hn'
    rw [kidPaths, hnew]
    exact List.nil_sublist _
  | some n =>
    obtain ⟨n'', h1, -, -, h4, h5, h6⟩ := nodeAt_modifyAt_grows (grows_appendChild new) a b t n hb
    obtain rfl : n'' = n' := Option.some.inj (h1.symm.trans hn')
    rw [h4]
    by_cases hba : b = a
    · subst hba
      obtain rfl : p = n := Option.some.inj (hp.symm.trans hb)
      rw [h6 rfl, kidPaths, appendChild_children, List.map_append, List.map_append]
      exact (hL b p hp).append (List.Sublist.refl _)
    · rw [kidPaths, (h5 hba).2]
      exact (hL b n hb).trans (List.sublist_append_left _ _)

/-! ## prefixes of the given path -/

/-- `pre ++ r` for the non-empty prefixes `r` of `rest` -/
def extensions (pre rest : List Str) : List (List Str) := (prefixes rest).map (pre ++ ·)

theorem extensions_cons (pre : List Str) (c : Str) (rest : List Str) :
    extensions pre (c :: rest) = (pre ++ [c]) :: extensions (pre ++ [c]) rest := by
  simp [extensions, prefixes, List.map_map, Function.comp_def]

theorem prefixes_cons_eq (b0 : Str) (rest : List Str) :
    prefixes (b0 :: rest) = [b0] :: extensions [b0] rest := rfl

theorem prefixes_ne_nil {α} (l : List α) : ∀ r ∈ prefixes l, r ≠ [] := by
  cases l with
  | nil => intro r h; cases h
  | cons a as =>
    intro r h
    rw [prefixes, List.mem_cons, List.mem_map] at h
    rcases h with rfl | ⟨r', _, rfl⟩ <;> exact List.cons_ne_nil _ _

theorem prefixes_nodup {α} (l : List α) : (prefixes l).Nodup := by
  induction l with
  | nil => exact List.nodup_nil
  | cons a as ih =>
    rw [prefixes, List.nodup_cons, List.mem_map]
    refine ⟨fun ⟨r, hr, he⟩ => prefixes_ne_nil as r hr (List.cons.inj he).2, ?_⟩
    exact List.Pairwise.map _ (fun _ _ h e => h (List.cons.inj e).2) ih

theorem extensions_nodup (pre rest : List Str) : (extensions pre rest).Nodup :=
  List.Pairwise.map _ (fun _ _ h e => h (List.append_cancel_left e)) (prefixes_nodup rest)

theorem mem_of_mem_prefixes {α} {x : α} : ∀ {l q : List α}, q ∈ prefixes l → x ∈ q → x ∈ l := by
  intro l
  induction l with
  | nil => intro q hq; cases hq
  | cons a as ih =>
    intro q hq hx
    rw [prefixes, List.mem_cons, List.mem_map] at hq
    rcases hq with rfl | ⟨r, hr, rfl⟩
    · exact List.mem_singleton.mp hx ▸ List.mem_cons_self
    · rcases List.mem_cons.mp hx with rfl | hx
      · exact List.mem_cons_self
      · exact List.mem_cons_of_mem _ (ih hr hx)

/-! ## the loop -/

/-- the paths created by the loop, in creation order -/
def created (pre rest : List Str) (t : Tree) : List (List Str) :=
  (extensions pre rest).filter fun q => decide (q ∉ paths t)

theorem created_cons_old {pre rest : List Str} {c : Str} {t : Tree} (h : pre ++ [c] ∈ paths t) :
    created pre (c :: rest) t = created (pre ++ [c]) rest t := by
  rw [created, extensions_cons, List.filter_cons_of_neg (by exact fun e => of_decide_eq_true e h)]
  rfl

theorem created_cons_new {pre rest : List Str} {c : Str} {t t1 : Tree} (h : pre ++ [c] ∉ paths t)
    (h1 : ∀ q, q ∈ paths t1 ↔ q ∈ paths t ∨ q = pre ++ [c]) :
    created pre (c :: rest) t = (pre ++ [c]) :: created (pre ++ [c]) rest t1 := by
  rw [created, extensions_cons, List.filter_cons_of_pos (by exact decide_eq_true h)]
  congr 1
  apply List.filter_congr
  intro q hq
  have hq' : q ≠ pre ++ [c] := by
    rintro rfl
    obtain ⟨r, hr, he⟩ := List.mem_map.mp hq
    exact prefixes_ne_nil rest r hr (List.append_right_eq_self.mp he)
  simp only [h1 q, hq', or_false]

/-- What the loop guarantees when started at the node at `paddr` (path `pre`) of `t` with the
    components `rest` to go. Besides the facts about the result as a whole: a node at an address
    that was not valid before carries the given attributes if it is the returned node and none
    otherwise; and whatever list `L` the children paths of every node were a sublist of, they now
    are a sublist of `L` followed by the newly created paths in creation order. -/
structure LoopSpec (attrs : Attrs) (pre rest : List Str) (t t' : Tree) (ad : Addr) : Prop where
  sib : SibUnique t'
  node : ∃ n, nodeAt ad t' = some n
  names : namesAlong ad t' = pre ++ rest
  mem : ∀ q, q ∈ paths t' ↔ q ∈ paths t ∨ q ∈ extensions pre rest
  frame : Frame t t'
  newAttrs : ∀ b n', nodeAt b t' = some n' → nodeAt b t = none → n'.attrs = if b = ad then attrs else []
  order : ∀ L : List (List Str), (∀ b n, nodeAt b t = some n → (kidPaths (namesAlong b t) n).Sublist L) →
    ∀ b n', nodeAt b t' = some n' → (kidPaths (namesAlong b t') n').Sublist (L ++ created pre rest t)

theorem insertLoop_dup (treeSep : Str) (attrs : Attrs) : ∀ (rest pre : List Str) (t : Tree) (paddr : Addr)
    (fresh : Nat) (p t' : Tree) (ad : Addr) (fr' : Nat),
    SibUnique t → nodeAt paddr t = some p → namesAlong paddr t = pre →
    insertLoop treeSep true attrs rest pre t paddr fresh = .ok (t', ad, fr') →
    LoopSpec attrs pre rest t t' ad := by
  intro rest
  induction rest with
  | nil =>
    intro pre t paddr fresh p t' ad fr' hs hp hn h
    cases h
    refine ⟨hs, ⟨p, hp⟩, ?_, fun q => ?_, Frame.refl _, fun b n' hn' hnone => ?_, fun L hL => ?_⟩
    · rw [hn, List.append_nil]
    · exact ⟨.inl, fun h => h.elim id fun h => absurd h List.not_mem_nil⟩
    · rw [hn'] at hnone; cases hnone
    · rw [show created pre [] t = [] from rfl, List.append_nil]
      exact hL
  | cons c rest ih =>
    intro pre t paddr fresh p t' ad fr' hs hp hn h
    cases hl : lookup treeSep true t paddr (pre ++ [c]) c with
    | error e => rw [insertLoop, hl] at h; cases h
    | ok found =>
      cases found with
      | some ad1 =>
        rw [insertLoop_cons_some hl] at h
        obtain ⟨k, d, rfl, hd, rfl⟩ := lookup_dup_some hp hl
        have hp2 := nodeAt_snoc_eq_some.mpr ⟨p, hp, hd⟩
        have hn2 : namesAlong (paddr ++ [k]) t = pre ++ [d.name] := by rw [namesAlong_snoc _ _ _ _ _ hp hd, hn]
        obtain ⟨r1, r2, r3, r4, r5, r6, r7⟩ := ih _ _ _ _ _ _ _ _ hs hp2 hn2 h
        have hin : pre ++ [d.name] ∈ paths t := (mem_paths_addr t _).mpr ⟨_, d, hp2, hn2⟩
        refine ⟨r1, r2, by rw [r3, List.append_assoc]; rfl, fun q => ?_, r5, r6, ?_⟩
        · rw [r4 q, extensions_cons, List.mem_cons]
          exact ⟨fun h => h.elim .inl (.inr ∘ .inr), fun h => h.elim .inl fun h => h.elim (fun e => .inl (e ▸ hin)) .inr⟩
        · rw [created_cons_old hin]; exact r7
      | none =>
        by_cases hc : c = []
        · rw [insertLoop, hl, if_pos hc] at h; cases h
        rw [insertLoop_cons_none hl hp hc] at h
        generalize hnew : Tree.node fresh c (if rest.isEmpty = true then attrs else []) [] = new at h
        have hnewc : new.children = [] := by rw [← hnew]; rfl
        have hnewn : new.name = c := by rw [← hnew]; rfl
        have hcn : c ∉ p.children.map Tree.name := lookup_dup_none hp hl
        have hs1 := sibUnique_appendChild hnewc hs hp (hnewn ▸ hcn)
        have hp2 := nodeAt_appendChild_self new hp
        have hn2 := namesAlong_appendChild_self new hp
        have hm := mem_paths_appendChild hnewc hp
        have hk := @kidPaths_appendChild new t p paddr hnewc hp
        rw [hn, hnewn] at hn2 hm hk
        obtain ⟨r1, r2, r3, r4, r5, r6, r7⟩ := ih _ _ _ _ _ _ _ _ hs1 hp2 hn2 h
        have hnot : pre ++ [c] ∉ paths t := hn ▸ not_mem_paths_of_no_child hs hp hcn
        refine ⟨r1, r2, by rw [r3, List.append_assoc]; rfl, fun q => ?_,
          (frame_appendChild new paddr t).trans r5, fun b n' hn' hnone => ?_, fun L hL => ?_⟩
        · rw [r4 q, hm q, extensions_cons, List.mem_cons, or_assoc]
        · cases hb1 : nodeAt b (modifyAt (appendChild new) paddr t) with
          | none => exact r6 b n' hn' hb1
          | some n1 =>
            -- `b` is the new leaf; it is the returned node exactly if the loop ends here
            obtain ⟨rfl, rfl⟩ := nodeAt_appendChild_new hnewc hp hnone hb1
            obtain ⟨n'', e1, -, -, e4, e5⟩ := r5 _ _ hb1
            obtain rfl : n'' = n' := Option.some.inj (e1.symm.trans hn')
            rw [e4, ← hnew, Tree.attrs_node]
            cases rest with
            | nil => cases h; exact (if_pos rfl).symm
            | cons r rs =>
              have hne : paddr ++ [p.children.length] ≠ ad := by
                intro e
                rw [← e, e5, hn2] at r3
                exact List.cons_ne_nil _ _ (List.self_eq_append_right.mp r3)
              rw [if_neg hne]; rfl
        · rw [created_cons_new hnot hm, List.append_cons]
          exact r7 _ (hk hL)

/-! ## `set_attrs` -/

/-- `d[k] = v` where `d[k]` is `v` already -/
theorem setKey_self (k : Str) (v : Val) : ∀ (a : Attrs), (a.map Prod.fst).Nodup → (k, v) ∈ a → setKey k v a = a := by
  intro a
  induction a with
  | nil => intro _ h; cases h
  | cons x xs ih =>
    intro hnd hm
    obtain ⟨k', v'⟩ := x
    rw [List.map_cons, List.nodup_cons] at hnd
    rw [setKey]
    rcases List.mem_cons.mp hm with e | e
    · cases e; rw [if_pos rfl]
    · have hk : k' ≠ k := fun hk => hnd.1 (List.mem_map.mpr ⟨(k, v), e, hk.symm⟩)
      rw [if_neg hk, ih hnd.2 e]

/-- `old.update(new)` where every entry of `new` is in `old` already -/
theorem updateAttrs_of_subset {old : Attrs} (h : (old.map Prod.fst).Nodup) :
    ∀ (new : Attrs), (∀ kv ∈ new, kv ∈ old) → updateAttrs old new = old := by
  intro new
  induction new with
  | nil => intro _; rfl
  | cons x xs ih =>
    intro hl
    rw [updateAttrs, List.foldl_cons, setKey_self x.1 x.2 old h (hl x List.mem_cons_self)]
    exact ih fun kv hkv => hl kv (List.mem_cons_of_mem _ hkv)

/-! ## one call -/

theorem addComps_ok {ts : Str} {dupOk : Bool} {t : Tree} {fresh : Nat} {branch : List Str} {attrs : Attrs}
    {t' : Tree} {ad : Addr} {fr' : Nat} (h : addComps ts dupOk t fresh branch attrs = .ok (t', ad, fr')) :
    ∃ rest t1, branch = t.name :: rest ∧ insertLoop ts dupOk attrs rest [t.name] t [] fresh = .ok (t1, ad, fr') ∧
      t' = modifyAt (setAttrs attrs) ad t1 := by
  cases branch with
  | nil => cases h
  | cons b0 rest =>
    simp only [addComps] at h
    split at h
    · cases h
    · rename_i hb0
      obtain rfl : b0 = t.name := Decidable.not_not.mp hb0
      split at h
      · cases h
      · rename_i hl
        cases h
        exact ⟨rest, _, rfl, hl, rfl⟩

/-- Everything about one `add_path_to_tree` call (duplicates allowed), on components: the returned
    node; the node paths; old nodes keep address, id, name and path, and their attributes unless
    they are the addressed node, which is updated; a new node carries no attributes unless it is
    the addressed one (then `updateAttrs attrs attrs`: the leaf is created with `attrs` and `set_attrs`
    runs on it once more; for a dictionary that is `attrs`, `updateAttrs_of_subset`); and whatever list
    `L` the children paths of every node were a sublist of, they now are a sublist of `L` followed by
    the newly created paths in creation order. -/
structure CallSpec (attrs : Attrs) (branch : List Str) (t t' : Tree) (ad : Addr) : Prop where
  sib : SibUnique t'
  node : ∃ n, nodeAt ad t' = some n
  names : namesAlong ad t' = branch
  mem : ∀ q, q ∈ paths t' ↔ q ∈ paths t ∨ q ∈ prefixes branch
  oldNodes : ∀ b n, nodeAt b t = some n → ∃ n', nodeAt b t' = some n' ∧ n'.id = n.id ∧ n'.name = n.name ∧
    namesAlong b t' = namesAlong b t ∧ (b ≠ ad → n'.attrs = n.attrs) ∧
    (b = ad → n'.attrs = updateAttrs n.attrs attrs)
  nodeAttrs : ∀ b n', nodeAt b t' = some n' →
    (∃ n, nodeAt b t = some n ∧ n'.attrs = if b = ad then updateAttrs n.attrs attrs else n.attrs) ∨
    (nodeAt b t = none ∧ n'.attrs = if b = ad then updateAttrs attrs attrs else [])
  order : ∀ L : List (List Str), (∀ b n, nodeAt b t = some n → (kidPaths (namesAlong b t) n).Sublist L) →
    ∀ b n', nodeAt b t' = some n' →
      (kidPaths (namesAlong b t') n').Sublist (L ++ (prefixes branch).filter fun q => decide (q ∉ paths t))

theorem addComps_dup (treeSep : Str) (t : Tree) (fresh : Nat) (branch : List Str) (attrs : Attrs)
    (t' : Tree) (ad : Addr) (fr' : Nat) (hs : SibUnique t)
    (h : addComps treeSep true t fresh branch attrs = .ok (t', ad, fr')) : CallSpec attrs branch t t' ad := by
  obtain ⟨rest, t1, rfl, hl, rfl⟩ := addComps_ok h
  obtain ⟨r1, ⟨n1, r2⟩, r3, r4, r5, r6, r7⟩ :=
    insertLoop_dup treeSep attrs rest _ t [] fresh t t1 ad fr' hs rfl rfl hl
  have hg := grows_setAttrs attrs
  have hc := setAttrs_children attrs
  have hroot : [t.name] ∈ paths t := by rw [paths_eq]; exact List.mem_cons_self
  refine ⟨sibUnique_modifyAt_same hg hc r2 r1, ⟨setAttrs attrs n1, by rw [nodeAt_modifyAt_self, r2]; rfl⟩,
    (namesAlong_modifyAt_grows hg ad ad t1 n1 r2).trans r3, fun q => ?_, fun b n hn => ?_, fun b n' hn' => ?_,
    fun L hL b n' hn' => ?_⟩
  · rw [paths_modifyAt_same _ (setAttrs_name attrs) hc, r4 q, prefixes_cons_eq, List.mem_cons]
    exact ⟨fun h => h.elim .inl (.inr ∘ .inr), fun h => h.elim .inl fun h => h.elim (fun e => .inl (e ▸ hroot)) .inr⟩
  · obtain ⟨n', a1, a2, a3, a4, a5⟩ := r5 b n hn
    obtain ⟨n'', b1, b2, b3, b4, b5, b6⟩ := nodeAt_modifyAt_grows hg ad b t1 n' a1
    exact ⟨n'', b1, b2.trans a2, b3.trans a3, b4.trans a5, fun hne => (b5 hne).1.trans a4,
      fun he => by rw [b6 he, setAttrs_attrs, a4]⟩
  · obtain ⟨m, h1, -, h3, h4⟩ := nodeAt_modifyAt_same_inv hg hc r2 hn'
    have hn'a : n'.attrs = if b = ad then updateAttrs m.attrs attrs else m.attrs := by
      split
      · rename_i hba; rw [h4 hba, setAttrs_attrs]
      · rename_i hba; exact h3 hba
    cases hbt : nodeAt b t with
    | some n =>
      obtain ⟨m', e1, -, -, e4, -⟩ := r5 b n hbt
      obtain rfl : m' = m := Option.some.inj (e1.symm.trans h1)
      exact .inl ⟨n, rfl, e4 ▸ hn'a⟩
    | none =>
      refine .inr ⟨rfl, ?_⟩
      rw [hn'a, r6 b m h1 hbt]
      split <;> rfl
  · obtain ⟨m, h1, h2, -⟩ := nodeAt_modifyAt_same_inv hg hc r2 hn'
    -- the root's own path is there already, so the new paths are the created ones
    rw [namesAlong_modifyAt_grows hg ad b t1 m h1, kidPaths, h2, prefixes_cons_eq,
      List.filter_cons_of_neg (by exact fun e => of_decide_eq_true e hroot)]
    exact r7 L hL b m h1

end Paths
