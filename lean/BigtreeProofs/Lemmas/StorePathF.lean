import BigtreeProofs.Lemmas.StorePathD
import BigtreeProofs.Lemmas.StoreStr
/-!
# Paths on the pointer store: `find_full_path` and `path_name` for separators of any length

`Node.sep` may be any non-empty string (`"::"`, `"->"`, …); names are non-empty and share no character with
it (`Free`; the string laws are those of `Strings`, via `StoreStr`).
-/

namespace Store

/-- looking a node's path name up from any node of its tree returns that very node, whatever run of
separator characters leads or trails (`lstrip`/`rstrip` are character-set strips) -/
theorem findFullPath_pathName_multi {s : Store} (hw : WF s) (hu : SibUnique s) (start v : Nat)
    (hst : SameTree s start v) (hsp : sep s v ≠ [])
    (hn : ∀ x ∈ pathNodes s v, s.name x ≠ [] ∧ Free (sep s v) (s.name x))
    (lead trail : Str) (hl : ∀ x ∈ lead, x ∈ sep s v) (ht : ∀ x ∈ trail, x ∈ sep s v) :
    findFullPath s start (lead ++ join (sep s v) (pathNames s v) ++ trail) = some (some v) := by
  have hroot : rootOf s s.n start = rootOf s s.n v := hst
  have hnames : ∀ x ∈ pathNames s v, x ≠ [] ∧ Free (sep s v) x := List.forall_mem_map.2 hn
  obtain ⟨rest, hpn, hdesc⟩ := descend_pathNames hw hu v
  rw [findFullPath, sep, hroot, ← sep, strip_path_multi _ _ (pathNames_ne_nil s v) hnames lead trail hl ht,
    split_join_multi _ hsp _ (pathNames_ne_nil s v) fun x hx => (hnames x hx).2, hpn]
  exact (if_pos rfl).trans hdesc

theorem findFullPath_spellings {s : Store} (hw : WF s) (hu : SibUnique s) (start v : Nat)
    (hst : SameTree s start v) (hsp : sep s v ≠ [])
    (hn : ∀ x ∈ pathNodes s v, s.name x ≠ [] ∧ Free (sep s v) (s.name x)) :
    findFullPath s start (pathName s v) = some (some v) ∧
    findFullPath s start ((pathName s v).drop (sep s v).length) = some (some v) ∧
    findFullPath s start (pathName s v ++ sep s v) = some (some v) := by
  have key := findFullPath_pathName_multi hw hu start v hst hsp hn
  have hself : ∀ x ∈ sep s v, x ∈ sep s v := fun _ h => h
  have hnil : ∀ x ∈ ([] : Str), x ∈ sep s v := fun _ h => nomatch h
  rw [pathName_eq, List.drop_left]
  refine ⟨?_, ?_, key _ _ hself hself⟩
  · rw [← List.append_nil (_ ++ _)]; exact key _ _ hself hnil
  · rw [← List.append_nil (join _ _), ← List.nil_append (join _ _)]; exact key _ _ hnil hnil

theorem pathName_injective_multi {s : Store} (hw : WF s) (hu : SibUnique s) (u v : Nat)
    (hst : SameTree s u v) (hsp : sep s v ≠ [])
    (hn : ∀ x, s.name x ≠ [] ∧ Free (sep s v) (s.name x))
    (h : pathName s u = pathName s v) : u = v := by
  have hsep : sep s u = sep s v := congrArg s.sepOf hst
  have hfree : ∀ w, ∀ x ∈ pathNames s w, Free (sep s v) x := fun w =>
    List.forall_mem_map.2 fun y _ => (hn y).2
  rw [pathName_eq, pathName_eq, hsep] at h
  exact pathNames_injective hw hu u v hst <|
    join_injective_multi _ hsp _ _ (pathNames_ne_nil s u) (pathNames_ne_nil s v) (hfree u) (hfree v)
      (List.append_cancel_left h)

/-- the hypothesis of the one-character statements on a name, in the form the theorems above take -/
theorem name_ok_of_sep_singleton {s : Store} {v : Nat} {d : Char} (hsep : sep s v = [d]) {x : Str}
    (h : x ≠ [] ∧ d ∉ x) : x ≠ [] ∧ Free (sep s v) x :=
  ⟨h.1, hsep ▸ (free_singleton d x).2 h.2⟩

end Store
