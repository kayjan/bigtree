import BigtreeProofs.Lemmas.StoreRollback
/-!
# The structural API call by call: a setter is refused, rolled back to the store it started from
(C02), or accepted with the closed form of its body (C01); `step_cases` carries a proof about the
setters to every operation
-/

namespace Store

/-! ## the two setters -/

/-- The ways `v.parent = np` can end: refused before the `try` (guards, hook before, `Node`'s
duplicate check), rolled back (hook after), accepted. -/
theorem setParent_cases {P : Store × Outcome → Prop} (c : Cfg) (s : Store) (v : Nat) (np : Option Nat) (f : Fault)
    (hrej : P (s, .rej))
    (hback : P (parentRollback (parentBody s v np).1 v np (s.parent v) (parentBody s v np).2, .rej))
    (hok : (c.assertions = true → checkParentType s np = true ∧ checkParentLoop s v np = true) →
      (c.node = true → dupParent s v np = false) → f = .none → P ((parentBody s v np).1, .ok)) :
    P (setParent c s v np f) := by
  unfold setParent
  cases hg : c.assertions && !(checkParentType s np && checkParentLoop s v np) with
  | true => exact hrej
  | false =>
    cases hd : c.node && dupParent s v np with
    | true => cases f <;> exact hrej
    | false =>
      cases f with
      | pre => exact hrej
      | post => exact hback
      | none => exact hok (fun ha => by simpa [ha] using hg) (fun hn => by simpa [hn] using hd) rfl

/-- C02, parent setter: any rejection (type, loop, duplicate name, hook before, hook after) leaves a
well-formed store exactly as it was -/
theorem setParent_rej_id {s : Store} (hw : WF s) (c : Cfg) (v : Nat) (np : Option Nat) (f : Fault)
    (h : (setParent c s v np f).2 = .rej) : (setParent c s v np f).1 = s :=
  setParent_cases (P := fun r => r.2 = .rej → r.1 = s) c s v np f (fun _ => rfl)
    (fun _ => parentRollback_id hw v np) (fun _ _ _ h => nomatch h) h

theorem setParent_ok_eq {s : Store} (c : Cfg) (v : Nat) (np : Option Nat) (f : Fault)
    (h : (setParent c s v np f).2 = .ok) :
    (setParent c s v np f).1 = reparent s v np ∧ f = .none ∧
      (c.assertions = true → checkParentType s np = true ∧ checkParentLoop s v np = true) ∧
      (c.node = true → dupParent s v np = false) :=
  setParent_cases (P := fun r => r.2 = .ok → r.1 = reparent s v np ∧ f = .none ∧ _ ∧ _) c s v np f
    (fun h => nomatch h) (fun h => nomatch h) (fun hg hd hf _ => ⟨parentBody_eq s v np, hf, hg, hd⟩) h

theorem wf_setParent {s : Store} (hw : WF s) (c : Cfg) (hc : c.assertions = true) (v : Nat) (hv : v < s.n)
    (np : Option Nat) (f : Fault) : WF (setParent c s v np f).1 := by
  cases ho : (setParent c s v np f).2 with
  | rej => rw [setParent_rej_id hw c v np f ho]; exact hw
  | ok =>
    obtain ⟨he, _, hg, _⟩ := setParent_ok_eq c v np f ho
    rw [he]
    refine wf_reparent hw v np hv fun p hp => ?_
    subst hp
    exact ⟨by simpa [checkParentType] using (hg hc).1, (checkParentLoop_iff hw v p).1 (hg hc).2⟩

/-- The ways `v.children = cs` can end, as for the parent setter; here the rolled-back case keeps the
guard, because `childrenRollback_id` needs `cs` free of repetitions. -/
theorem setChildren_cases {P : Store × Outcome → Prop} (c : Cfg) (s : Store) (v : Nat) (cs : List Nat) (f : Fault)
    (hrej : P (s, .rej))
    (hback : (c.assertions = true → checkChildrenLoop s v cs [] = true) →
      P (childrenRollback (childrenBody s v cs) v (sortKey (fun e => e.2.1) (stolenOf s cs))
        (cs.filter fun x => (s.parent x).isNone) (s.children v), .rej))
    (hok : (c.assertions = true → checkChildrenLoop s v cs [] = true) →
      (c.node = true → dupNames s cs = false) → f = .none → P (childrenBody s v cs, .ok)) :
    P (setChildren c s v cs f) := by
  unfold setChildren
  cases hg : c.assertions && !(checkChildrenLoop s v cs []) with
  | true => exact hrej
  | false =>
    have hg' : c.assertions = true → checkChildrenLoop s v cs [] = true := fun ha => by simpa [ha] using hg
    cases hd : c.node && dupNames s cs with
    | true => cases f <;> exact hrej
    | false =>
      cases f with
      | pre => exact hrej
      | post => exact hback hg'
      | none => exact hok hg' (fun hn => by simpa [hn] using hd) rfl

/-- C02, children setter: any rejection leaves a well-formed store exactly as it was
(with the checks off: for arguments the checks accept) -/
theorem setChildren_rej_id {s : Store} (hw : WF s) (c : Cfg) (v : Nat) (cs : List Nat) (f : Fault)
    (hc : c.assertions = false → checkChildrenLoop s v cs [] = true)
    (h : (setChildren c s v cs f).2 = .rej) : (setChildren c s v cs f).1 = s := by
  refine setChildren_cases (P := fun r => r.2 = .rej → r.1 = s) c s v cs f (fun _ => rfl)
    (fun hg _ => ?_) (fun _ _ _ h => nomatch h) h
  have hn := ((checkChildrenLoop_iff hw v cs).1 ((Bool.eq_false_or_eq_true _).elim hg hc)).1
  rw [childrenBody_eq hw v cs hn]
  exact childrenRollback_id hw v cs hn

theorem setChildren_ok_eq {s : Store} (hw : WF s) (c : Cfg) (v : Nat) (cs : List Nat) (f : Fault)
    (hc : c.assertions = false → checkChildrenLoop s v cs [] = true)
    (h : (setChildren c s v cs f).2 = .ok) :
    (setChildren c s v cs f).1 = adopted s v cs ∧ f = .none ∧ checkChildrenLoop s v cs [] = true ∧
      (c.node = true → dupNames s cs = false) := by
  refine setChildren_cases (P := fun r => r.2 = .ok → r.1 = adopted s v cs ∧ f = .none ∧ _ ∧ _) c s v cs f
    (fun h => nomatch h) (fun _ h => nomatch h) (fun hg hd hf _ => ?_) h
  have hchk := (Bool.eq_false_or_eq_true _).elim hg hc
  exact ⟨childrenBody_eq hw v cs ((checkChildrenLoop_iff hw v cs).1 hchk).1, hf, hchk, hd⟩

theorem wf_setChildren {s : Store} (hw : WF s) (c : Cfg) (hc : c.assertions = true) (v : Nat) (hv : v < s.n)
    (cs : List Nat) (f : Fault) : WF (setChildren c s v cs f).1 := by
  have hc' : c.assertions = false → checkChildrenLoop s v cs [] = true := by simp [hc]
  cases ho : (setChildren c s v cs f).2 with
  | rej => rw [setChildren_rej_id hw c v cs f hc' ho]; exact hw
  | ok =>
    obtain ⟨he, _, hg, _⟩ := setChildren_ok_eq hw c v cs f hc' ho
    rw [he]
    have := (checkChildrenLoop_iff hw v cs).1 hg
    exact wf_adopted hw v cs hv this.1 this.2

theorem wf_assignParentOf {s : Store} (hw : WF s) (c : Cfg) (hc : c.assertions = true) (ch p : Nat) (f : Fault) :
    WF (assignParentOf c s ch p f).1 := by
  unfold assignParentOf
  split
  · rename_i h; exact wf_setParent hw c hc ch h (some p) f
  · exact hw

theorem wf_extend {c : Cfg} (hc : c.assertions = true) (p : Nat) (cs : List Nat) (s : Store) (f : Fault) (k : Nat)
    (hw : WF s) : WF (extend c s p cs f k).1 := by
  induction cs generalizing s f k with
  | nil => exact hw
  | cons x xs ih =>
    unfold extend
    have h1 := wf_assignParentOf hw c hc x p (if k = 0 then f else .none)
    cases ho : (assignParentOf c s x p (if k = 0 then f else .none)).2 with
    | rej => simp only [ho]; exact h1
    | ok => simp only [ho]; exact ih _ _ _ h1

/-! ## `del p[name]` -/

theorem findChildByName_some {s : Store} {p : Nat} {nm : Str} {ch : Nat}
    (h : findChildByName s p nm = some (some ch)) : ch ∈ s.children p ∧ s.name ch = nm := by
  unfold findChildByName at h
  split at h
  · cases h
  · next c' heq =>
    cases h
    have : ch ∈ (s.children p).filter fun c => s.name c == nm := heq ▸ List.mem_singleton_self ch
    simpa using List.mem_filter.1 this
  · cases h

theorem findChildByName_none {s : Store} {p : Nat} {nm : Str}
    (h : findChildByName s p nm = some none) : ∀ x ∈ s.children p, s.name x ≠ nm := by
  unfold findChildByName at h
  split at h
  · next heq =>
    intro x hx hn
    have : x ∈ (s.children p).filter fun c => s.name c == nm := List.mem_filter.2 ⟨hx, by simp [hn]⟩
    rw [heq] at this
    cases this
  · cases h
  · cases h

/-- `del p[name]` under two configurations: several children of that name is an error, none a no-op,
one the parent setter with `None` on it. -/
theorem delItem_cases {P : Store × Outcome → Store × Outcome → Prop} (c c' : Cfg) (s : Store) (p : Nat) (nm : Str)
    (f : Fault) (hrej : P (s, .rej) (s, .rej)) (hnone : (∀ x ∈ s.children p, s.name x ≠ nm) → P (s, .ok) (s, .ok))
    (hsome : ∀ ch ∈ s.children p, s.name ch = nm → P (setParent c s ch none f) (setParent c' s ch none f)) :
    P (delItem c s p nm f) (delItem c' s p nm f) := by
  unfold delItem
  cases hf : findChildByName s p nm with
  | none => exact hrej
  | some r =>
    cases r with
    | none => exact hnone (findChildByName_none hf)
    | some ch => exact hsome ch (findChildByName_some hf).1 (findChildByName_some hf).2

/-! ## one call of the API -/

theorem ite_cases {α : Type} {P : α → α → Prop} {b : Prop} [Decidable b] {x x' y : α}
    (h1 : b → P x x') (h0 : P y y) : P (if b then x else y) (if b then x' else y) := by
  split
  · exact h1 ‹_›
  · exact h0

/-- To prove something of one call under two configurations (for one configuration take `c' = c`):
a call whose receiver is not a node is rejected; `append`, `>>`, `<<` are the parent setter, on a
non-node a rejection; a non-list children assignment is a rejection.  `he` is told which call it is:
`extend` alone is not all-or-nothing (a refused element leaves the earlier ones adopted), and a
statement that excludes it (`C02.step_rej_id`) closes the case from that equation. -/
theorem step_cases {P : Store × Outcome → Store × Outcome → Prop} (c c' : Cfg) (s : Store) (op : Op)
    (hrej : P (s, .rej) (s, .rej))
    (hp : ∀ v np f, v < s.n → P (setParent c s v np f) (setParent c' s v np f))
    (hc : ∀ v cs f, v < s.n → P (setChildren c s v cs f) (setChildren c' s v cs f))
    (hd : ∀ v, v < s.n → P (delChildren s v, .ok) (delChildren s v, .ok))
    (he : ∀ p cs f k, op = .extend p cs f k → p < s.n → P (extend c s p cs f k) (extend c' s p cs f k))
    (hi : ∀ p nm f, p < s.n → P (delItem c s p nm f) (delItem c' s p nm f))
    (hs : ∀ v ranks rev, v < s.n → P (sortChildren s v ranks rev, .ok) (sortChildren s v ranks rev, .ok))
    (hsep : ∀ v x, v < s.n → P (setSep s v x, .ok) (setSep s v x, .ok)) :
    P (step c s op) (step c' s op) := by
  cases op with
  | setParent v np f => exact ite_cases (hp v np f) hrej
  | setChildren v cs f => exact ite_cases (hc v cs f) hrej
  | setChildrenNonList v f => exact hrej
  | delChildren v => exact ite_cases (hd v) hrej
  | append p ch f => exact ite_cases (fun _ => ite_cases (hp ch (some p) f) hrej) hrej
  | extend p cs f k => exact ite_cases (he p cs f k rfl) hrej
  | rshift p ch f => exact ite_cases (fun _ => ite_cases (hp ch (some p) f) hrej) hrej
  | lshift ch p f => exact ite_cases (hp ch p f) hrej
  | delItem p nm f => exact ite_cases (hi p nm f) hrej
  | sort v ranks rev => exact ite_cases (hs v ranks rev) hrej
  | setSep v x => exact ite_cases (hsep v x) hrej

/-- C01: every call of the structural API, with any arguments and any hook fault, keeps the forest -/
theorem wf_step {s : Store} (hw : WF s) (c : Cfg) (hc : c.assertions = true) (op : Op) :
    WF (step c s op).1 :=
  step_cases (P := fun r _ => WF r.1) c c s op hw
    (fun v np f hv => wf_setParent hw c hc v hv np f)
    (fun v cs f hv => wf_setChildren hw c hc v hv cs f)
    (fun v _ => delChildren_eq hw v ▸ wf_detached hw v)
    (fun p cs f k _ _ => wf_extend hc p cs s f k hw)
    (fun p nm f _ => delItem_cases (P := fun r _ => WF r.1) c c s p nm f hw (fun _ => hw) fun ch hch _ =>
      wf_setParent hw c hc ch (hw.range ch p (hw.down p ch hch)).1 none f)
    (fun v ranks rev _ => wf_sortChildren hw v ranks rev)
    (fun v x _ => wf_setSep hw v x)

theorem wf_run {s : Store} (hw : WF s) (c : Cfg) (hc : c.assertions = true) (ops : List Op) :
    WF (run c s ops) := by
  unfold run
  induction ops generalizing s with
  | nil => exact hw
  | cons op ops ih => exact ih (wf_step hw c hc op)

end Store
