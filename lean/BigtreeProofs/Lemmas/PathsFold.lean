import BigtreeModel.Paths
import BigtreeProofs.Lemmas.PathsStr
import BigtreeProofs.Lemmas.PathsAddr
import BigtreeProofs.Lemmas.PathsSet
import BigtreeProofs.Lemmas.PathsLoop
import BigtreeProofs.Lemmas.PathsNoDup
import BigtreeProofs.Lemmas.RelationBuild
/-!
# Folding `add_path_to_tree` over many paths: node set, no duplicates, children by first appearance (C05)

The fold is analysed on `Item`s (a path string taken apart); the constructors hand it strings they
have stripped or de-duplicated first, which are put back into that form by `items_of_pairs`.
-/

namespace Paths
open Str

/-- a path as the caller writes it: a run of separators, the components, a run of separators -/
structure Item where
  lead : Str
  branch : List Str
  trail : Str
  attrs : Attrs

def Item.render (c : Char) (it : Item) : Str := it.lead ++ join [c] it.branch ++ it.trail

/-- well-formed for the separator `c`: at least one component, non-empty components free of `c` -/
def Item.Wf (c : Char) (it : Item) : Prop :=
  it.branch ≠ [] ∧ (∀ x ∈ it.lead, x = c) ∧ (∀ x ∈ it.trail, x = c) ∧ ∀ x ∈ it.branch, x ≠ [] ∧ c ∉ x

/-- The string interface is the component interface. -/
theorem addPath_eq_addComps (treeSep sp : Str) (hsp : sp ≠ []) (dupOk : Bool) (t : Tree) (fresh : Nat)
    (lead trail : Str) (branch : List Str) (attrs : Attrs) (hne : branch ≠ [])
    (hl : ∀ x ∈ lead, x ∈ sp) (ht : ∀ x ∈ trail, x ∈ sp) (hfree : ∀ x ∈ branch, x ≠ [] ∧ Store.Free sp x) :
    addPath treeSep sp dupOk t fresh (lead ++ join sp branch ++ trail) attrs
      = addComps treeSep dupOk t fresh branch attrs := by
  have hsplit := split_strip_join_multi sp hsp lead trail branch hne hl ht hfree
  -- the path is not empty: the empty string reads as one empty component
  have hpath : lead ++ join sp branch ++ trail ≠ [] := by
    intro e
    rw [e] at hsplit
    obtain rfl : [[]] = branch := hsplit
    exact (hfree [] List.mem_cons_self).1 rfl
  unfold addPath addComps
  rw [if_neg hpath, hsplit]

theorem addPath_render (treeSep : Str) (c : Char) (dupOk : Bool) (t : Tree) (fresh : Nat) (it : Item)
    (hw : it.Wf c) :
    addPath treeSep [c] dupOk t fresh (it.render c) it.attrs = addComps treeSep dupOk t fresh it.branch it.attrs :=
  addPath_eq_addComps treeSep [c] (List.cons_ne_nil c []) dupOk t fresh it.lead it.trail it.branch it.attrs hw.1
    (fun x hx => List.mem_singleton.2 (hw.2.1 x hx)) (fun x hx => List.mem_singleton.2 (hw.2.2.1 x hx))
    fun x hx => ⟨(hw.2.2.2 x hx).1, (Store.free_singleton c x).2 (hw.2.2.2 x hx).2⟩

/-! ## the fold, duplicates allowed -/

/-- the list of known paths after seeing the branches `bs`, starting from `L`: every new prefix is
    appended once, in order of appearance -/
def closure (L : List (List Str)) : List (List Str) → List (List Str)
  | [] => L
  | b :: bs => closure (L ++ (prefixes b).filter (fun q => decide (q ∉ L))) bs

/-- `L` lists the node paths of `t`, each once, with the children of every node in their order;
    and `t` has pairwise different sibling names -/
structure Listed (t : Tree) (L : List (List Str)) : Prop where
  sib : SibUnique t
  nodup : L.Nodup
  mem : ∀ q, q ∈ paths t ↔ q ∈ L
  kids : ∀ b n, nodeAt b t = some n → (kidPaths (namesAlong b t) n).Sublist L

theorem addComps_step (treeSep : Str) (t : Tree) (fresh : Nat) (branch : List Str) (attrs : Attrs)
    (t' : Tree) (ad : Addr) (fr' : Nat) (L : List (List Str)) (hL : Listed t L)
    (h : addComps treeSep true t fresh branch attrs = .ok (t', ad, fr')) :
    Listed t' (L ++ (prefixes branch).filter (fun q => decide (q ∉ L))) ∧
    t'.name = t.name ∧ branch.head? = some t.name := by
  obtain ⟨hs, hLn, hLm, hLk⟩ := hL
  obtain ⟨r1, -, -, r4, r5, -, r7⟩ := addComps_dup treeSep t fresh branch attrs t' ad fr' hs h
  obtain ⟨rest, t1, rfl, -, -⟩ := addComps_ok h
  have hL' : (prefixes (t.name :: rest)).filter (fun q => decide (q ∉ L)) =
      (prefixes (t.name :: rest)).filter fun q => decide (q ∉ paths t) :=
    List.filter_congr fun q _ => decide_eq_decide.mpr (not_congr (hLm q).symm)
  refine ⟨⟨r1, ?_, fun q => ?_, ?_⟩, ?_, rfl⟩
  · refine List.nodup_append.mpr ⟨hLn, (prefixes_nodup _).sublist List.filter_sublist, fun x hx y hy e => ?_⟩
    exact of_decide_eq_true (List.mem_filter.mp hy).2 (e ▸ hx)
  · rw [r4 q, hLm q, List.mem_append, List.mem_filter, decide_eq_true_eq]
    by_cases hq : q ∈ L
    · exact ⟨fun _ => .inl hq, fun _ => .inl hq⟩
    · exact ⟨fun h => h.elim .inl fun h1 => .inr ⟨h1, hq⟩, fun h => h.elim .inl fun h1 => .inr h1.1⟩
  · rw [hL']
    exact r7 L hLk
  · obtain ⟨n', e1, -, e3, -⟩ := r5 [] t rfl
    cases e1; exact e3

theorem addMany_fold (treeSep : Str) (c : Char) : ∀ (items : List Item) (t : Tree) (fresh : Nat)
    (L : List (List Str)) (t' : Tree) (fr' : Nat),
    (∀ it ∈ items, it.Wf c) → Listed t L →
    addMany treeSep [c] true (items.map fun it => (it.render c, it.attrs)) t fresh = .ok (t', fr') →
    Listed t' (closure L (items.map (·.branch))) ∧
    t'.name = t.name ∧ ∀ it ∈ items, it.branch.head? = some t.name := by
  intro items
  induction items with
  | nil =>
    intro t fresh L t' fr' _ hL h
    cases h
    exact ⟨hL, rfl, fun _ h => absurd h List.not_mem_nil⟩
  | cons it items ih =>
    intro t fresh L t' fr' hwf hL h
    rw [List.map_cons, addMany, addPath_render treeSep c true t fresh it (hwf it List.mem_cons_self)] at h
    split at h
    · cases h
    · rename_i t1 ad1 fr1 hc
      obtain ⟨s1, s5, s6⟩ := addComps_step treeSep t fresh it.branch it.attrs t1 ad1 fr1 L hL hc
      obtain ⟨u1, u5, u6⟩ := ih t1 fr1 _ t' fr' (fun x hx => hwf x (List.mem_cons_of_mem _ hx)) s1 h
      refine ⟨u1, u5.trans s5, fun x hx => ?_⟩
      rcases List.mem_cons.mp hx with rfl | hx
      · exact s6
      · rw [← s5]; exact u6 x hx

/-! ## duplicates disallowed: the fold either raises or is the fold with duplicates allowed -/

theorem sepFree_step (s : Char) (treeSep : Str) (t : Tree) (fresh : Nat) (branch : List Str) (attrs : Attrs)
    (t' : Tree) (ad : Addr) (fr' : Nat) (hs : SibUnique t) (hf : SepFree s t) (hb : ∀ x ∈ branch, s ∉ x)
    (h : addComps treeSep true t fresh branch attrs = .ok (t', ad, fr')) : SepFree s t' := by
  obtain ⟨-, -, -, r4, -⟩ := addComps_dup treeSep t fresh branch attrs t' ad fr' hs h
  intro q hq x hx
  rcases (r4 q).mp hq with h1 | h1
  · exact hf q h1 x hx
  · exact hb x (mem_of_mem_prefixes h1 hx)

theorem addMany_nodup (s c : Char) : ∀ (items : List Item) (t : Tree) (fresh : Nat) (r : Tree × Nat),
    (∀ it ∈ items, it.Wf c ∧ ∀ x ∈ it.branch, s ∉ x) → SibUnique t → SepFree s t →
    addMany [s] [c] false (items.map fun it => (it.render c, it.attrs)) t fresh = .ok r →
    addMany [s] [c] true (items.map fun it => (it.render c, it.attrs)) t fresh = .ok r ∧
      ((names t).Nodup → (names r.1).Nodup) := by
  intro items
  induction items with
  | nil =>
    intro t fresh r _ _ _ h
    cases h
    exact ⟨rfl, id⟩
  | cons it items ih =>
    intro t fresh r hwf hs hf h
    obtain ⟨hw, w5⟩ := hwf it List.mem_cons_self
    rw [List.map_cons, addMany, addPath_render [s] c false t fresh it hw] at h
    rw [List.map_cons, addMany, addPath_render [s] c true t fresh it hw]
    split at h
    · cases h
    · rename_i t1 ad1 fr1 hc
      obtain ⟨h1, h2⟩ := addComps_nodup s t fresh it.branch it.attrs _ hs hf w5 hc
      rw [h1]
      have hs1 := (addComps_dup [s] t fresh it.branch it.attrs t1 ad1 fr1 hs h1).sib
      have hf1 := sepFree_step s [s] t fresh it.branch it.attrs t1 ad1 fr1 hs hf w5 h1
      obtain ⟨i1, i2⟩ := ih t1 fr1 r (fun x hx => hwf x (List.mem_cons_of_mem _ hx)) hs1 hf1 h
      exact ⟨i1, fun hnd => i2 (h2 hnd)⟩

/-! ## `closure` is first-appearance order -/

/-- all prefixes of the branches `bs`, each once, in order of first appearance -/
def firstSeen (bs : List (List Str)) : List (List Str) := Rel.dedupBy (bs.flatMap prefixes)

open Rel

theorem dedupBy_of_nodup {α} [DecidableEq α] (l : List α) (h : l.Nodup) : dedupBy l = l := by
  induction l with
  | nil => rfl
  | cons x xs ih =>
    rw [List.nodup_cons] at h
    rw [dedupBy, ih h.2, List.filter_eq_self.mpr]
    intro y hy
    exact decide_eq_true fun e => h.1 (e ▸ hy)

theorem dedupBy_append {α} [DecidableEq α] (xs ys : List α) :
    dedupBy (xs ++ ys) = dedupBy xs ++ (dedupBy ys).filter (fun q => decide (q ∉ xs)) := by
  induction xs with
  | nil => simp [dedupBy]
  | cons x xs ih =>
    simp only [List.cons_append, dedupBy, ih, List.filter_append, List.filter_filter]
    congr 2
    apply List.filter_congr
    intro q _
    simp only [List.mem_cons, not_or, Bool.decide_and, ne_eq]

theorem closure_eq (bs : List (List Str)) : ∀ (L : List (List Str)),
    closure L bs = L ++ (dedupBy (bs.flatMap prefixes)).filter (fun q => decide (q ∉ L)) := by
  induction bs with
  | nil => intro L; simp [closure, dedupBy]
  | cons b bs ih =>
    intro L
    simp only [closure, ih, List.flatMap_cons, dedupBy_append, dedupBy_of_nodup _ (prefixes_nodup b),
      List.filter_append, List.filter_filter, List.append_assoc]
    congr 2
    apply List.filter_congr
    intro q _
    by_cases h1 : q ∈ L <;> simp [h1]

theorem closure_root (root : Str) (bs : List (List Str)) (hne : bs ≠ [])
    (hroot : ∀ b ∈ bs, b.head? = some root) : closure [[root]] bs = firstSeen bs := by
  obtain ⟨b, bs, rfl⟩ := List.exists_cons_of_ne_nil hne
  obtain ⟨b0, rest, rfl⟩ : ∃ b0 rest, b = b0 :: rest := by
    cases b with
    | nil => cases hroot [] List.mem_cons_self
    | cons b0 rest => exact ⟨b0, rest, rfl⟩
  cases hroot _ List.mem_cons_self
  rw [closure_eq, firstSeen]
  simp only [List.flatMap_cons, prefixes, List.cons_append, dedupBy]
  rw [List.nil_append, List.filter_cons_of_neg (by simp), List.filter_filter]
  refine congrArg _ (List.filter_congr fun q _ => ?_)
  by_cases h1 : q = [root] <;> simp [h1]

/-! ## any tree: the children paths of a node appear, in order, in the pre-order path list -/

theorem heads_sublist_pathsL (cs : List Tree) : (cs.map fun c => [c.name]).Sublist (pathsL cs) := by
  induction cs with
  | nil => exact List.Sublist.slnil
  | cons c cs ih =>
    rw [pathsL_cons, paths_eq, List.map_cons]
    exact List.Sublist.cons_cons _ (ih.trans (List.sublist_append_right _ _))

theorem paths_sublist_pathsL (cs : List Tree) (k : Nat) (c : Tree) (h : cs[k]? = some c) :
    (paths c).Sublist (pathsL cs) := by
  induction cs generalizing k with
  | nil => cases h
  | cons x xs ih =>
    rw [pathsL_cons]
    cases k with
    | zero => cases h; exact List.sublist_append_left _ _
    | succ k => exact (ih k h).trans (List.sublist_append_right _ _)

theorem kidPaths_cons (x : Str) (nm : List Str) (n : Tree) :
    kidPaths (x :: nm) n = (kidPaths nm n).map (x :: ·) := by
  simp [kidPaths, List.map_map, Function.comp_def]

theorem kidPaths_sublist_paths (b : Addr) : ∀ (t n : Tree), nodeAt b t = some n →
    (kidPaths (namesAlong b t) n).Sublist (paths t) := by
  induction b with
  | nil =>
    intro t n hn
    cases hn
    rw [paths_eq, namesAlong_nil, kidPaths_cons]
    refine List.Sublist.cons _ (List.Sublist.map _ ?_)
    simpa [kidPaths, List.map_map, Function.comp_def] using heads_sublist_pathsL t.children
  | cons k ks ih =>
    intro t n hn
    obtain ⟨c, hk, hn⟩ := nodeAt_cons_eq_some.mp hn
    rw [namesAlong_cons _ _ _ _ hk, paths_eq, kidPaths_cons]
    exact List.Sublist.cons _ (List.Sublist.map _ ((ih c n hn).trans (paths_sublist_pathsL t.children k c hk)))

theorem Listed.paths {t : Tree} (hs : SibUnique t) : Listed t (paths t) :=
  ⟨hs, nodup_paths t hs, fun _ => Iff.rfl, fun b n hn => kidPaths_sublist_paths b t n hn⟩

/-- The fold of `add_path_to_tree` over well-formed path strings, starting from ANY tree with
    pairwise different sibling names (the `add_*_by_path` functions; the constructors start it from
    a one-node tree): with `K := closure (paths t) branches`,
    the node paths of the result are exactly `K` (old paths, then every new prefix once, in order of
    first appearance), no path twice, and the children paths of every node are a sublist of `K`.
    With duplicates disallowed (`s` = the tree's separator, occurring in no name) a fold that does
    not raise gives the same result, and keeps all names distinct if they were. -/
theorem addMany_spec (s c : Char) (dupOk : Bool) (items : List Item) (t : Tree) (fresh : Nat) (t' : Tree)
    (fr' : Nat) (hwf : ∀ it ∈ items, it.Wf c) (hs : SibUnique t)
    (hno : dupOk = false → SepFree s t ∧ ∀ it ∈ items, ∀ x ∈ it.branch, s ∉ x)
    (h : addMany [s] [c] dupOk (items.map fun it => (it.render c, it.attrs)) t fresh = .ok (t', fr')) :
    addMany [s] [c] true (items.map fun it => (it.render c, it.attrs)) t fresh = .ok (t', fr') ∧
    Listed t' (closure (paths t) (items.map (·.branch))) ∧
    t'.name = t.name ∧ (∀ it ∈ items, it.branch.head? = some t.name) ∧
    (dupOk = false → (names t).Nodup → (names t').Nodup) := by
  have hdup : addMany [s] [c] true (items.map fun it => (it.render c, it.attrs)) t fresh = .ok (t', fr') ∧
      (dupOk = false → (names t).Nodup → (names t').Nodup) := by
    cases dupOk with
    | true => exact ⟨h, fun e => by cases e⟩
    | false =>
      obtain ⟨hf, hb⟩ := hno rfl
      obtain ⟨i1, i2⟩ := addMany_nodup s c items t fresh (t', fr') (fun x hx => ⟨hwf x hx, hb x hx⟩) hs hf h
      exact ⟨i1, fun _ => i2⟩
  obtain ⟨u1, u5, u6⟩ := addMany_fold [s] c items t fresh (paths t) t' fr' hwf (Listed.paths hs) hdup.1
  exact ⟨hdup.1, u1, u5, u6, hdup.2⟩

/-! ## the constructors: well-formed strings -/

/-- the components a well-formed path string stands for -/
def branchOf (c : Char) (p : Str) : List Str := split [c] (strip [c] p)

theorem branchOf_render (c : Char) (it : Item) (hw : it.Wf c) : branchOf c (it.render c) = it.branch :=
  split_strip_join c it.lead it.trail it.branch hw.1 hw.2.1 hw.2.2.1 hw.2.2.2

/-- a string is well-formed if some well-formed item renders to it (the item's attributes play no part
    and are fixed to `[]`) -/
def WfStr (c : Char) (p : Str) : Prop := ∃ it : Item, it.Wf c ∧ it.attrs = [] ∧ it.render c = p

theorem wfStr_render {c : Char} {it : Item} (hw : it.Wf c) : WfStr c (it.render c) :=
  ⟨{ it with attrs := [] }, hw, rfl, rfl⟩

theorem wfStr_strip {c : Char} {it : Item} (hw : it.Wf c) :
    WfStr c (strip [c] (it.render c)) ∧ branchOf c (strip [c] (it.render c)) = it.branch := by
  have hw' : (⟨[], it.branch, [], []⟩ : Item).Wf c :=
    ⟨hw.1, fun _ h => absurd h List.not_mem_nil, fun _ h => absurd h List.not_mem_nil, hw.2.2.2⟩
  have hr : (⟨[], it.branch, [], []⟩ : Item).render c = strip [c] (it.render c) := by
    unfold Item.render
    rw [strip_lead_join_trail c _ _ _ hw.1 hw.2.1 hw.2.2.1 hw.2.2.2, List.nil_append, List.append_nil]
  rw [← hr]
  exact ⟨wfStr_render hw', branchOf_render c _ hw'⟩

theorem not_mem_of_mem_splitC (c : Char) : ∀ (s : Str), ∀ x ∈ splitC c s, c ∉ x := by
  intro s
  induction s with
  | nil => exact List.forall_mem_singleton.mpr List.not_mem_nil
  | cons y ys ih =>
    rw [splitC]
    split
    · exact List.forall_mem_cons.mpr ⟨List.not_mem_nil, ih⟩
    · rename_i hy
      split
      · exact List.forall_mem_singleton.mpr fun h => hy (List.mem_singleton.mp h).symm
      · rename_i p ps hsp
        obtain ⟨hp, hps⟩ := List.forall_mem_cons.mp (hsp ▸ ih)
        exact List.forall_mem_cons.mpr ⟨fun h => (List.mem_cons.mp h).elim (fun e => hy e.symm) hp, hps⟩

theorem not_mem_split_headD (c : Char) (s : Str) : c ∉ (split [c] s).headD [] := by
  rw [split_single]
  cases h : splitC c s with
  | nil => exact List.not_mem_nil
  | cons p ps => exact not_mem_of_mem_splitC c s p (h ▸ List.mem_cons_self)

theorem items_of_pairs (c : Char) : ∀ (ps : List (Str × Attrs)), (∀ e ∈ ps, WfStr c e.1) →
    ∃ items : List Item, (∀ it ∈ items, it.Wf c) ∧ (items.map fun it => (it.render c, it.attrs)) = ps ∧
      items.map (·.branch) = ps.map fun e => branchOf c e.1 := by
  intro ps
  induction ps with
  | nil => intro _; exact ⟨[], fun _ h => absurd h List.not_mem_nil, rfl, rfl⟩
  | cons e ps ih =>
    intro h
    obtain ⟨it, hw, -, hr⟩ := h e List.mem_cons_self
    obtain ⟨items, h1, h2, h3⟩ := ih fun q hq => h q (List.mem_cons_of_mem _ hq)
    refine ⟨{ it with attrs := e.2 } :: items, fun x hx => ?_, ?_, ?_⟩
    · rcases List.mem_cons.mp hx with rfl | hx
      · exact hw
      · exact h1 x hx
    · rw [List.map_cons, h2]; exact congrArg (· :: ps) (Prod.ext hr rfl)
    · rw [List.map_cons, List.map_cons, h3, ← hr]
      exact congrArg (· :: _) (branchOf_render c it hw).symm

/-- The fold over well-formed strings from a one-node tree whose name is free of the separator
    (what `list_to_tree`, `dict_to_tree`, `dataframe_to_tree` come to): the node paths are the
    prefixes of the given paths in order of first appearance. -/
theorem fromLeaf_wfStr (c : Char) (dupOk : Bool) (ps : List (Str × Attrs)) (root : Str) (ra : Attrs)
    (fresh : Nat) (t' : Tree) (fr' : Nat) (hne : ps ≠ []) (hwf : ∀ e ∈ ps, WfStr c e.1) (hroot : c ∉ root)
    (h : addMany [c] [c] dupOk ps (.node 0 root ra []) fresh = .ok (t', fr')) :
    Listed t' (firstSeen (ps.map fun e => branchOf c e.1)) ∧ (dupOk = false → (names t').Nodup) := by
  obtain ⟨items, hit, rfl, hbr⟩ := items_of_pairs c ps hwf
  have hs0 : SibUnique (.node 0 root ra []) :=
    (sibUnique_iff _).mpr ⟨List.nodup_nil, fun _ h => absurd h List.not_mem_nil⟩
  have hp0 : paths (.node 0 root ra []) = [[root]] := rfl
  have hsf : dupOk = false → SepFree c (.node 0 root ra []) ∧ ∀ it ∈ items, ∀ x ∈ it.branch, c ∉ x := by
    refine fun _ => ⟨fun q hq x hx => ?_, fun it h x hx => ((hit it h).2.2.2 x hx).2⟩
    rw [hp0, List.mem_singleton] at hq
    rw [hq, List.mem_singleton] at hx
    exact hx ▸ hroot
  obtain ⟨-, u1, -, u6, u7⟩ := addMany_spec c c dupOk items (.node 0 root ra []) fresh t' fr' hit hs0 hsf h
  rw [hp0, closure_root root _ (fun e => hne (List.map_eq_nil_iff.mpr (List.map_eq_nil_iff.mp e)))
    (List.forall_mem_map.mpr u6), hbr] at u1
  exact ⟨u1, fun e => u7 e (List.nodup_cons.mpr ⟨List.not_mem_nil, List.nodup_nil⟩)⟩

/-- `dict_to_tree` on well-formed keys -/
theorem dictToTree_spec (c : Char) (dupOk : Bool) (items : List Item) (hwf : ∀ it ∈ items, it.Wf c) (t : Tree)
    (h : dictToTree [c] dupOk (items.map fun it => (it.render c, it.attrs)) = .ok t) :
    Listed t (firstSeen (items.map (·.branch))) ∧ (dupOk = false → (names t).Nodup) := by
  unfold dictToTree at h
  split at h
  · cases h
  · rename_i k0 a0 rest hd
    simp only at h
    split at h
    · cases h
    · split at h
      · cases h
      · rename_i t' fr' hm
        cases h
        have hne : items.map (fun it => (it.render c, it.attrs)) ≠ [] := hd ▸ List.cons_ne_nil _ _
        have := fromLeaf_wfStr c dupOk _ _ _ 1 t fr' (fun e => hne (List.map_eq_nil_iff.mp e)) (fun e he => ?_)
          (not_mem_split_headD c _) hm
        · simp only [List.map_map, Function.comp_def] at this
          rwa [List.map_congr_left fun it hit => branchOf_render c it (hwf it hit)] at this
        · obtain ⟨e', he', rfl⟩ := List.mem_map.mp he
          obtain ⟨it, hit, rfl⟩ := List.mem_map.mp he'
          exact wfStr_render (hwf it hit)

/-- `dataframe_to_tree` / `polars_to_tree` on well-formed paths (with repair D11 the loop runs under the
    separator given, so `/` may occur in names). -/
theorem rowsToTree_spec (c : Char) (dupOk : Bool) (items : List Item) (hwf : ∀ it ∈ items, it.Wf c) (t : Tree)
    (h : rowsToTree [c] dupOk (items.map fun it => (it.render c, it.attrs)) = .ok t) :
    SibUnique t ∧ (firstSeen (items.map (·.branch))).Nodup ∧
    (∀ q, q ∈ paths t ↔ q ∈ firstSeen (items.map (·.branch))) ∧
    (∀ b n, nodeAt b t = some n → (kidPaths (namesAlong b t) n).Sublist (firstSeen (items.map (·.branch)))) ∧
    (dupOk = false → (names t).Nodup) := by
  unfold rowsToTree at h
  simp only at h
  split at h
  · cases h
  · rename_i p0 a0 rest hr
    split at h
    · cases h
    · split at h
      · cases h
      · split at h
        · cases h
        · rename_i t' fr hm
          cases h
          -- the paths were stripped once already; they are still well-formed, with the same components
          have := fromLeaf_wfStr c dupOk _ _ _ 1 t fr (by rw [hr]; exact List.cons_ne_nil _ _) (fun e he => ?_)
            (not_mem_split_headD c _) hm
          · simp only [List.map_map, Function.comp_def] at this
            rw [List.map_congr_left fun it hit => (wfStr_strip (hwf it hit)).2] at this
            exact ⟨this.1.sib, this.1.nodup, this.1.mem, this.1.kids, this.2⟩
          · simp only [List.map_map, List.mem_map, Function.comp_def] at he
            obtain ⟨it, hit, rfl⟩ := he
            exact (wfStr_strip (hwf it hit)).1

/-! ## exact repeats among the given strings do not change first appearances -/

theorem dedupBy_flatMap_filter {α β} [DecidableEq α] [DecidableEq β] (g : α → List β) (x : α) : ∀ (l : List α),
    (dedupBy ((l.filter fun y => decide (y ≠ x)).flatMap g)).filter (fun q => decide (q ∉ g x)) =
    (dedupBy (l.flatMap g)).filter (fun q => decide (q ∉ g x)) := by
  intro l
  induction l with
  | nil => rfl
  | cons y l ih =>
    by_cases hy : y = x
    · subst hy
      rw [List.filter_cons_of_neg (by exact fun e => of_decide_eq_true e rfl), ih, List.flatMap_cons,
        dedupBy_append, List.filter_append]
      have : (dedupBy (g y)).filter (fun q => decide (q ∉ g y)) = [] :=
        List.filter_eq_nil_iff.mpr fun q hq e => of_decide_eq_true e ((mem_dedupBy _ _).mp hq)
      rw [this, List.nil_append, List.filter_filter]
      exact List.filter_congr fun q _ => (Bool.and_self _).symm
    · rw [List.filter_cons_of_pos (by exact decide_eq_true hy), List.flatMap_cons, List.flatMap_cons,
        dedupBy_append, dedupBy_append, List.filter_append, List.filter_append, List.filter_filter,
        List.filter_filter]
      congr 1
      rw [List.filter_congr fun q _ => Bool.and_comm _ _, ← List.filter_filter, ih, List.filter_filter]
      exact List.filter_congr fun q _ => Bool.and_comm _ _

theorem dedupBy_flatMap_dedupBy {α β} [DecidableEq α] [DecidableEq β] (g : α → List β) : ∀ (xs : List α),
    dedupBy ((dedupBy xs).flatMap g) = dedupBy (xs.flatMap g) := by
  intro xs
  induction xs with
  | nil => rfl
  | cons x xs ih =>
    simp only [dedupBy, List.flatMap_cons, dedupBy_append]
    rw [dedupBy_flatMap_filter g x (dedupBy xs), ih]

theorem paths_dedup_eq (l : List Str) : Paths.dedup l = dedupBy l := by
  induction l with
  | nil => rfl
  | cons x xs ih => simp [Paths.dedup, dedupBy, ih]

/-- `list_to_tree` on ANY list of well-formed path strings (repeats allowed) -/
theorem listToTree_spec (c : Char) (dupOk : Bool) (ps : List Str) (hwf : ∀ p ∈ ps, WfStr c p) (t : Tree)
    (h : listToTree [c] dupOk ps = .ok t) :
    Listed t (firstSeen (ps.map (branchOf c))) ∧ (dupOk = false → (names t).Nodup) := by
  have hfs : firstSeen ((Paths.dedup ps).map (branchOf c)) = firstSeen (ps.map (branchOf c)) := by
    rw [paths_dedup_eq, firstSeen, firstSeen, List.flatMap_map, List.flatMap_map]
    exact dedupBy_flatMap_dedupBy (fun p => prefixes (branchOf c p)) ps
  unfold listToTree at h
  split at h
  · cases h
  · rename_i p0 prest hd
    simp only at h
    split at h
    · cases h
    · split at h
      · cases h
      · rename_i t' fr' hm
        cases h
        have := fromLeaf_wfStr c dupOk ((p0 :: prest).map fun p => (p, [])) _ [] 1 t fr' (List.cons_ne_nil _ _)
          (fun e he => ?_) (not_mem_split_headD c _) hm
        · rwa [← hd, List.map_map, Function.comp_def, hfs] at this
        · obtain ⟨p, hp, rfl⟩ := List.mem_map.mp he
          exact hwf p ((mem_dedupBy ps p).mp (paths_dedup_eq ps ▸ hd ▸ hp))

end Paths
