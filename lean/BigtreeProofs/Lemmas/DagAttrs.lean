import BigtreeProofs.Lemmas.DagBasic
/-! Association-list facts for the attribute part of the DAG exports / constructors:
`attrSet` (one `dict.update` key), `attrUpdate`, `nonNull`. Lists are compared through `lookup`;
`keysOf a` duplicate-free says that `a` is a dictionary. -/

namespace Dag
open List

def keysOf (a : Attrs) : List Str := a.map (·.1)

/-- `List.lookup_cons` with `=` in place of `==` -/
theorem lookup_cons' (k : Str) (kv : Str × Val) (rest : Attrs) :
    List.lookup k (kv :: rest) = if k = kv.1 then some kv.2 else List.lookup k rest := by
  rw [List.lookup_cons]
  by_cases h : k = kv.1
  · rw [if_pos h, beq_iff_eq.2 h]
  · rw [if_neg h, beq_eq_false_iff_ne.2 h]

theorem lookup_eq_none_of_not_mem {a : Attrs} {k : Str} (h : k ∉ keysOf a) : a.lookup k = none :=
  lookup_eq_none_iff.2 fun _ hp => bne_iff_ne.2 fun hk => h (hk ▸ mem_map_of_mem hp)

theorem mem_of_lookup_eq_some {a : Attrs} {k : Str} {v : Val} (h : a.lookup k = some v) :
    (k, v) ∈ a :=
  let ⟨l₁, _, ha, _⟩ := lookup_eq_some_iff.1 h
  ha ▸ mem_append_right l₁ mem_cons_self

theorem lookup_eq_some_iff_mem {a : Attrs} (hnd : (keysOf a).Nodup) {k : Str} {v : Val} :
    a.lookup k = some v ↔ (k, v) ∈ a := by
  refine ⟨mem_of_lookup_eq_some, fun h => ?_⟩
  induction a with
  | nil => cases h
  | cons kv rest ih =>
    have hkv : kv.1 ∉ keysOf rest := (nodup_cons.1 hnd).1
    rw [lookup_cons']
    rcases mem_cons.1 h with rfl | h
    · exact if_pos rfl
    · rw [if_neg fun hk : k = kv.1 => hkv (hk ▸ mem_map_of_mem (f := (·.1)) h)]
      exact ih (nodup_cons.1 hnd).2 h

theorem lookup_congr {a b : Attrs} (ha : (keysOf a).Nodup) (hb : (keysOf b).Nodup)
    (h : ∀ x, x ∈ a ↔ x ∈ b) (k : Str) : a.lookup k = b.lookup k :=
  Option.ext fun v => by rw [lookup_eq_some_iff_mem ha, lookup_eq_some_iff_mem hb, h]

/-! ### `attrSet`, `attrUpdate` -/

theorem lookup_attrSet (a : Attrs) (k : Str) (v : Val) (k' : Str) :
    (attrSet a k v).lookup k' = if k' = k then some v else a.lookup k' := by
  induction a with
  | nil => exact lookup_cons' k' (k, v) []
  | cons kv rest ih =>
    rw [attrSet]
    split
    · rename_i h0
      rw [lookup_cons', lookup_cons', h0]
      split <;> rfl
    · rename_i h0
      rw [lookup_cons', lookup_cons', ih]
      by_cases hk : k' = k
      · rw [if_pos hk, if_pos hk, if_neg fun h : k' = kv.1 => h0 (h.symm.trans hk)]
      · rw [if_neg hk, if_neg hk]

theorem keysOf_attrSet (a : Attrs) (k : Str) (v : Val) :
    keysOf (attrSet a k v) = if k ∈ keysOf a then keysOf a else keysOf a ++ [k] := by
  induction a with
  | nil => rfl
  | cons kv rest ih =>
    rw [attrSet]
    show _ = if k ∈ kv.1 :: keysOf rest then kv.1 :: keysOf rest else kv.1 :: keysOf rest ++ [k]
    by_cases h0 : kv.1 = k
    · rw [if_pos h0, if_pos (h0 ▸ mem_cons_self)]; rfl
    · rw [if_neg h0]
      show kv.1 :: keysOf (attrSet rest k v) = _
      rw [ih]
      by_cases hm : k ∈ keysOf rest
      · rw [if_pos hm, if_pos (mem_cons_of_mem _ hm)]
      · rw [if_neg hm, if_neg fun hc => (mem_cons.1 hc).elim (fun h => h0 h.symm) hm]; rfl

theorem nodup_keysOf_attrSet {a : Attrs} (h : (keysOf a).Nodup) (k : Str) (v : Val) :
    (keysOf (attrSet a k v)).Nodup := by
  rw [keysOf_attrSet]
  split
  · exact h
  · exact nodup_snoc.2 ⟨h, ‹_›⟩

theorem nodup_keysOf_attrUpdate {a : Attrs} (h : (keysOf a).Nodup) (b : Attrs) :
    (keysOf (attrUpdate a b)).Nodup := by
  unfold attrUpdate
  induction b generalizing a with
  | nil => exact h
  | cons kv b ih => exact ih (nodup_keysOf_attrSet h kv.1 kv.2)

theorem lookup_attrUpdate_nodup (a : Attrs) {b : Attrs} (h : (keysOf b).Nodup) (k : Str) :
    (attrUpdate a b).lookup k = (b.lookup k).or (a.lookup k) := by
  unfold attrUpdate
  induction b generalizing a with
  | nil => rfl
  | cons kv b ih =>
    have hkv : kv.1 ∉ keysOf b := (nodup_cons.1 h).1
    rw [foldl_cons, ih _ (nodup_cons.1 h).2, lookup_attrSet, lookup_cons']
    split
    · rename_i hk; rw [lookup_eq_none_of_not_mem (hk ▸ hkv)]; rfl
    · rfl

theorem lookup_attrUpdate_self {a : Attrs} (h : (keysOf a).Nodup) (k : Str) :
    (attrUpdate a a).lookup k = a.lookup k := by
  rw [lookup_attrUpdate_nodup a h, Option.or_self]

/-! ### filters, `nonNull` -/

theorem nodup_keysOf_filter {a : Attrs} (h : (keysOf a).Nodup) (p : Str × Val → Bool) :
    (keysOf (a.filter p)).Nodup :=
  h.sublist (filter_sublist.map _)

theorem lookup_filter_key (a : Attrs) (q : Str → Bool) (k : Str) :
    (a.filter fun kv => q kv.1).lookup k = if q k then a.lookup k else none := by
  induction a with
  | nil => exact (ite_self _).symm
  | cons kv rest ih =>
    rw [filter_cons, lookup_cons']
    by_cases hk : k = kv.1
    · rw [← hk, if_pos rfl]
      split
      · exact (lookup_cons' ..).trans (if_pos hk)
      · exact ih.trans (if_neg ‹_›)
    · rw [if_neg hk]
      split
      · rw [lookup_cons', if_neg hk, ih]
      · exact ih

theorem lookup_nonNull {a : Attrs} (h : (keysOf a).Nodup) (k : Str) :
    (nonNull a).lookup k = match a.lookup k with
      | some .null => none
      | o => o := by
  refine Option.ext fun v => ?_
  rw [nonNull, lookup_eq_some_iff_mem (nodup_keysOf_filter h _), mem_filter,
    ← lookup_eq_some_iff_mem h, bne_iff_ne]
  cases hl : a.lookup k with
  | none => exact ⟨fun h' => (nomatch h'.1), (nomatch ·)⟩
  | some w =>
    cases w with
    | null => exact ⟨fun h' => absurd (Option.some.inj h'.1).symm h'.2, (nomatch ·)⟩
    | _ => exact ⟨And.left, fun h' => ⟨h', Option.some.inj h' ▸ (nomatch ·)⟩⟩

end Dag
