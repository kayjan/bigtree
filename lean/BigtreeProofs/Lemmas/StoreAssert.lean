import BigtreeProofs.Lemmas.StoreStep
/-!
# C20 on the pointer store: the `assertions` parameter only guards
-/

namespace Store

/-- checks on / off, the two configurations C20 compares; the statements in `Properties/C20.lean`
write the two records out -/
def onCfg (nd : Bool) : Cfg := { assertions := true, node := nd }
def offCfg (nd : Bool) : Cfg := { assertions := false, node := nd }

theorem setParent_off_same (nd : Bool) (s : Store) (v : Nat) (np : Option Nat) (f : Fault)
    (h : (setParent (onCfg nd) s v np f).2 = .ok) :
    setParent (offCfg nd) s v np f = setParent (onCfg nd) s v np f := by
  unfold setParent at h ⊢
  cases hg : checkParentType s np && checkParentLoop s v np with
  | false => rw [hg] at h; cases h
  | true => rfl

theorem setChildren_off_same (nd : Bool) (s : Store) (v : Nat) (cs : List Nat) (f : Fault)
    (h : (setChildren (onCfg nd) s v cs f).2 = .ok) :
    setChildren (offCfg nd) s v cs f = setChildren (onCfg nd) s v cs f := by
  unfold setChildren at h ⊢
  cases hg : checkChildrenLoop s v cs [] with
  | false => rw [hg] at h; cases h
  | true => rfl

theorem assignParentOf_off_same (nd : Bool) (s : Store) (ch p : Nat) (f : Fault)
    (h : (assignParentOf (onCfg nd) s ch p f).2 = .ok) :
    assignParentOf (offCfg nd) s ch p f = assignParentOf (onCfg nd) s ch p f := by
  unfold assignParentOf at h ⊢
  split
  · next hc => rw [if_pos hc] at h; exact setParent_off_same nd s ch (some p) f h
  · rfl

theorem extend_off_same (nd : Bool) (p : Nat) (cs : List Nat) (s : Store) (f : Fault) (k : Nat)
    (h : (extend (onCfg nd) s p cs f k).2 = .ok) :
    extend (offCfg nd) s p cs f k = extend (onCfg nd) s p cs f k := by
  induction cs generalizing s f k with
  | nil => rfl
  | cons x xs ih =>
    unfold extend at h ⊢
    cases ho : (assignParentOf (onCfg nd) s x p (if k = 0 then f else .none)).2 with
    | rej => simp only [ho] at h; cases h
    | ok =>
      simp only [ho] at h
      simp only [assignParentOf_off_same nd s x p _ ho, ho]
      exact ih _ _ _ h

theorem step_off_same (nd : Bool) (s : Store) (op : Op) (h : (step (onCfg nd) s op).2 = .ok) :
    step (offCfg nd) s op = step (onCfg nd) s op :=
  step_cases (P := fun r r' => r.2 = .ok → r' = r) (onCfg nd) (offCfg nd) s op (fun _ => rfl)
    (fun v np f _ => setParent_off_same nd s v np f) (fun v cs f _ => setChildren_off_same nd s v cs f)
    (fun _ _ _ => rfl) (fun p cs f k _ _ => extend_off_same nd p cs s f k)
    (fun p nm f _ => delItem_cases (P := fun r r' => r.2 = .ok → r' = r) _ _ s p nm f (fun _ => rfl) (fun _ _ => rfl)
      fun ch _ _ => setParent_off_same nd s ch none f)
    (fun _ _ _ _ _ => rfl) (fun _ _ _ _ => rfl) h

/-- every call of the history is accepted -/
def AllOk (c : Cfg) : Store → List Op → Prop
  | _, [] => True
  | s, op :: ops => (step c s op).2 = .ok ∧ AllOk c (step c s op).1 ops

theorem trace_off_same (nd : Bool) (ops : List Op) (s : Store) (h : AllOk (onCfg nd) s ops) :
    trace (offCfg nd) s ops = trace (onCfg nd) s ops := by
  induction ops generalizing s with
  | nil => rfl
  | cons op ops ih =>
    simp only [trace]
    rw [step_off_same nd s op h.1, ih _ h.2]

theorem run_off_same (nd : Bool) (ops : List Op) (s : Store) (h : AllOk (onCfg nd) s ops) :
    run (offCfg nd) s ops = run (onCfg nd) s ops := by
  induction ops generalizing s with
  | nil => rfl
  | cons op ops ih =>
    simp only [run, List.foldl_cons]
    rw [step_off_same nd s op h.1]
    exact ih _ h.2

end Store
