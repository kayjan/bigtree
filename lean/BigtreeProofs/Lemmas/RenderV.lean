import BigtreeModel.Render
/-! Helper lemmas for C18 (vertical rendering): the `unclosed_depth` loop of `yield_tree` computes the structural specification. -/
namespace Render

/-! ### `unclosed_depth` against the right-sibling flags of the ancestors -/

/-- the `unclosed_depth` set agrees with the right-sibling flags of the ancestors -/
def Agree (u : List Nat) (anc : List Bool) : Prop :=
  ∀ j (h : j < anc.length), (j + 1 ∈ u ↔ anc[j] = true)

theorem Agree.prefix {u : List Nat} {anc : List Bool} {b : Bool} (h : Agree u (anc ++ [b])) : Agree u anc := by
  intro j hj
  rw [h j (List.length_append ▸ Nat.lt_add_right 1 hj), List.getElem_append_left hj]

theorem preStr_agree (st : Style) (u : List Nat) (anc : List Bool) (h : Agree u anc) :
    preStr st u (anc.length + 1) = (anc.map st.glyph).flatten := by
  unfold preStr
  rw [Nat.add_sub_cancel]
  congr 1
  refine List.ext_getElem (by rw [List.length_map, List.length_map, List.length_range']) fun i h1 _ => ?_
  rw [List.length_map, List.length_range'] at h1
  rw [List.getElem_map, List.getElem_map, List.getElem_range', Nat.one_mul, Nat.add_comm]
  unfold Style.glyph
  by_cases hb : anc[i] = true
  · rw [if_pos hb, if_pos (List.contains_iff_mem.mpr ((h i h1).mpr hb))]
  · rw [if_neg hb, if_neg fun hc => hb ((h i h1).mp (List.contains_iff_mem.mp hc))]

/-! ### the loop over `preorder_iter` -/

/-- state of `unclosed_depth` after a run of the loop -/
def loopState (st : Style) : List Nat → List Visit → List Nat
  | u, [] => u
  | u, v :: vs => loopState st (stepLine st u v).1 vs

theorem yieldLoop_append (st : Style) (u : List Nat) (a b : List Visit) :
    yieldLoop st u (a ++ b) = yieldLoop st u a ++ yieldLoop st (loopState st u a) b := by
  induction a generalizing u with
  | nil => rfl
  | cons v vs ih => simp [yieldLoop, loopState, ih]

theorem loopState_append (st : Style) (u : List Nat) (a b : List Visit) :
    loopState st u (a ++ b) = loopState st (loopState st u a) b := by
  induction a generalizing u with
  | nil => rfl
  | cons v vs ih => simp [loopState, ih]

/-- `unclosed_depth.add(d)` / `.discard(d)` as the loop body writes them -/
theorem mem_add_if {u : List Nat} {d j : Nat} : j ∈ (if u.contains d then u else d :: u) ↔ j = d ∨ j ∈ u := by
  by_cases hc : u.contains d = true
  · rw [if_pos hc]
    exact ⟨Or.inr, fun h => h.elim (fun e => e ▸ List.contains_iff_mem.mp hc) id⟩
  · rw [if_neg hc]
    exact List.mem_cons

theorem mem_discard_if {u : List Nat} {d j : Nat} :
    j ∈ (if u.contains d then u.filter (· != d) else u) ↔ j ≠ d ∧ j ∈ u := by
  by_cases hc : u.contains d = true
  · rw [if_pos hc, List.mem_filter, bne_iff_ne, and_comm]
  · rw [if_neg hc]
    exact ⟨fun h => ⟨fun e => hc (List.contains_iff_mem.mpr (e ▸ h)), h⟩, And.right⟩

/-- the loop body on a non-root node: its depth is in the new `unclosed_depth` iff it has a right sibling,
the other depths stay; the line is drawn with the new set -/
theorem stepLine_succ (st : Style) (u : List Nat) (d : Nat) (hr : Bool) (n : Str) :
    (∀ j, j ∈ (stepLine st u ⟨d + 1, hr, n⟩).1 ↔ if j = d + 1 then hr = true else j ∈ u) ∧
    (stepLine st u ⟨d + 1, hr, n⟩).2 = (preStr st (stepLine st u ⟨d + 1, hr, n⟩).1 (d + 1), st.fill hr) := by
  cases hr
  · refine ⟨fun j => ?_, rfl⟩
    show j ∈ (if u.contains (d + 1) then u.filter (· != d + 1) else u) ↔ _
    rw [mem_discard_if]
    by_cases hj : j = d + 1 <;> simp [hj]
  · refine ⟨fun j => ?_, rfl⟩
    show j ∈ (if u.contains (d + 1) then u else (d + 1) :: u) ↔ _
    rw [mem_add_if]
    by_cases hj : j = d + 1 <;> simp [hj]

theorem stepLine_agree (st : Style) (u : List Nat) (anc : List Bool) (hr : Bool) (n : Str)
    (h : Agree u anc) :
    (stepLine st u ⟨anc.length + 1, hr, n⟩).2 = ((anc.map st.glyph).flatten, st.fill hr) ∧
    Agree (stepLine st u ⟨anc.length + 1, hr, n⟩).1 (anc ++ [hr]) := by
  obtain ⟨hmem, hsnd⟩ := stepLine_succ st u anc.length hr n
  have ag : Agree (stepLine st u ⟨anc.length + 1, hr, n⟩).1 (anc ++ [hr]) := by
    intro j hj
    rw [hmem]
    by_cases hlt : j < anc.length
    · rw [if_neg (Nat.succ_ne_succ_iff.mpr (Nat.ne_of_lt hlt)), List.getElem_append_left hlt]
      exact h j hlt
    · have : j = anc.length := by
        rw [List.length_append, List.length_singleton] at hj
        omega
      subst this
      rw [if_pos rfl, List.getElem_concat_length rfl]
  exact ⟨by rw [hsnd, preStr_agree st _ anc ag.prefix], ag⟩

mutual
theorem loop_specT (st : Style) (c : Tree) (anc : List Bool) (hr : Bool) (u : List Nat) (h : Agree u anc) :
    yieldLoop st u (visits 0 (anc.length + 1) hr c) = specT st anc hr c ∧
    Agree (loopState st u (visits 0 (anc.length + 1) hr c)) anc := by
  match c with
  | .node i n a cs =>
    have hs := stepLine_agree st u anc hr n h
    have ih := loop_specL st cs (anc ++ [hr]) (stepLine st u ⟨anc.length + 1, hr, n⟩).1 hs.2
    rw [List.length_append, List.length_singleton] at ih
    refine ⟨?_, ih.2.prefix⟩
    show _ :: yieldLoop st _ (visitsL 0 (anc.length + 1 + 1) cs) = _
    rw [ih.1, hs.1, specT]
theorem loop_specL (st : Style) (cs : List Tree) (anc : List Bool) (u : List Nat) (h : Agree u anc) :
    yieldLoop st u (visitsL 0 (anc.length + 1) cs) = specL st anc cs ∧
    Agree (loopState st u (visitsL 0 (anc.length + 1) cs)) anc := by
  match cs with
  | [] => exact ⟨rfl, h⟩
  | c :: cs =>
    have h1 := loop_specT st c anc (!cs.isEmpty) u h
    have h2 := loop_specL st cs anc _ h1.2
    rw [visitsL, specL, yieldLoop_append, loopState_append, h1.1, h2.1]
    exact ⟨rfl, h2.2⟩
end

theorem yieldLoop_root (st : Style) (t : Tree) : yieldLoop st [] (visits 0 0 false t) = specRoot st t := by
  match t with
  | .node i n a cs =>
    show _ :: yieldLoop st [] (visitsL 0 ([] : List Bool).length.succ cs) = _
    rw [(loop_specL st cs [] [] fun _ h => absurd h (Nat.not_lt_zero _)).1]
    rfl

/-! ### dropping `max_depth`

`yield_tree` runs the loop over the tree it has already pruned, on which the `max_depth` gate of `preorder_iter`
never fires: there `visits md` is `visits 0`, so the loop lemmas above are for `visits 0` only. -/

theorem visits_of_le {md d : Nat} (h : d + 1 ≤ md) (hr : Bool) (i : Nat) (n : Str) (a : Attrs) (cs : List Tree) :
    visits md d hr (.node i n a cs) = ⟨d, hr, n⟩ :: visitsL md (d + 1) cs := by
  rw [visits, if_pos]
  rw [Bool.or_eq_true, Bool.not_eq_true', decide_eq_false_iff_not]
  exact Or.inr (Nat.not_lt.mpr h)

mutual
theorem visits_cut (md d : Nat) (hr : Bool) (t : Tree) (h : d + 1 ≤ md) :
    visits md d hr (cut md (d + 1) t) = visits 0 d hr (cut md (d + 1) t) := by
  match t with
  | .node i n a cs =>
    rw [cut, visits_of_le h]
    show _ = _ :: visitsL 0 (d + 1) _
    by_cases he : (d + 1 == md) = true
    · rw [if_pos he]
      rfl
    · rw [if_neg he, visitsL_cut md (d + 1) cs (Nat.lt_of_le_of_ne h fun e => he (beq_iff_eq.mpr e))]
theorem visitsL_cut (md d : Nat) (cs : List Tree) (h : d + 1 ≤ md) :
    visitsL md d (cutL md (d + 1) cs) = visitsL 0 d (cutL md (d + 1) cs) := by
  match cs with
  | [] => rfl
  | c :: cs => rw [cutL, visitsL, visitsL, visits_cut md d _ c h, visitsL_cut md d cs h]
end

theorem visits_prune (md : Nat) (t : Tree) :
    visits md 0 false (prune md t) = visits 0 0 false (prune md t) := by
  unfold prune
  by_cases h : (md == 0) = true
  · rw [beq_iff_eq.mp h]
  · rw [if_neg h]
    exact visits_cut md 0 false t (Nat.pos_of_ne_zero fun e => h (beq_iff_eq.mpr e))

theorem yieldTree_eq_spec (st : Style) (md : Nat) (t : Tree) :
    yieldTree st md t = specRoot st (prune md t) := by
  unfold yieldTree
  rw [visits_prune, yieldLoop_root]

/-! ### names and indentation of the specification lines -/

mutual
theorem specT_names (st : Style) (anc : List Bool) (hr : Bool) (t : Tree) :
    (specT st anc hr t).map Line.name = namesT t := by
  match t with
  | .node i n a cs => rw [specT, List.map_cons, namesT, specL_names st (anc ++ [hr]) cs]
theorem specL_names (st : Style) (anc : List Bool) (cs : List Tree) :
    (specL st anc cs).map Line.name = namesL cs := by
  match cs with
  | [] => rfl
  | c :: cs => rw [specL, List.map_append, namesL, specT_names st anc _ c, specL_names st anc cs]
end

theorem specRoot_names (st : Style) (t : Tree) : (specRoot st t).map Line.name = namesT t := by
  match t with
  | .node i n a cs => rw [specRoot, List.map_cons, namesT, specL_names]

theorem glyphs_length (st : Style) (anc : List Bool) :
    ((anc.map st.glyph).flatten).length = anc.length * st.stem.length := by
  induction anc with
  | nil => exact (Nat.zero_mul _).symm
  | cons b bs ih =>
    have : (st.glyph b).length = st.stem.length := by
      cases b
      · exact List.length_replicate
      · rfl
    rw [List.map_cons, List.flatten_cons, List.length_append, ih, this, List.length_cons, Nat.succ_mul, Nat.add_comm]

theorem fill_length (st : Style) (h : st.lengthsOk = true) (b : Bool) : (st.fill b).length = st.stem.length := by
  rw [Style.lengthsOk, Bool.and_eq_true, beq_iff_eq, beq_iff_eq] at h
  cases b
  · exact (h.1.trans h.2).symm
  · exact h.1.symm

mutual
theorem specT_indent (st : Style) (h : st.lengthsOk = true) (anc : List Bool) (hr : Bool) (t : Tree) :
    (specT st anc hr t).map (fun l => (l.pre ++ l.fill).length) =
      (depthsT (anc.length + 1) t).map (· * st.stem.length) := by
  match t with
  | .node i n a cs =>
    have := specL_indent st h (anc ++ [hr]) cs
    rw [List.length_append, List.length_singleton] at this
    rw [specT, depthsT, List.map_cons, List.map_cons, this, List.length_append, glyphs_length, fill_length st h,
      Nat.succ_mul]
theorem specL_indent (st : Style) (h : st.lengthsOk = true) (anc : List Bool) (cs : List Tree) :
    (specL st anc cs).map (fun l => (l.pre ++ l.fill).length) =
      (depthsL (anc.length + 1) cs).map (· * st.stem.length) := by
  match cs with
  | [] => rfl
  | c :: cs => rw [specL, depthsL, List.map_append, List.map_append, specT_indent st h anc _ c, specL_indent st h anc cs]
end

theorem specRoot_indent (st : Style) (h : st.lengthsOk = true) (t : Tree) :
    (specRoot st t).map (fun l => (l.pre ++ l.fill).length) = (depthsT 0 t).map (· * st.stem.length) := by
  match t with
  | .node i n a cs =>
    rw [specRoot, depthsT, List.map_cons, List.map_cons, specL_indent st h [] cs, Nat.zero_mul]
    rfl
end Render
