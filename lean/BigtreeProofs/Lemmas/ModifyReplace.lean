import BigtreeProofs.Lemmas.ModifyEdit
/-!
# C08 helper lemmas: `replace_logic` — the child list of the destination's parent
-/
namespace Modify

variable {cfg : Cfg} {c : Char}

/-! ### re-appending children by name -/

/-- `_node.parent = None; _node.parent = parent` on the child list -/
def reappendKid (nm : Str) (cs : List Tree) : List Tree :=
  match findChild nm cs with
  | none => cs
  | some x => eraseChild nm cs ++ [x]

def reappendKids : List Str → List Tree → List Tree
  | [], cs => cs
  | n :: ns, cs => reappendKids ns (reappendKid n cs)

def reappendFn (nm : Str) (P : Tree) : Tree := setKids (reappendKid nm P.children) P

theorem reappend_eq (pp : List Str) (nm : Str) (t : Tree) :
    reappend pp nm t = modifyAt pp (reappendFn nm) t := by
  unfold reappend
  congr 1
  funext P
  unfold reappendFn reappendKid
  cases P with
  | node i n a cs =>
    simp only [Tree.children_node]
    cases findChild nm cs <;> simp [setKids]

theorem reappendFn_name (nm : Str) (P : Tree) : (reappendFn nm P).name = P.name := by
  simp [reappendFn]

theorem reappendAll_eq (pp : List Str) (ns : List Str) (t : Tree) :
    reappendAll pp ns t = modifyAt pp (fun P => setKids (reappendKids ns P.children) P) t := by
  induction ns generalizing t with
  | nil =>
    have : (fun P : Tree => setKids P.children P) = id := funext fun P => by cases P; rfl
    simp only [reappendAll, reappendKids, this, modifyAt_id]
  | cons n ns ih =>
    simp only [reappendAll, reappendKids]
    rw [ih, reappend_eq, modifyAt_modifyAt _ _ _ (reappendFn_name n)]
    congr 1
    funext P
    cases P
    simp [reappendFn, setKids]

theorem reappendKids_block (X A Y : List Tree) (hX : ∀ a ∈ A, ∀ y ∈ X, y.name ≠ a.name) :
    reappendKids (A.map Tree.name) (X ++ A ++ Y) = X ++ Y ++ A := by
  induction A generalizing Y with
  | nil => simp [reappendKids]
  | cons a A ih =>
    have h1 : reappendKid a.name (X ++ a :: A ++ Y) = X ++ A ++ (Y ++ [a]) := by
      unfold reappendKid
      rw [List.append_assoc, List.cons_append, findChild_of_split (hX a List.mem_cons_self) rfl,
        eraseChild_split (hX a List.mem_cons_self) rfl]
      simp only [List.append_assoc]
    simp only [List.map_cons, reappendKids]
    rw [h1, ih (Y ++ [a]) (fun a' ha' => hX a' (List.mem_cons_of_mem _ ha'))]
    simp only [List.append_assoc, List.singleton_append]

theorem laterNames_split {d : Str} {l r : List Tree} {x : Tree} (hl : ∀ y ∈ l, y.name ≠ d)
    (hx : x.name = d) : laterNames d (l ++ x :: r) = r.map Tree.name := by
  unfold laterNames
  induction l with
  | nil => simp [hx]
  | cons y l ih =>
    have hy' : (y.name == d) = false := beq_false_of_ne (hl y List.mem_cons_self)
    simp only [List.cons_append, List.dropWhile, hy', Bool.not_false]
    exact ih (fun z hz => hl z (List.mem_cons_of_mem _ hz))

/-! ### reading a node's child list off the entry list -/

/-- the entries of the children of the node at `q`, in sibling order -/
def kidsOf (q : List Str) (l : List Entry) : List Entry :=
  l.filter (fun e => under q e && e.1.length == q.length + 1)

/-- the entry of the child `x` of the node at `q` -/
def kidEntry (q : List Str) (x : Tree) : Entry := (q ++ [x.name], x.id, x.attrs)

theorem flatL_len1 (cs : List Tree) :
    (flatL cs).filter (fun e => e.1.length == 1) = cs.map (kidEntry []) := by
  induction cs with
  | nil => rfl
  | cons x cs ih =>
    rw [flatL_cons, List.filter_append, ih, flat_eq x]
    simp only [List.map_cons, List.filter_cons]
    have : ((flatL x.children).map (pre x.name)).filter (fun e => e.1.length == 1) = [] := by
      rw [List.filter_eq_nil_iff]
      intro e he
      obtain ⟨e', he', rfl⟩ := List.mem_map.1 he
      obtain ⟨y, _, e'', _, rfl⟩ := mem_flatL.1 he'
      simp [pre]
    simp [pre, this, kidEntry]

theorem kidsOf_getRel {q : List Str} {t P : Tree} (hP : getRel q t = some P) (hu : SibUnique t) :
    kidsOf q (flat t) = P.children.map (kidEntry q) := by
  unfold kidsOf
  have h2 : ∀ l : List Entry, (l.map (rebase q)).filter (fun e => e.1.length == q.length + 1)
      = (l.filter (fun e => e.1.length == 1)).map (rebase q) := by
    intro l
    rw [List.filter_map]
    congr 1
    apply List.filter_congr
    intro e _
    simp only [rebase, Function.comp_def, List.length_append]
    rw [Bool.eq_iff_iff, beq_iff_eq, beq_iff_eq, Nat.add_left_cancel_iff]
  rw [← List.filter_filter, filter_comm, flat_filter_under hP hu, h2, flat_eq P, List.filter_cons,
    if_neg (by exact Bool.false_ne_true), flatL_len1, List.map_map]
  exact List.map_congr_left fun x _ => by simp [rebase, kidEntry]

theorem kidsOf_filter (q : List Str) (p : Entry → Bool) (l : List Entry) :
    kidsOf q (l.filter p) = (kidsOf q l).filter p := by
  exact filter_comm _ _ _

theorem ent_of_kidEntry (q : List Str) {l1 l2 : List Tree} (h : l1.map (kidEntry q) = l2.map (kidEntry q)) :
    l1.map ent = l2.map ent := by
  have := congrArg (List.map fun e : Entry => (e.1.getLast?.getD [], e.2)) h
  simp only [List.map_map, Function.comp_def, kidEntry, List.getLast?_concat, Option.getD_some] at this
  exact this

theorem under_kid {p q : List Str} {a b : Str} (x : Nat × Attrs) (h : ¬ p ++ [a] <+: q) :
    under (p ++ [a]) (q ++ [b], x) = (decide (p = q) && b == a) := by
  rw [Bool.eq_iff_iff, under_iff, List.prefix_concat_iff, Bool.and_eq_true, decide_eq_true_eq, beq_iff_eq]
  constructor
  · rintro (e | e)
    · exact ⟨List.append_inj_left' e rfl, (List.singleton_inj.1 (List.append_inj_right' e rfl)).symm⟩
    · exact absurd e h
  · rintro ⟨rfl, rfl⟩
    exact Or.inl rfl

/-! ### the call with one pair, separator `c` everywhere -/

theorem validReplace_single (hc : cfg.Plain c) (t : Tree) (k : Nat) (fs : Str) (fp tp : List Str)
    (F : Tree) (f : Str) (hfr : FromOK cfg t fs fp F f) (hgt : GoodNames c (t.name :: tp)) :
    validReplace cfg (st0 t k) [(fs, some (pathStr c t.name tp))] = true := by
  unfold validReplace
  simp only [List.map_cons, List.map_nil, List.all_cons, List.all_nil, Bool.and_true, norm,
    hfr.norm, normTo_pathStr hc _ _ hgt, st0_tree, toRootOk_pathStr hc _ _ _ hgt]
  cases hw : cfg.withFullPath with
  | false => rfl
  | true => rw [fromRootOk_of hfr hw]; rfl

/-- A single (from, printed to-path) pair of `shift_and_replace_nodes` within one tree, the replaced node
exists and is not the from-node: the call is `replaceAt` under the replaced node's parent. -/
theorem replaceNodes_shift (hc : cfg.Plain c) (hcp : cfg.copy = false) (t : Tree) (k : Nat) {fs : Str}
    {fp : List Str} {F : Tree} {f : Str} (hfr : FromOK cfg t fs fp F f) (tpar : List Str) (d : Str)
    (hgt : GoodNames c (t.name :: tpar ++ [d])) {D : Tree} (hD : getRel (tpar ++ [d]) t = some D)
    (hne : fp ≠ tpar ++ [d]) {t' : Tree}
    (h : replaceAt true fp (tpar ++ [d]) tpar (stripIf cfg.deleteChildren F)
      (if cfg.deleteChildren then modifyAt fp (setKids []) t else t) = .ok t') :
    replaceNodes cfg (st0 t k) [(fs, some (pathStr c t.name (tpar ++ [d])))] = .ok (st0 t' k) := by
  have hr : resolveFrom cfg (st0 t k) fs = .ok (some (fp, F)) := hfr.res
  have hb : (fp == tpar ++ [d]) = false := beq_false_of_ne hne
  unfold replaceNodes
  rw [validReplace_single hc t k fs fp (tpar ++ [d]) F f hfr hgt]
  simp only [if_true, List.map_cons, List.map_nil, loopReplace, norm, hfr.norm,
    normTo_pathStr hc t.name (tpar ++ [d]) hgt]
  unfold stepReplace
  simp only [hr, hc.tsep, findFullPath_pathStr t (tpar ++ [d]) hgt, hD, Option.map_some,
    Option.isNone_none, hb, Bool.and_false, Bool.false_eq_true, if_false, hcp, Bool.not_false,
    Bool.and_true, Bool.true_and, parentOf_snoc]
  exact h ▸ rfl

end Modify
