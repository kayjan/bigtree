import BigtreeModel.Plot
/-!
# Lemmas about the Reingold–Tilford model (`BigtreeModel/Plot.lean`)

The second and third pass are put in one closed form (`fin`), from which the level, mid-point, sibling
and non-negativity clauses are read off. The first pass establishes `Good` on the annotated tree
whatever shifts the nodes carry on entry, and carries any condition on the shift vectors of the sibling
groups that survives the shift loop (`BumpClosed`) from the entry state to the stored shifts.
Every fact about the first pass climbs the same ladder, once per invariant:
`place_* → shiftSiblings_* → fpGroup_* → fpKids_* → firstPass_*` (`_ok`: `Good`; `_q`: a condition `Q` on
the shift vectors; `_sk`: the shape; `_invC` in `PlotContourPass`: separation of cousins).
The file ends with the shape of the drawing (`Sk`), the clearing step, and the fuel of `getSubtreeShift`.
Only core Lean is used (no Mathlib).
-/

namespace Plot

/-! ## facts about `Rat` with more than one use -/

theorem rat_scale_mono {s : Rat} (hs : 0 ≤ s) {m k : Nat} (h : m ≤ k) (j : Nat) :
    s * (m : Rat) / (j : Rat) ≤ s * (k : Rat) / (j : Rat) := by
  have hj : 0 ≤ ((j : Rat))⁻¹ := by
    rcases Nat.eq_zero_or_pos j with rfl | hpos
    · rw [show ((0 : Nat) : Rat)⁻¹ = 0 from Rat.inv_zero]; exact Rat.le_refl
    · exact Rat.le_of_lt (Rat.inv_pos.mpr (Rat.natCast_pos.mpr hpos))
  rw [Rat.div_def, Rat.div_def]
  exact Rat.mul_le_mul_of_nonneg_right
    (Rat.mul_le_mul_of_nonneg_left (Rat.natCast_le_natCast.mpr h) hs) hj

theorem rat_add_right_comm (a b c : Rat) : a + b + c = a + c + b := by ac_rfl

theorem rat_add_le_add {a b c d : Rat} (h1 : a ≤ b) (h2 : c ≤ d) : a + c ≤ b + d :=
  Rat.le_trans (Rat.add_le_add_right.mpr h1) (Rat.add_le_add_left.mpr h2)

theorem rat_le_max_left (a b : Rat) : a ≤ max a b := by
  rw [Rat.max_def]; split
  · assumption
  · exact Rat.le_refl

theorem rat_le_max_right (a b : Rat) : b ≤ max a b := by
  rw [Rat.max_def]; split
  · exact Rat.le_refl
  · next h => exact Rat.le_of_lt (Rat.not_le.mp h)

/-! ## chains -/

def Chain {α : Type} (R : α → α → Prop) : List α → Prop
  | [] => True
  | [_] => True
  | a :: b :: l => R a b ∧ Chain R (b :: l)

theorem chain_snoc {α : Type} {R : α → α → Prop} (n : α) (l : List α) (hc : Chain R l)
    (h : ∀ z, l.getLast? = some z → R z n) : Chain R (l ++ [n]) := by
  induction l with
  | nil => trivial
  | cons a l ih =>
    cases l with
    | nil => exact ⟨h a rfl, trivial⟩
    | cons b l => exact ⟨hc.1, ih hc.2 fun z hz => h z (by rwa [List.getLast?_cons_cons])⟩

theorem chain_get {α : Type} {R : α → α → Prop} (l : List α) (hc : Chain R l) :
    ∀ (i : Nat) (h : i + 1 < l.length), R (l[i]'(Nat.lt_of_succ_lt h)) l[i + 1] := by
  induction l with
  | nil => exact fun _ h => absurd h (Nat.not_lt_zero _)
  | cons a l ih =>
    intro i h
    cases l with
    | nil => exact absurd (Nat.lt_of_succ_lt_succ h) (Nat.not_lt_zero _)
    | cons b l =>
      cases i with
      | zero => exact hc.1
      | succ i => exact ih hc.2 i (Nat.lt_of_succ_lt_succ h)

theorem chain_pairwise {α : Type} {R : α → α → Prop} (htr : ∀ a b c, R a b → R b c → R a c)
    (l : List α) (hc : Chain R l) : l.Pairwise R := by
  induction l with
  | nil => exact List.Pairwise.nil
  | cons a l ih =>
    cases l with
    | nil => exact List.pairwise_singleton R a
    | cons b l =>
      have ih := ih hc.2
      refine List.pairwise_cons.mpr ⟨fun c hc' => ?_, ih⟩
      rcases List.mem_cons.mp hc' with rfl | hc'
      · exact hc.1
      · exact htr _ _ _ hc.1 ((List.pairwise_cons.mp ih).1 c hc')

/-! ## induction over the trees (the children hypothesis is by membership) -/

theorem FT.ind {P : FT → Prop}
    (h : ∀ x y cs, (∀ c ∈ cs, P c) → P (.node x y cs)) : ∀ t, P t :=
  @FT.rec P (fun cs => ∀ c ∈ cs, P c) h (fun _ hc => nomatch hc)
    (fun _ _ h1 h2 => List.forall_mem_cons.mpr ⟨h1, h2⟩)

theorem PT.ind {P : PT → Prop}
    (h : ∀ x m s cs, (∀ c ∈ cs, P c) → P (.node x m s cs)) : ∀ t, P t :=
  @PT.rec P (fun cs => ∀ c ∈ cs, P c) h (fun _ hc => nomatch hc)
    (fun _ _ h1 h2 => List.forall_mem_cons.mpr ⟨h1, h2⟩)

theorem ST.ind {P : ST → Prop}
    (h : ∀ s cs, (∀ c ∈ cs, P c) → P (.node s cs)) : ∀ t, P t :=
  @ST.rec P (fun cs => ∀ c ∈ cs, P c) h (fun _ hc => nomatch hc)
    (fun _ _ h1 h2 => List.forall_mem_cons.mpr ⟨h1, h2⟩)

theorem Sk.ind {P : Sk → Prop} (h : ∀ cs, (∀ c ∈ cs, P c) → P (.node cs)) : ∀ t, P t :=
  @Sk.rec P (fun cs => ∀ c ∈ cs, P c) h (fun _ hc => nomatch hc)
    (fun _ _ h1 h2 => List.forall_mem_cons.mpr ⟨h1, h2⟩)

/-! ## `FT`: the nodes of a tree -/

theorem subtreesL_eq_flatMap (cs : List FT) : FT.subtreesL cs = cs.flatMap FT.subtrees := by
  induction cs with
  | nil => rfl
  | cons c cs ih => rw [FT.subtreesL, ih, List.flatMap_cons]

theorem withDepthL_eq_flatMap (d : Nat) (cs : List FT) :
    FT.withDepthL d cs = cs.flatMap (FT.withDepth d) := by
  induction cs with
  | nil => rfl
  | cons c cs ih => rw [FT.withDepthL, ih, List.flatMap_cons]

theorem self_mem_subtrees : ∀ t : FT, t ∈ t.subtrees
  | .node _ _ _ => by rw [FT.subtrees]; exact List.mem_cons_self

theorem forall_mem_cons_flatMap {α β : Type} {Q : β → Prop} {a : β} {l : List α} {f : α → List β} :
    (∀ s ∈ a :: l.flatMap f, Q s) ↔ Q a ∧ ∀ c ∈ l, ∀ s ∈ f c, Q s := by
  rw [List.forall_mem_cons]
  simp only [List.mem_flatMap]
  exact and_congr_right' ⟨fun h c hc s hs => h s ⟨c, hc, hs⟩, fun h s ⟨c, hc, hs⟩ => h c hc s hs⟩

theorem forall_subtrees_node {Q : FT → Prop} {x y : Rat} {cs : List FT} :
    (∀ s ∈ (FT.node x y cs).subtrees, Q s) ↔ Q (.node x y cs) ∧ ∀ c ∈ cs, ∀ s ∈ c.subtrees, Q s := by
  rw [FT.subtrees, subtreesL_eq_flatMap, forall_mem_cons_flatMap]

theorem forall_withDepth_node {Q : Nat × FT → Prop} {d : Nat} {x y : Rat} {cs : List FT} :
    (∀ p ∈ (FT.node x y cs).withDepth d, Q p) ↔
      Q (d, .node x y cs) ∧ ∀ c ∈ cs, ∀ p ∈ c.withDepth (d + 1), Q p := by
  rw [FT.withDepth, withDepthL_eq_flatMap, forall_mem_cons_flatMap]

/-! ## second + third pass in closed form -/

theorem map_eq_self {α : Type} {f : α → α} {l : List α} (h : ∀ a ∈ l, f a = a) : l.map f = l :=
  (List.map_congr_left (g := fun a => a) h).trans (List.map_id' l)

theorem addXL_eq_map (a : Rat) (cs : List FT) : addXL a cs = cs.map (addX a) := by
  induction cs with
  | nil => rfl
  | cons c cs ih => rw [addXL, ih, List.map_cons]

theorem addX_zero : ∀ t : FT, addX 0 t = t := by
  apply FT.ind
  intro x y cs ih
  rw [addX, addXL_eq_map, Rat.add_zero, map_eq_self ih]

theorem thirdPass_eq (a : Rat) (t : FT) : thirdPass a t = addX a t := by
  unfold thirdPass
  split
  · next h => rw [h, addX_zero]
  · rfl

theorem secondPassL_eq_map (P : Params) (H d : Nat) (c : Rat) (cs : List PT) :
    secondPassL P H d c cs = cs.map (secondPass P H d c) := by
  induction cs with
  | nil => rfl
  | cons k cs ih => rw [secondPassL, ih, List.map_cons]

/-- final tree: second pass at depth `d` with cumulative `c`, then shifted by `a` -/
def fin (P : Params) (H : Nat) (a : Rat) (d : Nat) (c : Rat) (t : PT) : FT :=
  addX a (secondPass P H d c t).1

theorem fin_node (P : Params) (H : Nat) (a : Rat) (d : Nat) (c x m s : Rat) (cs : List PT) :
    fin P H a d c (.node x m s cs) =
      .node (x + s + c + (P.xoff + a)) (((H : Rat) - (d : Rat)) * P.lvl + P.yoff)
        (cs.map (fin P H a (d + 1) (c + m + s))) := by
  simp only [fin, secondPass, addX, addXL_eq_map, secondPassL_eq_map, List.map_map, Function.comp_def,
    Rat.add_assoc]
  rfl

theorem fin_x (P : Params) (H : Nat) (a : Rat) (d : Nat) (c : Rat) (t : PT) :
    (fin P H a d c t).x = t.x + t.shift + c + (P.xoff + a) := by
  cases t; rw [fin_node]; rfl

/-- the `x_adjustment` returned by `_second_pass` -/
def adjOf (P : Params) (H d : Nat) (c : Rat) (t : PT) : Rat := (secondPass P H d c t).2

theorem adjOf_node (P : Params) (H d : Nat) (c x m s : Rat) (cs : List PT) :
    adjOf P H d c (.node x m s cs) =
      if cs.isEmpty then max 0 (-(x + s + c + P.xoff))
      else maxL (cs.map (adjOf P H (d + 1) (c + m + s))) := by
  simp only [adjOf, secondPass, secondPassL_eq_map, List.map_map, Function.comp_def]
  rfl

theorem passes_eq (P : Params) (t : ST) :
    passes P t =
      fin P (firstPass P t).height (adjOf P (firstPass P t).height 1 0 (firstPass P t)) 1 0
        (firstPass P t) := by
  rw [passes, thirdPass_eq]; rfl

theorem fin_levels (P : Params) (H : Nat) (a : Rat) :
    ∀ (t : PT) (d : Nat) (c : Rat), ∀ p ∈ (fin P H a d c t).withDepth d,
      p.2.y = ((H : Rat) - (p.1 : Rat)) * P.lvl + P.yoff := by
  apply PT.ind
  intro x m s cs ih d c
  rw [fin_node, forall_withDepth_node, List.forall_mem_map]
  exact ⟨rfl, fun k hk => ih k hk _ _⟩

theorem rat_level_step (H a l y : Rat) : (H - a) * l + y - ((H - (a + 1)) * l + y) = l := by
  grind

theorem le_maxL {a : Rat} {l : List Rat} (h : a ∈ l) : a ≤ maxL l := by
  induction l with
  | nil => nomatch h
  | cons b l ih =>
    cases l with
    | nil => exact List.mem_singleton.mp h ▸ Rat.le_refl
    | cons c rest =>
      rcases List.mem_cons.mp h with rfl | h
      · exact rat_le_max_left _ _
      · exact Rat.le_trans (ih h) (rat_le_max_right _ _)

theorem rat_leaf (y a : Rat) : 0 ≤ y + a - a + max 0 (-y) := by
  rw [Rat.add_sub_cancel]
  have := rat_add_le_add (Rat.le_refl (a := y)) (rat_le_max_right 0 (-y))
  rwa [Rat.add_neg_cancel] at this

theorem fin_leaves (P : Params) (H : Nat) (a : Rat) :
    ∀ (t : PT) (d : Nat) (c : Rat), ∀ s ∈ (fin P H a d c t).subtrees, s.children = [] →
      0 ≤ s.x - a + adjOf P H d c t := by
  apply PT.ind
  intro x m s cs ih d c
  rw [fin_node, forall_subtrees_node, List.forall_mem_map, adjOf_node]
  constructor
  · intro hleaf
    rw [FT.children_node, List.map_eq_nil_iff] at hleaf
    subst hleaf
    rw [FT.x_node, ← Rat.add_assoc, List.isEmpty_nil, if_pos rfl]
    exact rat_leaf _ a
  · intro k hk n hn hleaf
    rw [List.isEmpty_eq_false_iff.mpr (List.ne_nil_of_mem hk), if_neg Bool.false_ne_true]
    exact Rat.le_trans (ih k hk _ _ n hn hleaf)
      (Rat.add_le_add_left.mpr (le_maxL (List.mem_map_of_mem hk)))

/-! ## conditions on the shift vectors of the sibling groups -/

mutual
/-- `Q` holds of the shift vector of every sibling group of the annotated tree -/
def PT.AllGroups (Q : List Rat → Prop) : PT → Prop
  | .node _ _ _ cs => Q (cs.map PT.shift) ∧ PT.AllGroupsL Q cs
def PT.AllGroupsL (Q : List Rat → Prop) : List PT → Prop
  | [] => True
  | c :: cs => PT.AllGroups Q c ∧ PT.AllGroupsL Q cs
end

theorem PT.allGroupsL_iff {Q : List Rat → Prop} {cs : List PT} :
    PT.AllGroupsL Q cs ↔ ∀ c ∈ cs, PT.AllGroups Q c := by
  induction cs with
  | nil => rw [PT.AllGroupsL]; exact ⟨fun _ _ h => (nomatch h), fun _ => trivial⟩
  | cons c cs ih => rw [PT.AllGroupsL, ih, List.forall_mem_cons]

theorem PT.allGroups_node {Q : List Rat → Prop} {x m s : Rat} {cs : List PT} :
    PT.AllGroups Q (.node x m s cs) ↔ Q (cs.map PT.shift) ∧ ∀ c ∈ cs, PT.AllGroups Q c := by
  rw [PT.AllGroups, PT.allGroupsL_iff]

theorem PT.allGroups_addShift {Q : List Rat → Prop} {d : Rat} :
    ∀ {t : PT}, PT.AllGroups Q (t.addShift d) ↔ PT.AllGroups Q t
  | .node _ _ _ _ => by rw [PT.addShift, PT.AllGroups, PT.AllGroups]

theorem ST.allGroupsL_iff {Q : List Rat → Prop} {cs : List ST} :
    ST.AllGroupsL Q cs ↔ ∀ c ∈ cs, ST.AllGroups Q c := by
  induction cs with
  | nil => rw [ST.AllGroupsL]; exact ⟨fun _ _ h => (nomatch h), fun _ => trivial⟩
  | cons c cs ih => rw [ST.AllGroupsL, ih, List.forall_mem_cons]

theorem ST.allGroups_node {Q : List Rat → Prop} {s : Rat} {cs : List ST} :
    ST.AllGroups Q (.node s cs) ↔ Q (cs.map ST.shift) ∧ ∀ c ∈ cs, ST.AllGroups Q c := by
  rw [ST.AllGroups, ST.allGroupsL_iff]

/-! ## `Good`, and what it gives for the final tree -/

/-- consecutive siblings have preliminary `x` exactly `sib` apart -/
def XChain (sib : Rat) (cs : List PT) : Prop := Chain (fun a b => b = a + sib) (cs.map PT.x)

mutual
/-- every node with children sits at `midpoint children + mod`, and the preliminary `x` of
    consecutive children are `sib` apart (whatever the shifts on entry) -/
def Good (sib : Rat) : PT → Prop
  | .node x m _ cs => (cs ≠ [] → x = midpoint cs + m) ∧ XChain sib cs ∧ GoodL sib cs
def GoodL (sib : Rat) : List PT → Prop
  | [] => True
  | c :: cs => Good sib c ∧ GoodL sib cs
end

theorem goodL_iff {sib : Rat} {cs : List PT} : GoodL sib cs ↔ ∀ c ∈ cs, Good sib c := by
  induction cs with
  | nil => rw [GoodL]; exact ⟨fun _ _ h => (nomatch h), fun _ => trivial⟩
  | cons c cs ih => rw [GoodL, ih, List.forall_mem_cons]

theorem good_node {sib x m s : Rat} {cs : List PT} :
    Good sib (.node x m s cs) ↔
      (cs ≠ [] → x = midpoint cs + m) ∧ XChain sib cs ∧ ∀ c ∈ cs, Good sib c := by
  rw [Good, goodL_iff]

theorem good_addShift {sib d : Rat} : ∀ {t : PT}, Good sib (t.addShift d) ↔ Good sib t
  | .node _ _ _ _ => by rw [PT.addShift, Good, Good]

/-- the mid-point clause on a final node -/
def MidOK (s : FT) : Prop :=
  ∀ f l, s.children.head? = some f → s.children.getLast? = some l → s.x = (f.x + l.x) / 2

theorem rat_mid (F L m s c e : Rat) :
    (L + F) / 2 + m + s + c + e = (F + (c + m + s) + e + (L + (c + m + s) + e)) / 2 := by
  grind

theorem fin_midpoint (P : Params) (H : Nat) (a : Rat) :
    ∀ (t : PT), Good P.sib t → ∀ (d : Nat) (c : Rat), ∀ s ∈ (fin P H a d c t).subtrees, MidOK s := by
  apply PT.ind
  intro x m s cs ih hg d c
  rw [good_node] at hg
  rw [fin_node, forall_subtrees_node, List.forall_mem_map]
  refine ⟨?_, fun k hk => ih k hk (hg.2.2 k hk) _ _⟩
  intro f l hf hl
  rw [FT.children_node, List.head?_map, Option.map_eq_some_iff] at hf
  rw [FT.children_node, List.getLast?_map, Option.map_eq_some_iff] at hl
  obtain ⟨f0, hf0, rfl⟩ := hf
  obtain ⟨l0, hl0, rfl⟩ := hl
  have hx := hg.1 (List.ne_nil_of_mem (List.mem_of_getLast? hl0))
  simp only [midpoint, hf0, hl0] at hx
  rw [FT.x_node, fin_x, fin_x, hx]
  exact rat_mid _ _ m s c _

theorem chain_sep {sib m e : Rat} (hm : m ≤ sib) {f : PT → Rat} (hf : ∀ k, f k = k.x + k.shift + e)
    (cs : List PT) (hx : XChain sib cs) (hs : (cs.map PT.shift).Pairwise (· ≤ ·)) :
    Chain (fun u v => u + m ≤ v) (cs.map f) := by
  induction cs with
  | nil => trivial
  | cons a l ih =>
    cases l with
    | nil => trivial
    | cons b l =>
      have hs' := List.pairwise_cons.mp hs
      refine ⟨?_, ih hx.2 hs'.2⟩
      have h1 : b.x = a.x + sib := hx.1
      have h2 : a.shift ≤ b.shift := hs'.1 _ List.mem_cons_self
      show f a + m ≤ f b
      rw [hf, hf, h1, rat_add_right_comm a.x sib, rat_add_right_comm _ sib]
      exact rat_add_le_add (Rat.add_le_add_right.mpr (Rat.add_le_add_left.mpr h2)) hm

theorem fin_siblings (P : Params) (H : Nat) (a : Rat) :
    ∀ (t : PT), Good P.sib t → t.AllGroups (fun l => l.Pairwise (· ≤ ·)) → ∀ (d : Nat) (c : Rat),
      ∀ s ∈ (fin P H a d c t).subtrees, Chain (fun u v => u + P.sib ≤ v) (s.children.map FT.x) := by
  apply PT.ind
  intro x m s cs ih hg hm d c
  rw [good_node] at hg
  rw [PT.allGroups_node] at hm
  rw [fin_node, forall_subtrees_node, List.forall_mem_map]
  refine ⟨?_, fun k hk => ih k hk (hg.2.2 k hk) (hm.2 k hk) _ _⟩
  rw [FT.children_node, List.map_map]
  exact chain_sep Rat.le_refl (fun k => (fin_x P H a _ _ k).trans (Rat.add_assoc _ _ _)) cs hg.2.1 hm.1

theorem rat_half_nonneg {a b : Rat} (ha : 0 ≤ a) (hb : 0 ≤ b) : 0 ≤ (a + b) / 2 := by
  rw [Rat.div_def]
  exact Rat.mul_nonneg (Rat.add_nonneg ha hb) (Rat.le_of_lt (Rat.inv_pos.mpr (by decide)))

theorem nonneg_of_mid : ∀ t : FT, (∀ s ∈ t.subtrees, MidOK s) →
    (∀ s ∈ t.subtrees, s.children = [] → 0 ≤ s.x) → ∀ s ∈ t.subtrees, 0 ≤ s.x := by
  apply FT.ind
  intro x y cs ih hmid hleaf
  rw [forall_subtrees_node] at hmid hleaf ⊢
  have hkids := fun c hc => ih c hc (hmid.2 c hc) (hleaf.2 c hc)
  refine ⟨?_, hkids⟩
  by_cases hne : cs = []
  · exact hleaf.1 hne
  · rw [hmid.1 _ _ (List.head?_eq_some_head hne) (List.getLast?_eq_some_getLast hne)]
    exact rat_half_nonneg (hkids _ (List.head_mem hne) _ (self_mem_subtrees _))
      (hkids _ (List.getLast_mem hne) _ (self_mem_subtrees _))

/-! ## the shift loop adds `s·m/j` to the `m`-th sibling -/

theorem addShift_x (d : Rat) : ∀ t : PT, (t.addShift d).x = t.x
  | .node _ _ _ _ => rfl

theorem addShift_shift (d : Rat) : ∀ t : PT, (t.addShift d).shift = t.shift + d
  | .node _ _ _ _ => rfl

theorem addShift_zero : ∀ t : PT, t.addShift 0 = t
  | .node _ _ _ _ => by rw [PT.addShift, Rat.add_zero]

theorem bumpPT_forall {p : PT → Prop} (hp : ∀ k e, p k → p (k.addShift e)) (s : Rat) (j m : Nat)
    (l : List PT) (h : ∀ k ∈ l, p k) : ∀ k ∈ bumpPT s j m l, p k := by
  induction l generalizing m with
  | nil => exact fun _ hk => nomatch hk
  | cons n l ih =>
    rw [List.forall_mem_cons] at h
    rw [bumpPT, List.forall_mem_cons]
    exact ⟨hp _ _ h.1, ih (m + 1) h.2⟩

theorem bumpPT_map {β : Type} {f : PT → β} (hf : ∀ e k, f (k.addShift e) = f k) (s : Rat) (j m : Nat)
    (l : List PT) : (bumpPT s j m l).map f = l.map f := by
  induction l generalizing m with
  | nil => rfl
  | cons n l ih => rw [bumpPT, List.map_cons, hf, ih, List.map_cons]

theorem bumpPT_map_shift (s : Rat) (j m : Nat) (l : List PT) :
    (bumpPT s j m l).map PT.shift = bumpR s j m (l.map PT.shift) := by
  induction l generalizing m with
  | nil => rfl
  | cons n l ih => rw [bumpPT, List.map_cons, addShift_shift, ih, List.map_cons, bumpR]

theorem bumpPT_append (s : Rat) (j m : Nat) (l1 l2 : List PT) :
    bumpPT s j m (l1 ++ l2) = bumpPT s j m l1 ++ bumpPT s j (m + l1.length) l2 := by
  induction l1 generalizing m with
  | nil => rfl
  | cons a l1 ih =>
    rw [List.cons_append, bumpPT, bumpPT, ih, List.length_cons, Nat.add_right_comm, Nat.add_assoc,
      List.cons_append]

theorem bumpPT_mem_idx {s : Rat} {j m : Nat} {k : PT} {l : List PT} (h : k ∈ bumpPT s j m l) :
    ∃ (i : Nat) (h : i < l.length), k = (l[i]).addShift (s * ((m + i : Nat) : Rat) / (j : Rat)) := by
  induction l generalizing m with
  | nil => nomatch h
  | cons a l ih =>
    rw [bumpPT, List.mem_cons] at h
    rcases h with rfl | h
    · exact ⟨0, Nat.zero_lt_succ _, rfl⟩
    · obtain ⟨i, hi, rfl⟩ := ih h
      exact ⟨i + 1, Nat.succ_lt_succ hi, by rw [Nat.add_right_comm, Nat.add_assoc]; rfl⟩

theorem bumpR_append (s : Rat) (j m : Nat) (l1 l2 : List Rat) :
    bumpR s j m (l1 ++ l2) = bumpR s j m l1 ++ bumpR s j (m + l1.length) l2 := by
  induction l1 generalizing m with
  | nil => rfl
  | cons a l1 ih =>
    rw [List.cons_append, bumpR, bumpR, ih, List.length_cons, Nat.add_right_comm, Nat.add_assoc,
      List.cons_append]

theorem bumpR_length (s : Rat) (j m : Nat) (l : List Rat) : (bumpR s j m l).length = l.length := by
  induction l generalizing m with
  | nil => rfl
  | cons a l ih => rw [bumpR, List.length_cons, ih, List.length_cons]

theorem bumpR_mem {s : Rat} {j m : Nat} {y : Rat} {l : List Rat} (h : y ∈ bumpR s j m l) :
    ∃ x ∈ l, ∃ k, m ≤ k ∧ y = x + s * (k : Rat) / (j : Rat) := by
  induction l generalizing m with
  | nil => nomatch h
  | cons a l ih =>
    rw [bumpR, List.mem_cons] at h
    rcases h with rfl | h
    · exact ⟨a, List.mem_cons_self, m, Nat.le_refl _, rfl⟩
    · obtain ⟨x, hx, k, hk, rfl⟩ := ih h
      exact ⟨x, List.mem_cons_of_mem _ hx, k, Nat.le_of_succ_le hk, rfl⟩

theorem bumpR_pairwise {s : Rat} (hs : 0 ≤ s) (j m : Nat) (l : List Rat) (h : l.Pairwise (· ≤ ·)) :
    (bumpR s j m l).Pairwise (· ≤ ·) := by
  induction l generalizing m with
  | nil => exact List.Pairwise.nil
  | cons a l ih =>
    rw [List.pairwise_cons] at h
    rw [bumpR, List.pairwise_cons]
    refine ⟨fun y hy => ?_, ih (m + 1) h.2⟩
    obtain ⟨x, hx, k, hk, rfl⟩ := bumpR_mem hy
    exact rat_add_le_add (h.1 x hx) (rat_scale_mono hs (Nat.le_of_succ_le hk) j)

theorem rat_div_natCast_zero (x : Rat) : x / ((0 : Nat) : Rat) = 0 := by
  rw [Rat.div_def]
  exact (congrArg (x * ·) Rat.inv_zero).trans (Rat.mul_zero x)

/-- for the first sibling (`j = 0`) the loop changes nothing: division by zero is zero -/
theorem bumpPT_den_zero (s : Rat) (m : Nat) (l : List PT) : bumpPT s 0 m l = l := by
  induction l generalizing m with
  | nil => rfl
  | cons n l ih => rw [bumpPT, rat_div_natCast_zero, addShift_zero, ih]

theorem bumpR_den_zero (s : Rat) (m : Nat) (l : List Rat) : bumpR s 0 m l = l := by
  induction l generalizing m with
  | nil => rfl
  | cons r l ih => rw [bumpR, rat_div_natCast_zero, Rat.add_zero, ih]

theorem maxShift_acc_le (sub : Rat) (node : PT) (ri : Nat) (l : List PT) (idx : Nat) (acc : Rat) :
    acc ≤ maxShift sub node ri l idx acc := by
  induction l generalizing idx acc with
  | nil => exact Rat.le_refl
  | cons k l ih => exact Rat.le_trans (rat_le_max_left _ _) (ih _ _)

/-- the shift is at least what every left sibling asks for -/
theorem maxShift_ge (sub : Rat) (node : PT) (ri : Nat) (l : List PT) (idx : Nat) (acc : Rat)
    (i : Nat) (h : i < l.length) :
    getSubtreeShift sub (idx + i) ri (l[i].height + 1) l[i] [] node [] 0 0 0 true ≤
      maxShift sub node ri l idx acc := by
  induction l generalizing idx acc i with
  | nil => exact absurd h (Nat.not_lt_zero _)
  | cons k l ih =>
    rw [maxShift]
    cases i with
    | zero => exact Rat.le_trans (rat_le_max_right _ _) (maxShift_acc_le ..)
    | succ i =>
      rw [← Nat.add_assoc, Nat.add_right_comm]
      exact ih (idx + 1) _ i (Nat.lt_of_succ_lt_succ h)

/-- the shift step in one equation: also for `j = 0`, where the bump is the identity -/
theorem shiftSiblings_eq (sub : Rat) (done : List PT) (node : PT) (pend : List Rat) :
    shiftSiblings sub done node pend =
      (bumpPT (maxShift sub node done.length done 0 0) done.length 0 (done ++ [node]),
        bumpR (maxShift sub node done.length done 0 0) done.length (done.length + 1) pend) := by
  unfold shiftSiblings
  dsimp only
  split
  · next h => rw [h, bumpPT_den_zero, bumpR_den_zero]
  · rfl

/-! ## the first pass establishes `Good` -/

/-- what the sibling loop keeps and delivers (independent of the shifts) -/
def KidsOK (sib : Rat) (kids : List PT) : Prop := XChain sib kids ∧ ∀ k ∈ kids, Good sib k

theorem place_eq (sib : Rat) (done : List PT) (h : Rat) (kids : List PT) :
    ∃ x m, place sib done h kids = .node x m h kids ∧ (kids ≠ [] → x = midpoint kids + m) ∧
      ∀ z, done.getLast? = some z → x = z.x + sib := by
  unfold place
  cases done.getLast? with
  | none =>
    refine ⟨_, _, rfl, fun hne => ?_, fun _ hz => nomatch hz⟩
    rw [List.isEmpty_eq_false_iff.mpr hne, if_neg Bool.false_ne_true, if_neg Bool.false_ne_true,
      Rat.add_zero]
  | some z =>
    refine ⟨_, _, rfl, fun hne => ?_, fun _ hz => by cases hz; rfl⟩
    rw [List.isEmpty_eq_false_iff.mpr hne, if_neg Bool.false_ne_true, if_neg Bool.false_ne_true,
      Rat.add_comm (midpoint kids), Rat.sub_add_cancel]

theorem shiftSiblings_ok {sib sub : Rat} {done : List PT} {tl : List Rat} {node : PT}
    (hinv : KidsOK sib done)
    (hx : ∀ z, done.getLast? = some z → node.x = z.x + sib) (hgood : Good sib node) :
    KidsOK sib (shiftSiblings sub done node tl).1 := by
  rw [shiftSiblings_eq]
  refine ⟨?_, bumpPT_forall (fun _ _ => good_addShift.mpr) _ _ _ _
    (List.forall_mem_append.mpr ⟨hinv.2, List.forall_mem_singleton.mpr hgood⟩)⟩
  rw [XChain, bumpPT_map addShift_x, List.map_append]
  refine chain_snoc _ _ hinv.1 (fun z hz => ?_)
  rw [List.getLast?_map, Option.map_eq_some_iff] at hz
  obtain ⟨z0, hz0, rfl⟩ := hz
  exact hx z0 hz0

theorem fpGroup_ok (P : Params) (ts : List ST) (hts : ∀ t ∈ ts, KidsOK P.sib (fpKids P t))
    (done : List PT) (pend : List Rat) (hinv : KidsOK P.sib done) :
    KidsOK P.sib (fpGroup P ts done pend) := by
  induction ts generalizing done pend with
  | nil => rw [fpGroup]; exact hinv
  | cons t ts ih =>
    rw [List.forall_mem_cons] at hts
    rw [fpGroup]
    obtain ⟨x, m, he, hmid, hx⟩ := place_eq P.sib done (pend.headD 0) (fpKids P t)
    exact ih hts.2 _ _ (shiftSiblings_ok hinv (by rw [he]; exact hx)
      (by rw [he, good_node]; exact ⟨hmid, hts.1⟩))

theorem fpKids_ok (P : Params) : ∀ t : ST, KidsOK P.sib (fpKids P t) := by
  apply ST.ind
  intro s cs ih
  rw [fpKids]
  exact fpGroup_ok P cs ih _ _ ⟨trivial, fun _ hk => nomatch hk⟩

/-- holds for ARBITRARY shifts on entry -/
theorem firstPass_good (P : Params) (t : ST) : Good P.sib (firstPass P t) := by
  rw [firstPass, good_node]
  exact ⟨fun _ => (Rat.add_zero _).symm, fpKids_ok P t⟩

/-! ## conditions on the shift vectors of the sibling groups are carried through a run -/

/-- `Q` survives the shift loop: adding `s·m/j` (`s ≥ 0`) to the `m`-th component -/
def BumpClosed (Q : List Rat → Prop) : Prop :=
  ∀ (s : Rat) (j : Nat) (l : List Rat), 0 ≤ s → Q l → Q (bumpR s j 0 l)

theorem bumpClosed_mono : BumpClosed (fun l => l.Pairwise (· ≤ ·)) :=
  fun _ j l hs h => bumpR_pairwise hs j 0 l h

theorem bumpClosed_nonneg : BumpClosed (fun l => ∀ s ∈ l, (0 : Rat) ≤ s) := by
  intro s j l hs h y hy
  obtain ⟨x, hx, k, _, rfl⟩ := bumpR_mem hy
  have h2 := rat_scale_mono hs (Nat.zero_le k) j
  rw [show s * ((0 : Nat) : Rat) / (j : Rat) = 0 by
    rw [show ((0 : Nat) : Rat) = 0 from rfl, Rat.mul_zero, Rat.div_def, Rat.zero_mul]] at h2
  exact Rat.add_nonneg (h x hx) h2

/-- what the loop delivers for `Q` -/
def KidsQ (Q : List Rat → Prop) (kids : List PT) : Prop :=
  Q (kids.map PT.shift) ∧ ∀ k ∈ kids, PT.AllGroups Q k

theorem shiftSiblings_q {Q : List Rat → Prop} (hQ : BumpClosed Q) {sub : Rat} {done : List PT}
    {h : Rat} {tl : List Rat} {node : PT}
    (hq : Q (done.map PT.shift ++ h :: tl)) (hd : ∀ k ∈ done, PT.AllGroups Q k)
    (hshift : node.shift = h) (hn : PT.AllGroups Q node) :
    Q ((shiftSiblings sub done node tl).1.map PT.shift ++ (shiftSiblings sub done node tl).2) ∧
      ∀ k ∈ (shiftSiblings sub done node tl).1, PT.AllGroups Q k := by
  rw [shiftSiblings_eq]
  refine ⟨?_, bumpPT_forall (fun _ _ => PT.allGroups_addShift.mpr) _ _ _ _
    (List.forall_mem_append.mpr ⟨hd, List.forall_mem_singleton.mpr hn⟩)⟩
  subst hshift
  have := hQ (maxShift sub node done.length done 0 0) done.length _
    (maxShift_acc_le ..) hq
  -- the entry vector is `(done ++ [node]).map PT.shift ++ tl`
  rw [← List.singleton_append, ← List.append_assoc, ← List.map_singleton (f := PT.shift),
    ← List.map_append, bumpR_append, Nat.zero_add, List.length_map, List.length_append,
    List.length_singleton] at this
  rw [bumpPT_map_shift]
  exact this

theorem fpGroup_q {Q : List Rat → Prop} (hQ : BumpClosed Q) (P : Params) (ts : List ST)
    (hts : ∀ t ∈ ts, KidsQ Q (fpKids P t)) (done : List PT) (pend : List Rat)
    (hq : Q (done.map PT.shift ++ pend)) (hd : ∀ k ∈ done, PT.AllGroups Q k)
    (hlen : pend.length = ts.length) : KidsQ Q (fpGroup P ts done pend) := by
  induction ts generalizing done pend with
  | nil =>
    rw [List.length_eq_zero_iff.mp hlen, List.append_nil] at hq
    exact ⟨hq, hd⟩
  | cons t ts ih =>
    obtain ⟨h, tl, rfl⟩ := List.exists_cons_of_length_eq_add_one hlen
    rw [List.forall_mem_cons] at hts
    rw [fpGroup]
    obtain ⟨x, m, he, -⟩ := place_eq P.sib done h (fpKids P t)
    have hstep := shiftSiblings_q hQ (sub := P.sub) (node := place P.sib done h (fpKids P t)) hq hd
      (by rw [he, PT.shift_node]) (by rw [he, PT.allGroups_node]; exact hts.1)
    refine ih hts.2 _ _ hstep.1 hstep.2 ?_
    rw [shiftSiblings_eq, bumpR_length]
    exact Nat.succ.inj hlen

theorem fpKids_q {Q : List Rat → Prop} (hQ : BumpClosed Q) (P : Params) :
    ∀ t : ST, t.AllGroups Q → KidsQ Q (fpKids P t) := by
  apply ST.ind
  intro s cs ih h
  rw [ST.allGroups_node] at h
  rw [fpKids]
  exact fpGroup_q hQ P cs (fun t ht => ih t ht (h.2 t ht)) _ _ h.1 (fun _ hk => nomatch hk)
    (List.length_map _)

theorem firstPass_q {Q : List Rat → Prop} (hQ : BumpClosed Q) (P : Params) (t : ST)
    (h : t.AllGroups Q) : (firstPass P t).AllGroups Q := by
  rw [firstPass, PT.allGroups_node]
  exact fpKids_q hQ P t h

theorem PT.toSTL_eq_map (cs : List PT) : PT.toSTL cs = cs.map PT.toST := by
  induction cs with
  | nil => rfl
  | cons c cs ih => rw [PT.toSTL, ih, List.map_cons]

theorem PT.toST_shift : ∀ t : PT, t.toST.shift = t.shift
  | .node _ _ _ _ => by rw [PT.toST]; rfl

theorem toST_allGroups {Q : List Rat → Prop} : ∀ t : PT, t.toST.AllGroups Q ↔ t.AllGroups Q := by
  apply PT.ind
  intro x m s cs ih
  rw [PT.toST, PT.toSTL_eq_map, ST.allGroups_node, PT.allGroups_node, List.map_map,
    List.map_congr_left (f := ST.shift ∘ PT.toST) (g := PT.shift) (fun c _ => PT.toST_shift c),
    List.forall_mem_map]
  exact and_congr_right' (forall_congr' fun c => forall_congr' fun hc => ih c hc)

theorem stored_q {Q : List Rat → Prop} (hQ : BumpClosed Q) (P : Params) (t : ST)
    (h : t.clear.AllGroups Q) : (stored P t).AllGroups Q :=
  (toST_allGroups _).mpr (firstPass_q hQ P t.clear h)

/-! ## structural edits keep the conditions -/

theorem forall_mem_modNth {g : ST → ST} {p : ST → Prop} (hg : ∀ c, p c → p (g c)) (i : Nat)
    (l : List ST) (h : ∀ c ∈ l, p c) : ∀ c ∈ modNth g i l, p c := by
  induction l generalizing i with
  | nil => cases i <;> exact fun _ hc => nomatch hc
  | cons c cs ih =>
    rw [List.forall_mem_cons] at h
    cases i with
    | zero => rw [modNth, List.forall_mem_cons]; exact ⟨hg c h.1, h.2⟩
    | succ i => rw [modNth, List.forall_mem_cons]; exact ⟨h.1, ih i h.2⟩

theorem modNth_map_shift {g : ST → ST} (hg : ∀ c, (g c).shift = c.shift) (i : Nat) (l : List ST) :
    (modNth g i l).map ST.shift = l.map ST.shift := by
  induction l generalizing i with
  | nil => cases i <;> rfl
  | cons c cs ih =>
    cases i with
    | zero => rw [modNth, List.map_cons, hg, List.map_cons]
    | succ i => rw [modNth, List.map_cons, ih, List.map_cons]

theorem modifyAt_shift (f : List ST → List ST) : ∀ (p : List Nat) (t : ST),
    (t.modifyAt f p).shift = t.shift
  | [], .node _ _ => rfl
  | _ :: _, .node _ _ => rfl

theorem modifyAt_allGroups {Q : List Rat → Prop} (f : List ST → List ST)
    (hf : ∀ cs, Q (cs.map ST.shift) → (∀ c ∈ cs, ST.AllGroups Q c) →
      Q ((f cs).map ST.shift) ∧ ∀ c ∈ f cs, ST.AllGroups Q c) :
    ∀ (p : List Nat) (t : ST), t.AllGroups Q → (t.modifyAt f p).AllGroups Q := by
  intro p
  induction p with
  | nil =>
    intro t h
    cases t with
    | node s cs =>
      rw [ST.allGroups_node] at h
      rw [ST.modifyAt, ST.allGroups_node]
      exact hf cs h.1 h.2
  | cons i p ih =>
    intro t h
    cases t with
    | node s cs =>
      rw [ST.allGroups_node] at h
      rw [ST.modifyAt, ST.allGroups_node, modNth_map_shift (modifyAt_shift f p)]
      exact ⟨h.1, forall_mem_modNth ih i cs h.2⟩

theorem eraseIdx_map {α β : Type} (f : α → β) : ∀ (l : List α) (i : Nat),
    (l.eraseIdx i).map f = (l.map f).eraseIdx i
  | [], _ => rfl
  | _ :: _, 0 => rfl
  | a :: l, i + 1 => by
    rw [List.eraseIdx_cons_succ, List.map_cons, eraseIdx_map f l i, List.map_cons,
      List.eraseIdx_cons_succ]

theorem pairwise_eraseIdx {R : Rat → Rat → Prop} : ∀ (l : List Rat) (i : Nat),
    l.Pairwise R → (l.eraseIdx i).Pairwise R :=
  fun _ i h => h.eraseIdx i

/-! ## fresh trees -/

theorem ST.ofTrees_eq_map (cs : List Tree) : ST.ofTrees cs = cs.map ST.ofTree := by
  induction cs with
  | nil => rfl
  | cons c cs ih => rw [ST.ofTrees, ih, List.map_cons]

theorem ST.ofTree_shift : ∀ t : Tree, (ST.ofTree t).shift = 0
  | .node _ _ _ _ => by rw [ST.ofTree]; rfl

theorem zero_group {α : Type} {Q : List Rat → Prop} (hz : ∀ l : List Rat, (∀ s ∈ l, s = 0) → Q l)
    {f : α → ST} (hf : ∀ c, (f c).shift = 0) (cs : List α) : Q ((cs.map f).map ST.shift) := by
  refine hz _ fun s hs => ?_
  rw [List.map_map, List.mem_map] at hs
  obtain ⟨c, -, rfl⟩ := hs
  exact hf c

theorem ofTree_allGroups {Q : List Rat → Prop} (hz : ∀ l : List Rat, (∀ s ∈ l, s = 0) → Q l) :
    ∀ t : Tree, (ST.ofTree t).AllGroups Q := by
  apply Tree.ind
  intro i n a cs ih
  rw [ST.ofTree, ST.ofTrees_eq_map, ST.allGroups_node, List.forall_mem_map]
  exact ⟨zero_group hz ST.ofTree_shift cs, ih⟩

/-! ## the drawing has the shape of the input -/

theorem ST.skL_eq_map (cs : List ST) : ST.skL cs = cs.map ST.sk := by
  induction cs with
  | nil => rfl
  | cons c cs ih => rw [ST.skL, ih, List.map_cons]

theorem PT.skL_eq_map (cs : List PT) : PT.skL cs = cs.map PT.sk := by
  induction cs with
  | nil => rfl
  | cons c cs ih => rw [PT.skL, ih, List.map_cons]

theorem FT.skL_eq_map (cs : List FT) : FT.skL cs = cs.map FT.sk := by
  induction cs with
  | nil => rfl
  | cons c cs ih => rw [FT.skL, ih, List.map_cons]

theorem ST.sk_eq (t : ST) : t.sk = .node (t.children.map ST.sk) := by
  cases t; rw [ST.sk, ST.skL_eq_map]; rfl

theorem FT.sk_eq (t : FT) : t.sk = .node (t.children.map FT.sk) := by
  cases t; rw [FT.sk, FT.skL_eq_map]; rfl

theorem PT.sk_node (x m s : Rat) (cs : List PT) : (PT.node x m s cs).sk = .node (cs.map PT.sk) := by
  rw [PT.sk, PT.skL_eq_map]

theorem PT.sk_eq (t : PT) : t.sk = .node (t.children.map PT.sk) := by
  cases t; rw [PT.sk_node]; rfl

theorem fin_sk (P : Params) (H : Nat) (a : Rat) : ∀ (t : PT) (d : Nat) (c : Rat),
    (fin P H a d c t).sk = t.sk := by
  apply PT.ind
  intro x m s cs ih d c
  rw [fin_node, FT.sk, FT.skL_eq_map, PT.sk_node, List.map_map,
    List.map_congr_left (f := FT.sk ∘ fin P H a (d + 1) (c + m + s)) (g := PT.sk)
      (fun k hk => ih k hk _ _)]

theorem addShift_sk (d : Rat) : ∀ t : PT, (t.addShift d).sk = t.sk
  | .node _ _ _ _ => by rw [PT.addShift, PT.sk, PT.sk]

theorem place_sk (sib : Rat) (done : List PT) (h : Rat) (kids : List PT) :
    (place sib done h kids).sk = .node (kids.map PT.sk) := by
  obtain ⟨x, m, he, -⟩ := place_eq sib done h kids
  rw [he, PT.sk_node]

theorem shiftSiblings_sk (sub : Rat) (done : List PT) (node : PT) (tl : List Rat) :
    (shiftSiblings sub done node tl).1.map PT.sk = done.map PT.sk ++ [node.sk] := by
  rw [shiftSiblings_eq, bumpPT_map addShift_sk, List.map_append, List.map_singleton]

theorem fpGroup_sk (P : Params) (ts : List ST)
    (hts : ∀ t ∈ ts, (fpKids P t).map PT.sk = t.children.map ST.sk) (done : List PT) (pend : List Rat) :
    (fpGroup P ts done pend).map PT.sk = done.map PT.sk ++ ts.map ST.sk := by
  induction ts generalizing done pend with
  | nil => rw [fpGroup, List.map_nil, List.append_nil]
  | cons t ts ih =>
    rw [List.forall_mem_cons] at hts
    rw [fpGroup, ih hts.2, shiftSiblings_sk, place_sk, hts.1, ← ST.sk_eq, List.append_assoc,
      List.map_cons]
    rfl

theorem fpKids_sk (P : Params) : ∀ t : ST, (fpKids P t).map PT.sk = t.children.map ST.sk := by
  apply ST.ind
  intro s cs ih
  rw [fpKids, fpGroup_sk P cs ih, List.map_nil, List.nil_append, ST.children_node]

theorem place_fpKids_sk (P : Params) (done : List PT) (h : Rat) (t : ST) :
    (place P.sib done h (fpKids P t)).sk = t.sk := by
  rw [place_sk, fpKids_sk, ← ST.sk_eq]

theorem firstPass_sk (P : Params) (t : ST) : (firstPass P t).sk = t.sk := by
  rw [firstPass, PT.sk_node, fpKids_sk, ← ST.sk_eq]

theorem passes_sk (P : Params) (t : ST) : (passes P t).sk = t.sk := by
  rw [passes_eq, fin_sk, firstPass_sk]

theorem passes_children_length (P : Params) (t : ST) :
    (passes P t).children.length = t.children.length := by
  have h := passes_sk P t
  rw [FT.sk_eq, ST.sk_eq] at h
  have := congrArg List.length (Sk.node.inj h)
  rwa [List.length_map, List.length_map] at this

/-! ## the clearing step -/

theorem ST.clearL_eq_map (cs : List ST) : ST.clearL cs = cs.map ST.clear := by
  induction cs with
  | nil => rfl
  | cons c cs ih => rw [ST.clearL, ih, List.map_cons]

theorem ST.clear_shift : ∀ t : ST, t.clear.shift = 0
  | .node _ _ => by rw [ST.clear]; rfl

theorem clear_allGroups {Q : List Rat → Prop} (hz : ∀ l : List Rat, (∀ s ∈ l, s = 0) → Q l) :
    ∀ t : ST, t.clear.AllGroups Q := by
  apply ST.ind
  intro s0 cs ih
  rw [ST.clear, ST.clearL_eq_map, ST.allGroups_node, List.forall_mem_map]
  exact ⟨zero_group hz ST.clear_shift cs, ih⟩

theorem clear_mono (t : ST) : t.clear.Mono := by
  refine clear_allGroups (fun l hl => ?_) t
  refine List.pairwise_of_forall_mem_list fun a ha b hb => ?_
  rw [hl a ha, hl b hb]
  exact Rat.le_refl

mutual
/-- the fresh tree of a given shape -/
def Sk.toST : Sk → ST
  | .node cs => .node 0 (Sk.toSTL cs)
def Sk.toSTL : List Sk → List ST
  | [] => []
  | c :: cs => Sk.toST c :: Sk.toSTL cs
end

theorem Sk.toSTL_eq_map (cs : List Sk) : Sk.toSTL cs = cs.map Sk.toST := by
  induction cs with
  | nil => rfl
  | cons c cs ih => rw [Sk.toSTL, ih, List.map_cons]

theorem clear_eq_of_sk : ∀ t : ST, t.clear = Sk.toST t.sk := by
  apply ST.ind
  intro s cs ih
  rw [ST.clear, ST.clearL_eq_map, ST.sk, ST.skL_eq_map, Sk.toST, Sk.toSTL_eq_map, List.map_map,
    List.map_congr_left (g := Sk.toST ∘ ST.sk) ih]

theorem Sk.sk_toST : ∀ s : Sk, (Sk.toST s).sk = s := by
  apply Sk.ind
  intro cs ih
  rw [Sk.toST, Sk.toSTL_eq_map, ST.sk, ST.skL_eq_map, List.map_map, map_eq_self (f := ST.sk ∘ Sk.toST) ih]

theorem clear_sk (t : ST) : t.clear.sk = t.sk := by
  rw [clear_eq_of_sk, Sk.sk_toST]

theorem PT.toST_sk : ∀ t : PT, t.toST.sk = t.sk := by
  apply PT.ind
  intro x m s cs ih
  rw [PT.toST, PT.toSTL_eq_map, ST.sk, ST.skL_eq_map, PT.sk_node, List.map_map,
    List.map_congr_left (f := ST.sk ∘ PT.toST) (g := PT.sk) ih]

theorem stored_sk (P : Params) (t : ST) : (stored P t).sk = t.sk := by
  rw [stored, PT.toST_sk, firstPass_sk, clear_sk]

/-! ## the fuel of `getSubtreeShift` never runs out -/

theorem PT.heightL_le_iff {n : Nat} {l : List PT} : PT.height.heightL l ≤ n ↔ ∀ k ∈ l, k.height ≤ n := by
  induction l with
  | nil => exact ⟨fun _ _ hk => (nomatch hk), fun _ => Nat.zero_le n⟩
  | cons c cs ih => rw [PT.height.heightL, Nat.max_le, List.forall_mem_cons, ih]

theorem PT.height_le_heightL {k : PT} {l : List PT} (h : k ∈ l) : k.height ≤ PT.height.heightL l :=
  PT.heightL_le_iff.mp (Nat.le_refl _) k h

theorem PT.height_pos : ∀ t : PT, 1 ≤ t.height
  | .node _ _ _ _ => by rw [PT.height]; exact Nat.le_add_right 1 _

theorem PT.height_children (t : PT) : PT.height.heightL t.children + 1 = t.height := by
  cases t; rw [PT.height, Nat.add_comm]; rfl

theorem scanLeft_mem (sibs : List PT) (cur : PT) : scanLeft cur sibs ∈ cur :: sibs := by
  induction sibs generalizing cur with
  | nil => exact List.mem_cons_self
  | cons l ls ih =>
    rw [scanLeft]
    split
    · exact List.mem_cons_of_mem _ (ih l)
    · exact List.mem_cons_self

/-- any fuel that covers the height of the left sibling group (the node the walk looks at next is one of
    them, and its children are one level lower) gives the same result -/
theorem gss_fuel (sub : Rat) (li ri : Nat) (extra fuel : Nat) : ∀ (left : PT) (lsibs : List PT)
    (right : PT) (rsibs : List PT) (lcum rcum cum : Rat) (initial : Bool),
    PT.height.heightL (left :: lsibs) ≤ fuel →
    getSubtreeShift sub li ri (fuel + extra) left lsibs right rsibs lcum rcum cum initial =
      getSubtreeShift sub li ri fuel left lsibs right rsibs lcum rcum cum initial := by
  induction fuel with
  | zero =>
    intro left lsibs _ _ _ _ _ _ h
    exact absurd
      (Nat.le_trans (PT.height_pos left) (Nat.le_trans (PT.height_le_heightL List.mem_cons_self) h))
      (Nat.not_succ_le_zero 0)
  | succ fuel ih =>
    intro left lsibs right rsibs lcum rcum cum initial h
    rw [Nat.add_right_comm, getSubtreeShift, getSubtreeShift]
    dsimp only
    have hl : (if initial = true then left else scanLeft left lsibs).height ≤ fuel + 1 := by
      refine Nat.le_trans (PT.height_le_heightL ?_) h
      split
      · exact List.mem_cons_self
      · exact scanLeft_mem lsibs left
    split
    · next lc lrest _ _ hrev _ =>
      refine ih lc lrest _ _ _ _ _ false ?_
      rw [← PT.height_children, ← List.reverse_reverse (PT.children _), hrev] at hl
      exact PT.heightL_le_iff.mpr fun k hk =>
        PT.heightL_le_iff.mp (Nat.le_of_succ_le_succ hl) k (List.mem_reverse.mpr hk)
    · rfl

/-- the fuel handed out by `maxShift` (`height + 1`) is enough: any larger amount gives the same
    result, so the out-of-fuel branch of `getSubtreeShift` is never taken by `firstPass` -/
theorem gss_fuel_sufficient (sub : Rat) (li ri : Nat) (l node : PT) (extra : Nat) :
    getSubtreeShift sub li ri (l.height + 1 + extra) l [] node [] 0 0 0 true =
      getSubtreeShift sub li ri (l.height + 1) l [] node [] 0 0 0 true :=
  gss_fuel sub li ri extra _ l [] node [] 0 0 0 true
    (PT.heightL_le_iff.mpr fun _ hk => List.mem_singleton.mp hk ▸ Nat.le_succ _)

end Plot
