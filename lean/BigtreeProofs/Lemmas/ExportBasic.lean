import BigtreeModel.Export
/-! Helper lemmas for C06: Python dicts as association lists (`dset`, `dupdate`, `dget`), `describe`, and
each exporter's accumulator loop as a function of the pre-order list, and `AllNodes` unfolded.
Core Lean only. -/

namespace Export

/-! ### dicts as association lists -/

theorem dset_append_of_not_mem {β : Type} (r : List (Str × β)) (k : Str) (v : β)
    (h : k ∉ r.map Prod.fst) : dset r k v = r ++ [(k, v)] := by
  induction r with
  | nil => rfl
  | cons x xs ih =>
    obtain ⟨k', v'⟩ := x
    rw [List.map_cons, List.mem_cons, not_or] at h
    rw [dset, if_neg (Ne.symm h.1), ih h.2, List.cons_append]

theorem foldl_dset_fresh {β : Type} (es : List (Str × β)) : ∀ (r : List (Str × β)),
    (es.map Prod.fst).Nodup → (∀ k ∈ es.map Prod.fst, k ∉ r.map Prod.fst) →
    es.foldl (fun d e => dset d e.1 e.2) r = r ++ es := by
  induction es with
  | nil => intro r _ _; exact (List.append_nil r).symm
  | cons x xs ih =>
    intro r hn hd
    rw [List.map_cons, List.nodup_cons] at hn
    rw [List.foldl_cons, dset_append_of_not_mem r x.1 x.2 (hd _ List.mem_cons_self), ih _ hn.2,
      List.append_assoc, List.singleton_append]
    intro k hk
    rw [List.map_append, List.mem_append, not_or]
    exact ⟨hd k (List.mem_cons_of_mem _ hk), fun e => hn.1 (List.mem_singleton.mp e ▸ hk)⟩

/-- an optional assignment as a fold over at most one entry, so that consecutive ones concatenate -/
theorem ite_dset (c : Prop) [Decidable c] {β : Type} (r : List (Str × β)) (k : Str) (v : β) :
    (if c then dset r k v else r) = (if c then [(k, v)] else []).foldl (fun d e => dset d e.1 e.2) r := by
  split <;> rfl

theorem ite_append (c : Prop) [Decidable c] {α : Type} (acc : List α) (x : α) :
    (if c then acc ++ [x] else acc) = acc ++ if c then [x] else [] := by
  split <;> simp

theorem dupdate_nil (r : Rec) : dupdate r [] = r := rfl

theorem dupdate_cons (r : Rec) (kv : Str × Val) (u : Rec) :
    dupdate r (kv :: u) = dupdate (dset r kv.1 kv.2) u := rfl

theorem dset_self (r : Rec) (k : Str) (v : Val) (hn : (r.map Prod.fst).Nodup) (hm : (k, v) ∈ r) :
    dset r k v = r := by
  induction r with
  | nil => cases hm
  | cons x xs ih =>
    obtain ⟨k', v'⟩ := x
    rw [List.map_cons, List.nodup_cons] at hn
    rw [dset]
    rcases List.mem_cons.mp hm with h | h
    · cases h; rw [if_pos rfl]
    · rw [if_neg (fun e => hn.1 (List.mem_map.mpr ⟨(k, v), h, e.symm⟩)), ih hn.2 h]

/-- `Node(name, **a)` followed by `set_attrs(a)`: re-assigning entries a dict already has changes nothing -/
theorem dupdate_sub (a : Rec) (hn : (a.map Prod.fst).Nodup) :
    ∀ (u : Rec), (∀ kv ∈ u, kv ∈ a) → dupdate a u = a
  | [], _ => rfl
  | x :: xs, h => by
    rw [dupdate_cons, dset_self a x.1 x.2 hn (h x List.mem_cons_self)]
    exact dupdate_sub a hn xs (fun kv hkv => h kv (List.mem_cons_of_mem _ hkv))

theorem dupdate_self (a : Rec) (hn : (a.map Prod.fst).Nodup) : dupdate a a = a :=
  dupdate_sub a hn a (fun _ h => h)

theorem dget_cons_self {β : Type} (k : Str) (v : β) (r : List (Str × β)) : dget ((k, v) :: r) k = some v :=
  if_pos rfl

theorem dget_of_not_mem {β : Type} (r : List (Str × β)) (k : Str) (h : k ∉ r.map Prod.fst) :
    dget r k = none := by
  induction r with
  | nil => rfl
  | cons x xs ih =>
    obtain ⟨k', v'⟩ := x
    rw [List.map_cons, List.mem_cons, not_or] at h
    rw [dget, if_neg (Ne.symm h.1), ih h.2]

/-! ### `describe` -/

theorem insertByKey_perm (kv : Str × Val) (l : Rec) : (insertByKey kv l).Perm (kv :: l) := by
  induction l with
  | nil => exact List.Perm.refl _
  | cons x xs ih =>
    unfold insertByKey
    split
    · exact List.Perm.refl _
    · exact ((List.Perm.cons x ih).trans (List.Perm.swap kv x xs))

theorem sortByKey_perm (l : Rec) : (sortByKey l).Perm l := by
  induction l with
  | nil => exact List.Perm.refl _
  | cons x xs ih => exact (insertByKey_perm x _).trans (List.Perm.cons x ih)

theorem describe_keys_nodup (a : Attrs) (h : (a.map Prod.fst).Nodup) :
    ((describe a).map Prod.fst).Nodup :=
  List.Nodup.sublist ((List.filter_sublist (l := sortByKey a)).map Prod.fst)
    (((sortByKey_perm a).map Prod.fst).nodup_iff.mpr h)

theorem describe_no_name (a : Attrs) : strName ∉ (describe a).map Prod.fst := by
  intro h
  obtain ⟨kv, hkv, hk⟩ := List.mem_map.mp h
  have := (List.mem_filter.mp hkv).2
  simp [hk] at this

theorem describe_mem (a : Attrs) (kv : Str × Val) (h : kv ∈ describe a) : kv ∈ a :=
  (sortByKey_perm a).mem_iff.mp (List.mem_filter.mp h).1

/-! ### one record -/

theorem strName_ne_nil : strName ≠ [] := by decide

theorem addAttrs_full (r : Rec) (a : Attrs) (o : Opts) (ho : o.allAttrs = true)
    (hn : (a.map Prod.fst).Nodup) (hd : ∀ k ∈ (describe a).map Prod.fst, k ∉ r.map Prod.fst) :
    addAttrs o a r = r ++ describe a := by
  rw [addAttrs, if_pos ho]
  exact foldl_dset_fresh _ r (describe_keys_nodup a hn) hd

theorem addAttrs_full_name (pc : Str) (a : Attrs) (v : Val) (hn : (a.map Prod.fst).Nodup) :
    addAttrs (fullOpts pc) a [(strName, v)] = (strName, v) :: describe a :=
  addAttrs_full _ a _ rfl hn fun k hk hk' => describe_no_name a ((List.mem_singleton.mp hk' : k = strName) ▸ hk)

/-- the fixed entries of a record: path (rows only), name, parent name — each only when its key is given -/
def fixedEntries (o : Opts) (sep : Char) (anc : List Str) (t : Tree) : Rec :=
  (if o.pathCol ≠ [] then [(o.pathCol, Val.str (pathName sep anc t.name))] else []) ++
  (if o.nameKey ≠ [] then [(o.nameKey, Val.str t.name)] else []) ++
  (if o.parentKey ≠ [] then [(o.parentKey, parentVal anc)] else [])

/-- the three optional assignments of `record` are one fold over `fixedEntries`, which appends them
when the given keys are distinct -/
theorem record_fixed (o : Opts) (sep : Char) (anc : List Str) (t : Tree)
    (hn : ((fixedEntries o sep anc t).map Prod.fst).Nodup) :
    record o sep anc t = addAttrs o t.attrs (fixedEntries o sep anc t) := by
  rw [record, ite_dset, ite_dset, ite_dset, ← List.foldl_append, ← List.foldl_append, ← List.append_assoc]
  exact congrArg _ (foldl_dset_fresh _ [] hn (fun _ _ h => nomatch h))

/-! ### the accumulator loops of the three exporters -/

/-- the records of the selected nodes, in pre-order -/
def rowsSpec (o : Opts) (sep : Char) (l : List (List Str × Tree)) : List Rec :=
  (l.filter (selected o)).map fun x => record o sep x.1 x.2

theorem selected_full (pc : Str) (x : List Str × Tree) : selected (fullOpts pc) x = true := rfl

theorem rowsSpec_cons (o : Opts) (sep : Char) (x : List Str × Tree) (l : List (List Str × Tree)) :
    rowsSpec o sep (x :: l)
      = (if selected o x then [record o sep x.1 x.2] else []) ++ rowsSpec o sep l := by
  rw [rowsSpec, List.filter_cons]
  split <;> rfl

theorem rowsSpec_append (o : Opts) (sep : Char) (l₁ l₂ : List (List Str × Tree)) :
    rowsSpec o sep (l₁ ++ l₂) = rowsSpec o sep l₁ ++ rowsSpec o sep l₂ := by
  rw [rowsSpec, List.filter_append, List.map_append]; rfl

mutual
theorem appendRows_eq (o : Opts) (sep : Char) : ∀ (t : Tree) (anc : List Str) (acc : List Rec),
    appendRows o sep anc acc t = acc ++ rowsSpec o sep (preCtx anc t)
  | .node i n a cs => by
    intro anc acc
    rw [appendRows, ite_append, appendRowsL_eq o sep cs, preCtx, rowsSpec_cons, List.append_assoc]
    rfl
theorem appendRowsL_eq (o : Opts) (sep : Char) : ∀ (ts : List Tree) (anc : List Str) (acc : List Rec),
    appendRowsL o sep anc acc ts = acc ++ rowsSpec o sep (preCtxL anc ts)
  | [] => fun _ acc => (List.append_nil acc).symm
  | t :: ts => by
    intro anc acc
    rw [appendRowsL, appendRows_eq o sep t, appendRowsL_eq o sep ts, preCtxL, rowsSpec_append,
      List.append_assoc]
end

/-- the (path, record) entries of the selected nodes, in pre-order -/
def dictSpec (o : Opts) (sep : Char) (l : List (List Str × Tree)) : List (Str × Rec) :=
  (l.filter (selected o)).map fun x => (pathName sep x.1 x.2.name, record o sep x.1 x.2)

/-- `data_dict[k] = v` for a list of entries -/
def dsetAll (acc : List (Str × Rec)) (es : List (Str × Rec)) : List (Str × Rec) :=
  es.foldl (fun d e => dset d e.1 e.2) acc

theorem dsetAll_append (acc : List (Str × Rec)) (e₁ e₂ : List (Str × Rec)) :
    dsetAll acc (e₁ ++ e₂) = dsetAll (dsetAll acc e₁) e₂ :=
  List.foldl_append ..

theorem dictSpec_cons (o : Opts) (sep : Char) (x : List Str × Tree) (l : List (List Str × Tree)) :
    dictSpec o sep (x :: l)
      = (if selected o x then [(pathName sep x.1 x.2.name, record o sep x.1 x.2)] else [])
        ++ dictSpec o sep l := by
  rw [dictSpec, List.filter_cons]
  split <;> rfl

theorem dictSpec_append (o : Opts) (sep : Char) (l₁ l₂ : List (List Str × Tree)) :
    dictSpec o sep (l₁ ++ l₂) = dictSpec o sep l₁ ++ dictSpec o sep l₂ := by
  rw [dictSpec, List.filter_append, List.map_append]; rfl

mutual
theorem appendDict_eq (o : Opts) (sep : Char) : ∀ (t : Tree) (anc : List Str) (acc : List (Str × Rec)),
    appendDict o sep anc acc t = dsetAll acc (dictSpec o sep (preCtx anc t))
  | .node i n a cs => by
    intro anc acc
    rw [appendDict, ite_dset, appendDictL_eq o sep cs, preCtx, dictSpec_cons, dsetAll_append]
    rfl
theorem appendDictL_eq (o : Opts) (sep : Char) : ∀ (ts : List Tree) (anc : List Str) (acc : List (Str × Rec)),
    appendDictL o sep anc acc ts = dsetAll acc (dictSpec o sep (preCtxL anc ts))
  | [] => fun _ _ => rfl
  | t :: ts => by
    intro anc acc
    rw [appendDictL, appendDict_eq o sep t, appendDictL_eq o sep ts, preCtxL, dictSpec_append, dsetAll_append]
end

/-- the `max_depth` test of `tree_to_nested_dict`: no limit, or depth `d` within it -/
theorem depthGate_iff (o : Opts) (d : Nat) :
    (o.maxDepth == 0 || decide (d ≤ o.maxDepth)) = true ↔ o.maxDepth = 0 ∨ d ≤ o.maxDepth := by
  rw [Bool.or_eq_true, beq_iff_eq, decide_eq_true_iff]

mutual
theorem nestedOf_eq (o : Opts) : ∀ (t : Tree) (d : Nat), (o.maxDepth == 0 || decide (d ≤ o.maxDepth)) = true →
    nestedOf o d t = [mirror o (cutDepth o.maxDepth d t)]
  | .node i n a cs => by
    intro d h
    rw [nestedOf, if_pos h, cutDepth, mirror, nestedOfL_eq o cs]
    rfl
theorem nestedOfL_eq (o : Opts) : ∀ (ts : List Tree) (d : Nat),
    nestedOfL o d ts = mirrorL o (cutDepthL o.maxDepth d ts)
  | [] => fun _ => rfl
  | t :: ts => by
    intro d
    rw [nestedOfL, cutDepthL, nestedOfL_eq o ts]
    split
    next h => rw [nestedOf_eq o t d h, mirrorL]; rfl
    next h =>
      cases t with
      | node i n a cs => rw [nestedOf, if_neg h]; rfl
end

/-! ### `max_depth = 0` cuts nothing -/

mutual
theorem cutDepth_zero : ∀ (t : Tree) (d : Nat), cutDepth 0 d t = t
  | .node i n a cs => fun d => by rw [cutDepth, cutDepthL_zero cs]
theorem cutDepthL_zero : ∀ (ts : List Tree) (d : Nat), cutDepthL 0 d ts = ts
  | [] => fun _ => rfl
  | t :: ts => fun d => by rw [cutDepthL, cutDepth_zero t, cutDepthL_zero ts]; rfl
end

/-! ### facts about trees: `AllNodes`, `dupNames` -/

theorem allNodes_node (P : Tree → Prop) (i n a cs) :
    AllNodes P (.node i n a cs) ↔ P (.node i n a cs) ∧ AllNodesL P cs := by
  rw [AllNodes]

theorem allNodesL_cons (P : Tree → Prop) (t ts) : AllNodesL P (t :: ts) ↔ AllNodes P t ∧ AllNodesL P ts := by
  rw [AllNodesL]

mutual
theorem allNodes_preCtx (P : Tree → Prop) : ∀ (t : Tree) (anc : List Str), AllNodes P t →
    ∀ x ∈ preCtx anc t, P x.2
  | .node i n a cs => by
    intro anc h x hx
    rw [allNodes_node] at h
    rw [preCtx] at hx
    rcases List.mem_cons.mp hx with e | e
    · rw [e]; exact h.1
    · exact allNodesL_preCtxL P cs (anc ++ [n]) h.2 x e
theorem allNodesL_preCtxL (P : Tree → Prop) : ∀ (ts : List Tree) (anc : List Str), AllNodesL P ts →
    ∀ x ∈ preCtxL anc ts, P x.2
  | [] => by intro anc _ x hx; rw [preCtxL] at hx; cases hx
  | t :: ts => by
    intro anc h x hx
    rw [allNodesL_cons] at h
    rw [preCtxL] at hx
    rcases List.mem_append.mp hx with e | e
    · exact allNodes_preCtx P t anc h.1 x e
    · exact allNodesL_preCtxL P ts anc h.2 x e
end

theorem dupNames_false : ∀ (ts : List Tree), (ts.map Tree.name).Nodup → dupNames ts = false
  | [], _ => rfl
  | t :: ts, h => by
    rw [List.map_cons, List.nodup_cons] at h
    rw [dupNames, dupNames_false ts h.2, Bool.or_false, List.any_eq_false]
    intro u hu e
    exact h.1 (beq_iff_eq.mp e ▸ List.mem_map_of_mem hu)

end Export
