import BigtreeModel.DagStore
/-!
# DagStore — basic lemmas: one table of lists under `append` / `remove`, single edges, edge lists
-/

namespace DagStore

theorem nodup_bound : ∀ (n : Nat) (l : List Nat), l.Nodup → (∀ x ∈ l, x < n) → l.length ≤ n :=
  fun n l hn h => by
    simpa using hn.length_le_of_subset (l₂ := List.range n) fun x hx => List.mem_range.2 (h x hx)

@[simp] theorem upd_same {α : Type} (f : Nat → α) (i : Nat) (x : α) : upd f i x i = x := by
  simp [upd]

theorem upd_other {α : Type} (f : Nat → α) {i j : Nat} (x : α) (h : j ≠ i) : upd f i x j = f j := by
  simp [upd, h]

theorem upd_apply {α : Type} (f : Nat → α) (i j : Nat) (x : α) :
    upd f i x j = if j = i then x else f j := rfl

/-! ## one table

Both `parents` and `children` are tables `Nat → List Nat`, and every statement of the model is
`f[i].append(a)` or `f[i].remove(a)` on one of them. What holds of one table holds of either. -/

/-- `f[i].append(a)` -/
def push (f : Nat → List Nat) (i a : Nat) : Nat → List Nat := upd f i (f i ++ [a])
/-- `f[i].remove(a)` -/
def pop (f : Nat → List Nat) (i a : Nat) : Nat → List Nat := upd f i ((f i).erase a)

section table
variable {f : Nat → List Nat} {i j a b : Nat}

theorem mem_push : b ∈ push f i a j ↔ b ∈ f j ∨ (j = i ∧ b = a) := by
  rw [push, upd_apply]
  split
  · subst j; simp
  · simp [*]

theorem mem_pop (h : (f j).Nodup) : b ∈ pop f i a j ↔ b ∈ f j ∧ ¬(j = i ∧ b = a) := by
  rw [pop, upd_apply]
  split
  · subst j; rw [h.mem_erase_iff]; simp [and_comm]
  · simp [*]

theorem nodup_push (h : (f j).Nodup) (ha : a ∉ f i) : (push f i a j).Nodup := by
  rw [push, upd_apply]
  split
  · subst j
    exact List.nodup_append.2 ⟨h, by simp, by
      simp only [List.mem_singleton, forall_eq]; exact fun x hx e => ha (e ▸ hx)⟩
  · exact h

theorem nodup_pop (h : (f j).Nodup) : (pop f i a j).Nodup := by
  rw [pop, upd_apply]
  split
  · subst j; exact h.erase a
  · exact h

theorem pop_push (h : a ∉ f i) : pop (push f i a) i a = f := by
  funext k
  simp only [pop, push, upd_apply]
  split
  · subst k; simp [List.erase_append_right _ h]
  · rfl

theorem pop_push_comm (h : a ∈ f i) : pop (push f j b) i a = push (pop f i a) j b := by
  funext k
  simp only [pop, push, upd_apply]
  by_cases hj : j = i
  · subst j; by_cases hk : k = i <;> simp [hk, List.erase_append_left _ h]
  · by_cases hk : k = i
    · subst k; simp [Ne.symm hj]
    · simp [hk, hj]

end table

/-! ## single edges -/

@[simp] theorem addE_n (s : DStore) (p c : Nat) : (s.addE p c).n = s.n := rfl
@[simp] theorem addE_names (s : DStore) (p c : Nat) : (s.addE p c).names = s.names := rfl
@[simp] theorem delE_n (s : DStore) (p c : Nat) : (s.delE p c).n = s.n := rfl
@[simp] theorem delE_names (s : DStore) (p c : Nat) : (s.delE p c).names = s.names := rfl

theorem addE_eq (s : DStore) (p c : Nat) :
    s.addE p c = ⟨s.n, s.names, push s.parents c p, push s.children p c⟩ := rfl
theorem delE_eq (s : DStore) (p c : Nat) :
    s.delE p c = ⟨s.n, s.names, pop s.parents c p, pop s.children p c⟩ := rfl

theorem addE_parents (s : DStore) (p c x : Nat) :
    (s.addE p c).parents x = if x = c then s.parents c ++ [p] else s.parents x := rfl
theorem addE_children (s : DStore) (p c x : Nat) :
    (s.addE p c).children x = if x = p then s.children p ++ [c] else s.children x := rfl
theorem delE_parents (s : DStore) (p c x : Nat) :
    (s.delE p c).parents x = if x = c then (s.parents c).erase p else s.parents x := rfl
theorem delE_children (s : DStore) (p c x : Nat) :
    (s.delE p c).children x = if x = p then (s.children p).erase c else s.children x := rfl

theorem mem_addE_parents {s : DStore} {p c q x : Nat} :
    q ∈ (s.addE p c).parents x ↔ q ∈ s.parents x ∨ (x = c ∧ q = p) := mem_push

theorem mem_addE_children {s : DStore} {p c q x : Nat} :
    x ∈ (s.addE p c).children q ↔ x ∈ s.children q ∨ (q = p ∧ x = c) := mem_push

theorem delE_addE (s : DStore) {p c : Nat} (h1 : p ∉ s.parents c) (h2 : c ∉ s.children p) :
    (s.addE p c).delE p c = s := by
  rw [addE_eq, delE_eq]
  simp only [pop_push h1, pop_push h2]

theorem delE_addE_comm (s : DStore) {p c : Nat} (q d : Nat) (h1 : p ∈ s.parents c)
    (h2 : c ∈ s.children p) : (s.addE q d).delE p c = (s.delE p c).addE q d := by
  rw [addE_eq, delE_eq, delE_eq, addE_eq]
  simp only [pop_push_comm h1, pop_push_comm h2]

/-! ## edge lists -/

/-- append the edges of `E` one after the other -/
def addEs (s : DStore) : List (Nat × Nat) → DStore
  | [] => s
  | e :: E => addEs (s.addE e.1 e.2) E

@[simp] theorem addEs_n (s : DStore) (E : List (Nat × Nat)) : (addEs s E).n = s.n := by
  induction E generalizing s with
  | nil => rfl
  | cons e E ih => simp [addEs, ih]

@[simp] theorem addEs_names (s : DStore) (E : List (Nat × Nat)) : (addEs s E).names = s.names := by
  induction E generalizing s with
  | nil => rfl
  | cons e E ih => simp [addEs, ih]

theorem addEs_parents (s : DStore) (E : List (Nat × Nat)) (x : Nat) :
    (addEs s E).parents x = s.parents x ++ (E.filter (·.2 = x)).map (·.1) := by
  induction E generalizing s with
  | nil => simp [addEs]
  | cons e E ih =>
    rw [addEs, ih, addE_parents, List.filter_cons]
    by_cases h : e.2 = x
    · subst x; simp
    · simp [h, Ne.symm h]

theorem addEs_children (s : DStore) (E : List (Nat × Nat)) (x : Nat) :
    (addEs s E).children x = s.children x ++ (E.filter (·.1 = x)).map (·.2) := by
  induction E generalizing s with
  | nil => simp [addEs]
  | cons e E ih =>
    rw [addEs, ih, addE_children, List.filter_cons]
    by_cases h : e.1 = x
    · subst x; simp
    · simp [h, Ne.symm h]

theorem mem_addEs_parents {s : DStore} {E : List (Nat × Nat)} {q x : Nat} :
    q ∈ (addEs s E).parents x ↔ q ∈ s.parents x ∨ (q, x) ∈ E := by
  simp [addEs_parents]

theorem mem_addEs_children {s : DStore} {E : List (Nat × Nat)} {q x : Nat} :
    x ∈ (addEs s E).children q ↔ x ∈ s.children q ∨ (q, x) ∈ E := by
  simp [addEs_children]

theorem delE_addEs_comm (s : DStore) (E : List (Nat × Nat)) {p c : Nat} (h1 : p ∈ s.parents c)
    (h2 : c ∈ s.children p) : (addEs s E).delE p c = addEs (s.delE p c) E := by
  induction E generalizing s with
  | nil => rfl
  | cons e E ih =>
    rw [addEs, addEs, ih, delE_addE_comm _ _ _ h1 h2]
    · exact mem_addE_parents.2 (Or.inl h1)
    · exact mem_addE_children.2 (Or.inl h2)

theorem delE_addEs_head (s : DStore) (E : List (Nat × Nat)) {p c : Nat} (h1 : p ∉ s.parents c)
    (h2 : c ∉ s.children p) : (addEs s ((p, c) :: E)).delE p c = addEs s E := by
  rw [addEs, delE_addEs_comm, delE_addE _ h1 h2]
  · exact mem_addE_parents.2 (Or.inr ⟨rfl, rfl⟩)
  · exact mem_addE_children.2 (Or.inr ⟨rfl, rfl⟩)

end DagStore
