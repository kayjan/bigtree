import BigtreeProofs.Lemmas.RenderHDec
/-! Corollary of `h_decodable` for C18: with intermediate node names, the horizontal rendering of a `Node`
tree (no empty slots) determines the tree, for every style meeting `hstyleOk`. -/
namespace Render

theorem ofTreeL_any_isReal : ∀ cs : List Tree, (ofTree.ofTreeL cs).any HTree.isReal = !cs.isEmpty
  | [] => rfl
  | c :: cs => by
    match c with
    | .node i n a ds => simp [ofTree.ofTreeL, ofTree, HTree.isReal]

mutual
theorem hExpected_ofTree (t : Tree) (h : hnamesOk (ofTree t) = true) : hExpected true (ofTree t) = ofTree t := by
  match t with
  | .node i n a cs =>
    simp only [ofTree, hnamesOk, Bool.and_eq_true] at h
    simp only [ofTree, hExpected, ofTreeL_any_isReal]
    cases cs with
    | nil => simp [ofTree.ofTreeL, rstrip_name h.1]
    | cons c cs =>
      simp only [List.isEmpty_cons, Bool.not_false, Bool.not_true, Bool.false_eq_true, ↓reduceIte]
      rw [hExpectedL_ofTree (c :: cs) h.2]
theorem hExpectedL_ofTree (cs : List Tree) (h : hnamesOk.hnamesOkL (ofTree.ofTreeL cs) = true) :
    hExpected.hExpectedL true (ofTree.ofTreeL cs) = ofTree.ofTreeL cs := by
  match cs with
  | [] => rfl
  | c :: cs =>
    simp only [ofTree.ofTreeL, hnamesOk.hnamesOkL, Bool.and_eq_true] at h
    simp only [ofTree.ofTreeL, hExpected.hExpectedL]
    rw [hExpected_ofTree c h.1, hExpectedL_ofTree cs h.2]
end

theorem hyield_injective (S : HStyle) (hS : hstyleOk S = true) (t1 t2 : Tree)
    (h1 : hnamesOk (ofTree t1) = true) (h2 : hnamesOk (ofTree t2) = true)
    (h : hyieldTree S true 0 (ofTree t1) = hyieldTree S true 0 (ofTree t2)) : ofTree t1 = ofTree t2 := by
  have d1 := h_decodable S hS true 0 (ofTree t1) h1
  have d2 := h_decodable S hS true 0 (ofTree t2) h2
  rw [h, d2] at d1
  simp only [hprune, beq_self_eq_true, ↓reduceIte, Option.some.injEq] at d1
  rw [hExpected_ofTree t1 h1, hExpected_ofTree t2 h2] at d1
  exact d1.symm
end Render
