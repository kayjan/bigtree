import BigtreeModel.Render
import BigtreeProofs.Lemmas.RenderNat
import BigtreeProofs.Lemmas.RenderLinks
/-! Helper lemmas for C18 (mermaid): refs are injective in the index path; flow lines = links. -/
namespace Render

theorem mermaidRef_cons_ne_root (k : Nat) (r : List Nat) : mermaidRef (k :: r) ≠ ['0'] := by
  intro h
  have : '-' ∈ mermaidRef (k :: r) := by simp [mermaidRef]
  rw [h] at this
  simp at this

/-- `mermaid_name` determines the index path: the last index is the trailing run of digits after a `-` -/
theorem mermaidRef_injective : ∀ {a b : List Nat}, mermaidRef a = mermaidRef b → a = b
  | [], [], _ => rfl
  | [], k :: r, h => absurd h.symm (mermaidRef_cons_ne_root k r)
  | k :: r, [], h => absurd h (mermaidRef_cons_ne_root k r)
  | k :: r, k' :: r', h => by
    have dash : ∀ (s : Str) (x : Char), (s ++ ['-']).getLast? = some x → x.isDigit = false := by
      intro s x hx
      rw [List.getLast?_concat, Option.some.injEq] at hx
      subst hx
      decide
    have := span_unique_right (natStr_isDigit k) (natStr_isDigit k') (dash (mermaidRef r)) (dash (mermaidRef r'))
      (by simpa only [mermaidRef, List.append_assoc, List.singleton_append] using h)
    rw [mermaidRef_injective (List.append_cancel_right this.1), natStr_injective this.2]

/-! ### addresses -/
mutual
def addrsT (addr : List Nat) : Tree → List (List Nat)
  | .node _ _ _ cs => addr :: addrsL addr 0 cs
def addrsL (addr : List Nat) (k : Nat) : List Tree → List (List Nat)
  | [] => []
  | c :: cs => addrsT (k :: addr) c ++ addrsL addr (k + 1) cs
end

mutual
theorem ids_eq_addrsT (addr : List Nat) (t : Tree) : mermaidIdsT addr t = (addrsT addr t).map mermaidRef := by
  match t with
  | .node i n a cs => rw [mermaidIdsT, addrsT, List.map_cons, ids_eq_addrsL addr 0 cs]
theorem ids_eq_addrsL (addr : List Nat) (k : Nat) (cs : List Tree) :
    mermaidIdsL addr k cs = (addrsL addr k cs).map mermaidRef := by
  match cs with
  | [] => rfl
  | c :: cs => rw [mermaidIdsL, addrsL, List.map_append, ids_eq_addrsT (k :: addr) c, ids_eq_addrsL addr (k + 1) cs]
end

mutual
theorem addrsT_suffix (addr : List Nat) (t : Tree) : ∀ a ∈ addrsT addr t, addr <:+ a := by
  match t with
  | .node i n a cs =>
    intro x hx
    rw [addrsT, List.mem_cons] at hx
    rcases hx with rfl | hx
    · exact List.suffix_refl _
    · obtain ⟨j, _, hj⟩ := addrsL_suffix addr 0 cs x hx
      exact (List.suffix_cons j addr).trans hj
theorem addrsL_suffix (addr : List Nat) (k : Nat) (cs : List Tree) :
    ∀ a ∈ addrsL addr k cs, ∃ j, k ≤ j ∧ (j :: addr) <:+ a := by
  match cs with
  | [] => intro a h; cases h
  | c :: cs =>
    intro x hx
    rw [addrsL, List.mem_append] at hx
    rcases hx with hx | hx
    · exact ⟨k, Nat.le_refl _, addrsT_suffix (k :: addr) c x hx⟩
    · obtain ⟨j, hj, hs⟩ := addrsL_suffix addr (k + 1) cs x hx
      exact ⟨j, Nat.le_of_succ_le hj, hs⟩
end

mutual
theorem addrsT_nodup (addr : List Nat) (t : Tree) : (addrsT addr t).Nodup := by
  match t with
  | .node i n a cs =>
    rw [addrsT, List.nodup_cons]
    refine ⟨fun h => ?_, addrsL_nodup addr 0 cs⟩
    obtain ⟨j, _, hj⟩ := addrsL_suffix addr 0 cs addr h
    exact Nat.not_succ_le_self _ hj.length_le
theorem addrsL_nodup (addr : List Nat) (k : Nat) (cs : List Tree) : (addrsL addr k cs).Nodup := by
  match cs with
  | [] => exact List.nodup_nil
  | c :: cs =>
    rw [addrsL, List.nodup_append]
    refine ⟨addrsT_nodup (k :: addr) c, addrsL_nodup addr (k + 1) cs, ?_⟩
    -- an address below child `k` and one below a later child `j` end in `k :: addr` resp. `j :: addr`
    intro x hx y hy hxy
    subst hxy
    obtain ⟨j, hj, h2⟩ := addrsL_suffix addr (k + 1) cs x hy
    have := (List.suffix_of_suffix_length_le (addrsT_suffix (k :: addr) c x hx) h2 (Nat.le_refl _)).eq_of_length rfl
    exact Nat.ne_of_lt hj (List.cons.inj this).1
end

/-! ### flow lines = links -/
mutual
/-- the same tree with every name replaced by the node's ref -/
def refTreeT (addr : List Nat) : Tree → Tree
  | .node i _ a cs => .node i (mermaidRef addr) a (refTreeL addr 0 cs)
def refTreeL (addr : List Nat) (k : Nat) : List Tree → List Tree
  | [] => []
  | c :: cs => refTreeT (k :: addr) c :: refTreeL addr (k + 1) cs
end

mutual
theorem refTreeT_names (addr : List Nat) (t : Tree) : namesT (refTreeT addr t) = mermaidIdsT addr t := by
  match t with
  | .node i n a cs => rw [refTreeT, namesT, mermaidIdsT, refTreeL_names addr 0 cs]
theorem refTreeL_names (addr : List Nat) (k : Nat) (cs : List Tree) :
    namesL (refTreeL addr k cs) = mermaidIdsL addr k cs := by
  match cs with
  | [] => rfl
  | c :: cs => rw [refTreeL, namesL, mermaidIdsL, refTreeT_names (k :: addr) c, refTreeL_names addr (k + 1) cs]
end

mutual
theorem refTreeT_size (addr : List Nat) (t : Tree) : (refTreeT addr t).size = t.size := by
  match t with
  | .node i n a cs => rw [refTreeT, Tree.size, Tree.size, refTreeL_size addr 0 cs]
theorem refTreeL_size (addr : List Nat) (k : Nat) (cs : List Tree) :
    Tree.size.sizeL (refTreeL addr k cs) = Tree.size.sizeL cs := by
  match cs with
  | [] => rfl
  | c :: cs =>
    rw [refTreeL, Tree.size.sizeL, Tree.size.sizeL, refTreeT_size (k :: addr) c, refTreeL_size addr (k + 1) cs]
end

mutual
theorem refTreeT_links (addr : List Nat) (i : Nat) (t : Tree) : linksT i (refTreeT addr t) = linksT i t := by
  match t with
  | .node j n a cs => rw [refTreeT, linksT, linksT, refTreeL_links addr 0 i (i + 1) cs]
theorem refTreeL_links (addr : List Nat) (k p i : Nat) (cs : List Tree) :
    linksL p i (refTreeL addr k cs) = linksL p i cs := by
  match cs with
  | [] => rfl
  | c :: cs =>
    rw [refTreeL, linksL, linksL, refTreeT_links (k :: addr) i c, refTreeT_size,
      refTreeL_links addr (k + 1) p (i + c.size) cs]
end

def Flow.ends (f : Flow) : Str × Str := (f.fromRef, f.toRef)

mutual
theorem flowsT_ends (paddr : List Nat) (r : Bool) (pn : Str) (k : Nat) (t : Tree) :
    (flowsT paddr r pn k t).map Flow.ends =
      (mermaidRef paddr, mermaidRef (k :: paddr)) :: edgesOfT (refTreeT (k :: paddr) t) := by
  match t with
  | .node i n a cs => rw [flowsT, List.map_cons, refTreeT, edgesOfT, flowsL_ends (k :: paddr) false n 0 cs]; rfl
theorem flowsL_ends (paddr : List Nat) (r : Bool) (pn : Str) (k : Nat) (cs : List Tree) :
    (flowsL paddr r pn k cs).map Flow.ends = edgesOfL (mermaidRef paddr) (refTreeL paddr k cs) := by
  match cs with
  | [] => rfl
  | c :: cs =>
    rw [flowsL, List.map_append, refTreeL, edgesOfL, flowsT_ends paddr r pn k c, flowsL_ends paddr r pn (k + 1) cs]
    cases c
    rfl
end

mutual
theorem flowsT_labels (paddr : List Nat) (r : Bool) (pn : Str) (k : Nat) (t : Tree) :
    (flowsT paddr r pn k t).map (·.toLabel) = namesT t := by
  match t with
  | .node i n a cs => rw [flowsT, List.map_cons, namesT, flowsL_labels (k :: paddr) false n 0 cs]
theorem flowsL_labels (paddr : List Nat) (r : Bool) (pn : Str) (k : Nat) (cs : List Tree) :
    (flowsL paddr r pn k cs).map (·.toLabel) = namesL cs := by
  match cs with
  | [] => rfl
  | c :: cs =>
    rw [flowsL, List.map_append, namesL, flowsT_labels paddr r pn k c, flowsL_labels paddr r pn (k + 1) cs]
end

/-- the from-label is present exactly on the lines that leave the root, and is the root's name -/
def FromOk (root : Str) (f : Flow) : Prop :=
  f.fromLabel = if f.fromRef = ['0'] then some root else none

mutual
theorem flowsT_from (root : Str) (paddr : List Nat) (r : Bool) (pn : Str) (k : Nat) (t : Tree)
    (h : (r = true → paddr = [] ∧ pn = root) ∧ (r = false → paddr ≠ [])) :
    ∀ f ∈ flowsT paddr r pn k t, FromOk root f := by
  match t with
  | .node i n a cs =>
    intro f hf
    rw [flowsT, List.mem_cons] at hf
    rcases hf with rfl | hf
    · cases r with
      | true => obtain ⟨rfl, rfl⟩ := h.1 rfl; rfl
      | false =>
        match paddr, h.2 rfl with
        | j :: q, _ => exact (if_neg (mermaidRef_cons_ne_root j q)).symm
    · exact flowsL_from root (k :: paddr) false n 0 cs ⟨nofun, fun _ => List.cons_ne_nil _ _⟩ f hf
theorem flowsL_from (root : Str) (paddr : List Nat) (r : Bool) (pn : Str) (k : Nat) (cs : List Tree)
    (h : (r = true → paddr = [] ∧ pn = root) ∧ (r = false → paddr ≠ [])) :
    ∀ f ∈ flowsL paddr r pn k cs, FromOk root f := by
  match cs with
  | [] => intro f hf; cases hf
  | c :: cs =>
    intro f hf
    rw [flowsL, List.mem_append] at hf
    rcases hf with hf | hf
    · exact flowsT_from root paddr r pn k c h f hf
    · exact flowsL_from root paddr r pn (k + 1) cs h f hf
end

mutual
theorem mermaidIdsT_length (addr : List Nat) (t : Tree) : (mermaidIdsT addr t).length = (namesT t).length := by
  match t with
  | .node i n a cs => rw [mermaidIdsT, namesT, List.length_cons, List.length_cons, mermaidIdsL_length addr 0 cs]
theorem mermaidIdsL_length (addr : List Nat) (k : Nat) (cs : List Tree) :
    (mermaidIdsL addr k cs).length = (namesL cs).length := by
  match cs with
  | [] => rfl
  | c :: cs =>
    rw [mermaidIdsL, namesL, List.length_append, List.length_append, mermaidIdsT_length (k :: addr) c,
      mermaidIdsL_length addr (k + 1) cs]
end

def Flow.target (f : Flow) : Str × Str := (f.toRef, f.toLabel)

mutual
theorem flowsT_targets (paddr : List Nat) (r : Bool) (pn : Str) (k : Nat) (t : Tree) :
    (flowsT paddr r pn k t).map Flow.target = (mermaidIdsT (k :: paddr) t).zip (namesT t) := by
  match t with
  | .node i n a cs =>
    rw [flowsT, List.map_cons, mermaidIdsT, namesT, List.zip_cons_cons, flowsL_targets (k :: paddr) false n 0 cs]
    rfl
theorem flowsL_targets (paddr : List Nat) (r : Bool) (pn : Str) (k : Nat) (cs : List Tree) :
    (flowsL paddr r pn k cs).map Flow.target = (mermaidIdsL paddr k cs).zip (namesL cs) := by
  match cs with
  | [] => rfl
  | c :: cs =>
    rw [flowsL, List.map_append, mermaidIdsL, namesL, flowsT_targets paddr r pn k c, flowsL_targets paddr r pn (k + 1) cs,
      List.zip_append (mermaidIdsT_length (k :: paddr) c)]
end

end Render
