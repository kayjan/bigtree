import BigtreeModel.Store
import BigtreeProofs.Lemmas.ParentFn
/-!
# Pointer store: well-formedness, reachability, the ancestor walk and the meaning of the guards
-/

namespace Store
open Relation (TransGen)

theorem ext' {s t : Store} (h1 : s.n = t.n) (h2 : s.parent = t.parent) (h3 : s.children = t.children)
    (h4 : s.name = t.name) (h5 : s.sepOf = t.sepOf) : s = t := by
  cases s; cases t; simp_all

@[simp] theorem setP_parent (s : Store) (x : Nat) (p : Option Nat) (y : Nat) :
    (s.setP x p).parent y = if y = x then p else s.parent y := rfl
@[simp] theorem setP_children (s : Store) (x : Nat) (p : Option Nat) : (s.setP x p).children = s.children := rfl
@[simp] theorem setP_n (s : Store) (x : Nat) (p : Option Nat) : (s.setP x p).n = s.n := rfl
@[simp] theorem setP_name (s : Store) (x : Nat) (p : Option Nat) : (s.setP x p).name = s.name := rfl
@[simp] theorem setP_sepOf (s : Store) (x : Nat) (p : Option Nat) : (s.setP x p).sepOf = s.sepOf := rfl
@[simp] theorem setC_children (s : Store) (x : Nat) (l : List Nat) (y : Nat) :
    (s.setC x l).children y = if y = x then l else s.children y := rfl
@[simp] theorem setC_parent (s : Store) (x : Nat) (l : List Nat) : (s.setC x l).parent = s.parent := rfl
@[simp] theorem setC_n (s : Store) (x : Nat) (l : List Nat) : (s.setC x l).n = s.n := rfl
@[simp] theorem setC_name (s : Store) (x : Nat) (l : List Nat) : (s.setC x l).name = s.name := rfl
@[simp] theorem setC_sepOf (s : Store) (x : Nat) (l : List Nat) : (s.setC x l).sepOf = s.sepOf := rfl

/-- `ParentFn.IsParent s.parent` written out, so that the `ParentFn` lemmas take `hw.acyc` and
`TransGen s.IsParent` as they stand -/
def IsParent (s : Store) (p c : Nat) : Prop := s.parent c = some p

/-- W1–W5 of the design: the links form a forest -/
structure WF (s : Store) : Prop where
  up : ∀ c p, s.parent c = some p → c ∈ s.children p
  down : ∀ p c, c ∈ s.children p → s.parent c = some p
  nodup : ∀ p, (s.children p).Nodup
  acyc : ∀ v, Acc s.IsParent v
  range : ∀ c p, s.parent c = some p → c < s.n ∧ p < s.n

/-- reflexive-transitive: `a` is `v` or an ancestor of `v`.  Statements speak of `Reach` and
`ProperAncestor`; `TransGen s.IsParent` appears in proofs only, where a `ParentFn` lemma is used. -/
inductive Reach (s : Store) : Nat → Nat → Prop
  | refl (v) : Reach s v v
  | step {a p v} : Reach s a p → s.parent v = some p → Reach s a v

/-- `a` is a proper ancestor of `v` (walking parents from `v` meets `a` after ≥ 1 steps) -/
def ProperAncestor (s : Store) (a v : Nat) : Prop := ∃ p, s.parent v = some p ∧ Reach s a p

theorem Reach.trans {s : Store} {a b c : Nat} (h1 : Reach s a b) (h2 : Reach s b c) : Reach s a c := by
  induction h2 with
  | refl => exact h1
  | step _ hp ih => exact Reach.step ih hp

theorem Reach.of_parent {s : Store} {p v : Nat} (h : s.parent v = some p) : Reach s p v :=
  Reach.step (Reach.refl p) h

theorem reach_iff {s : Store} {a v : Nat} : Reach s a v ↔ a = v ∨ ProperAncestor s a v := by
  constructor
  · intro h
    cases h with
    | refl => exact Or.inl rfl
    | step hr hp => exact Or.inr ⟨_, hp, hr⟩
  · rintro (rfl | ⟨p, hp, hr⟩)
    · exact Reach.refl _
    · exact Reach.step hr hp

theorem properAncestor_iff_transGen {s : Store} {a v : Nat} :
    ProperAncestor s a v ↔ TransGen s.IsParent a v := by
  constructor
  · rintro ⟨p, hp, hr⟩
    induction hr generalizing v with
    | refl => exact .single hp
    | step _ hq ih => exact (ih hq).tail hp
  · intro h
    induction h with
    | single h => exact ⟨_, h, Reach.refl _⟩
    | tail _ hb ih => exact ⟨_, hb, reach_iff.2 (.inr ih)⟩

theorem reach_iff_transGen {s : Store} {a v : Nat} : Reach s a v ↔ a = v ∨ TransGen s.IsParent a v := by
  rw [reach_iff, properAncestor_iff_transGen]

theorem not_properAncestor_self {s : Store} (h : ∀ v, Acc s.IsParent v) (v : Nat) : ¬ ProperAncestor s v v :=
  fun hv => ParentFn.not_transGen_self (h v) (properAncestor_iff_transGen.1 hv)

theorem reach_lt {s : Store} (hw : WF s) {a x : Nat} (h : Reach s a x) (hx : x < s.n) : a < s.n := by
  induction h with
  | refl => exact hx
  | step _ hq ih => exact ih (hw.range _ _ hq).2

/-! ## the executable ancestor walk (`anc`, fuel `n`) is the semantic one -/

theorem anc_eq_ancF (s : Store) : ∀ f v, anc s f v = ParentFn.ancF s.parent f v
  | 0, _ => rfl
  | f + 1, v => by
    unfold anc ParentFn.ancF
    cases s.parent v with
    | none => rfl
    | some p => exact congrArg (p :: ·) (anc_eq_ancF s f p)

theorem anc_complete {s : Store} (hw : WF s) (x a : Nat) : a ∈ anc s s.n x ↔ ProperAncestor s a x := by
  rw [anc_eq_ancF, properAncestor_iff_transGen]
  exact ParentFn.ancF_complete hw.acyc hw.range (Nat.le_refl _)

/-! ## meaning of the guards on well-formed stores -/

theorem checkParentLoop_iff {s : Store} (hw : WF s) (v p : Nat) :
    checkParentLoop s v (some p) = true ↔ ¬ Reach s v p := by
  simp only [checkParentLoop, Bool.and_eq_true, Bool.not_eq_true', beq_eq_false_iff_ne,
    List.contains_eq_mem, decide_eq_false_iff_not, anc_complete hw, reach_iff, not_or, ne_comm (a := p)]

theorem checkChildrenLoop_eq_seenLoop (s : Store) (v : Nat) : ∀ cs seen : List Nat,
    checkChildrenLoop s v cs seen =
      ParentFn.seenLoop (fun c => decide (c < s.n) && !(c == v) && !(anc s s.n v).contains c) cs seen
  | [], _ => rfl
  | c :: cs, seen => by
    simp only [checkChildrenLoop, ParentFn.seenLoop, checkChildrenLoop_eq_seenLoop s v cs,
      Bool.if_false_left, Bool.decide_eq_true, Bool.not_not, Bool.and_assoc]

theorem checkChildrenLoop_iff {s : Store} (hw : WF s) (v : Nat) (cs : List Nat) :
    checkChildrenLoop s v cs [] = true ↔ (cs.Nodup ∧ ∀ c ∈ cs, c < s.n ∧ ¬ Reach s c v) := by
  simp only [checkChildrenLoop_eq_seenLoop, ParentFn.seenLoop_iff, List.not_mem_nil, not_false_eq_true,
    true_and, Bool.and_eq_true, decide_eq_true_eq, Bool.not_eq_true', beq_eq_false_iff_ne,
    List.contains_eq_mem, decide_eq_false_iff_not, anc_complete hw, reach_iff, not_or, ne_eq, and_assoc]

end Store
