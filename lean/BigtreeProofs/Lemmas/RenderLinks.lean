import BigtreeModel.Render
/-! Helper lemmas for C18 (dot and mermaid): the edges of a tree whose names are the vertex ids are
the parent–child links (pairs of pre-order indices) looked up in the pre-order list of ids. -/
namespace Render

mutual
theorem namesT_length (t : Tree) : (namesT t).length = t.size := by
  match t with
  | .node i n a cs => rw [namesT, List.length_cons, Tree.size, namesL_length cs, Nat.add_comm]
theorem namesL_length (cs : List Tree) : (namesL cs).length = Tree.size.sizeL cs := by
  match cs with
  | [] => rfl
  | c :: cs => rw [namesL, List.length_append, Tree.size.sizeL, namesT_length c, namesL_length cs]
end

theorem name_mem_namesT (t : Tree) : t.name ∈ namesT t := by
  cases t
  exact List.mem_cons_self ..

theorem namesL_of_mem {k : Tree} {cs : List Tree} (h : k ∈ cs) : ∀ n ∈ namesT k, n ∈ namesL cs := by
  induction cs with
  | nil => cases h
  | cons x xs ih =>
    intro n hn
    rw [namesL, List.mem_append]
    rcases List.mem_cons.mp h with rfl | h
    · exact Or.inl hn
    · exact Or.inr (ih h n hn)

theorem namesT_head (t : Tree) (rest : List Str) : (namesT t ++ rest).getD 0 [] = t.name := by
  cases t
  rfl

mutual
/-- (parent name, child name) for every link, in pre-order of the child -/
def edgesOfT : Tree → List (Str × Str)
  | .node _ n _ cs => edgesOfL n cs
def edgesOfL (p : Str) : List Tree → List (Str × Str)
  | [] => []
  | c :: cs => (p, c.name) :: (edgesOfT c ++ edgesOfL p cs)
end

/-- the names at a pair of pre-order indices -/
def look (N : List Str) (pc : Nat × Nat) : Str × Str := (N.getD pc.1 [], N.getD pc.2 [])

theorem getD_names (pre : List Str) (t : Tree) (post : List Str) :
    (pre ++ (namesT t ++ post)).getD pre.length [] = t.name := by
  rw [List.getD_eq_getElem?_getD, List.getElem?_append_right (Nat.le_refl _), Nat.sub_self,
    ← List.getD_eq_getElem?_getD, namesT_head]

mutual
theorem edgesOfT_links (t : Tree) (N pre post : List Str) (h : N = pre ++ namesT t ++ post) :
    edgesOfT t = (linksT pre.length t).map (look N) := by
  match t with
  | .node i n a cs =>
    have := edgesOfL_links cs n pre.length N (pre ++ [n]) post
      (by simp only [h, namesT, List.append_assoc, List.cons_append, List.nil_append])
      (by rw [h, List.append_assoc]; exact getD_names pre (.node i n a cs) post)
    rwa [List.length_append, List.length_singleton] at this
theorem edgesOfL_links (cs : List Tree) (pname : Str) (pidx : Nat) (N pre post : List Str)
    (h : N = pre ++ namesL cs ++ post) (hp : N.getD pidx [] = pname) :
    edgesOfL pname cs = (linksL pidx pre.length cs).map (look N) := by
  match cs with
  | [] => rfl
  | c :: cs =>
    have h1 : N = pre ++ namesT c ++ (namesL cs ++ post) := by simp only [h, namesL, List.append_assoc]
    have e2 := edgesOfL_links cs pname pidx N (pre ++ namesT c) post (by simp only [h1, List.append_assoc]) hp
    rw [List.length_append, namesT_length] at e2
    rw [edgesOfL, linksL, List.map_cons, List.map_append, edgesOfT_links c N pre _ h1, e2, look, hp, h1,
      List.append_assoc, getD_names]
end

theorem edgesOf_eq_links (t : Tree) :
    edgesOfT t = (linksT 0 t).map (look (namesT t)) := by
  have := edgesOfT_links t (namesT t) [] [] (by simp)
  simpa using this

end Render
