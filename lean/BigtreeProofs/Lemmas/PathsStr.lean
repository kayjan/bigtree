import BigtreeProofs.Lemmas.StringsBridge
/-!
# String lemmas for the path constructors (C05): split ∘ join, strip of leading/trailing separators

The string functions of the path constructors (`BigtreeModel/Str.lean`) are those of `Strings`
(`StringsBridge`), so its laws carry over: whatever run of separator characters leads or trails, the
components of a path written with a non-empty separator that shares no character with them come back.
The statements for a single-character separator `c` that occurs in no name are the instances at `[c]`.
-/

namespace Str

theorem strip_lead_join_trail_multi (sp : Str) (lead trail : Str) (l : List Str) (hne : l ≠ [])
    (hl : ∀ x ∈ lead, x ∈ sp) (ht : ∀ x ∈ trail, x ∈ sp) (hfree : ∀ x ∈ l, x ≠ [] ∧ Store.Free sp x) :
    strip sp (lead ++ join sp l ++ trail) = join sp l := by
  rw [strip_eq_strings, join_eq_intercalate]
  exact (Strings.strip_join_pad sp l hne hfree lead trail hl ht).2

theorem split_strip_join_multi (sp : Str) (hsp : sp ≠ []) (lead trail : Str) (l : List Str) (hne : l ≠ [])
    (hl : ∀ x ∈ lead, x ∈ sp) (ht : ∀ x ∈ trail, x ∈ sp) (hfree : ∀ x ∈ l, x ≠ [] ∧ Store.Free sp x) :
    split sp (strip sp (lead ++ join sp l ++ trail)) = l := by
  rw [strip_lead_join_trail_multi sp lead trail l hne hl ht hfree, split_eq_strings sp hsp, join_eq_intercalate]
  exact Strings.split_join sp hsp l hne fun x hx => (hfree x hx).2

theorem split_single (c : Char) (s : Str) : split [c] s = splitC c s :=
  (split_eq_strings [c] (List.cons_ne_nil c []) s).trans (splitC_eq_strings c s).symm

theorem join_inj (c : Char) (l1 l2 : List Str) (h1 : l1 ≠ []) (h2 : l2 ≠ [])
    (f1 : ∀ x ∈ l1, c ∉ x) (f2 : ∀ x ∈ l2, c ∉ x) (h : join [c] l1 = join [c] l2) : l1 = l2 := by
  rw [join_eq_intercalate, join_eq_intercalate] at h
  exact Strings.join_injective [c] (List.cons_ne_nil c []) l1 l2 h1 h2
    (fun x hx => (Store.free_singleton c x).2 (f1 x hx)) (fun x hx => (Store.free_singleton c x).2 (f2 x hx)) h

theorem strip_lead_join_trail (c : Char) (lead trail : Str) (l : List Str) (hne : l ≠ [])
    (hl : ∀ x ∈ lead, x = c) (ht : ∀ x ∈ trail, x = c) (hfree : ∀ x ∈ l, x ≠ [] ∧ c ∉ x) :
    strip [c] (lead ++ join [c] l ++ trail) = join [c] l :=
  strip_lead_join_trail_multi [c] lead trail l hne (fun x hx => List.mem_singleton.2 (hl x hx))
    (fun x hx => List.mem_singleton.2 (ht x hx)) (Store.forall_free_singleton hfree)

theorem split_strip_join (c : Char) (lead trail : Str) (l : List Str) (hne : l ≠ [])
    (hl : ∀ x ∈ lead, x = c) (ht : ∀ x ∈ trail, x = c) (hfree : ∀ x ∈ l, x ≠ [] ∧ c ∉ x) :
    split [c] (strip [c] (lead ++ join [c] l ++ trail)) = l :=
  split_strip_join_multi [c] (List.cons_ne_nil c []) lead trail l hne (fun x hx => List.mem_singleton.2 (hl x hx))
    (fun x hx => List.mem_singleton.2 (ht x hx)) (Store.forall_free_singleton hfree)

end Str
