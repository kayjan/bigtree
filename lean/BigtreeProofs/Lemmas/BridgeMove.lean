import BigtreeProofs.Lemmas.BridgeIds
import BigtreeProofs.Lemmas.StoreWF
/-!
# Bridge A→B: the closed form of the parent setter (`reparent`) read back as a forest edit
-/

namespace Store
open Iter Tree

theorem subtree_treeOf {s : Store} (hw : WF s) (f : Nat) (hf : s.n ≤ f) (v : Nat) :
    ∀ r, Reach s r v → subtree v (treeOf s f r) = some (treeOf s f v) := by
  intro r
  induction r using children_induction hw with
  | h r ih =>
    intro hr
    by_cases hrv : r = v
    · subst hrv
      have := subtree_self (treeOf s f r)
      rwa [treeOf_id] at this
    · have hn := nodup_pre_treeOf hw f hf r
      rw [pre_treeOf hw r f hf] at hn
      rw [treeOf_unfold hw r f hf, subtree, if_neg hrv, subtreeL_eq_some_iff (List.nodup_cons.1 hn).2]
      rcases (reach_top_iff hw r v).1 hr with h | ⟨c, hc, hcv⟩
      · exact absurd h.symm hrv
      · exact ⟨_, List.mem_map.2 ⟨c, hc, rfl⟩, ih c hc hcv⟩

theorem subtreeL_forest {s : Store} (hw : WF s) (v : Nat) (hv : v < s.n) :
    subtreeL v (forest s) = some (treeOf s s.n v) := by
  rw [subtreeL_eq_some_iff (nodup_preL_forest hw)]
  exact ⟨_, List.mem_map.2 ⟨_, rootOf_mem_roots hw hv, rfl⟩,
    subtree_treeOf hw s.n (Nat.le_refl _) v _ (rootOf_is_root hw v).2⟩

theorem subtreeL_forest_none {s : Store} (hw : WF s) (v : Nat) (hv : s.n ≤ v) :
    subtreeL v (forest s) = none :=
  subtreeL_none v _ fun hm => Nat.not_lt.2 hv ((mem_preL_forest hw v).1 hm)

theorem reparent_children_eq {s : Store} (hw : WF s) (v : Nat) (np : Option Nat) (x : Nat) :
    (reparent s v np).children x = (s.children x).filter (· != v) ++ if np = some x then [v] else [] := by
  have : (if s.parent v = some x then (s.children x).erase v else s.children x)
      = (s.children x).filter (· != v) := by
    split
    · exact (hw.nodup x).erase_eq_filter v
    · next h => exact (List.filter_eq_self.2 fun c hc => bne_iff_ne.2 fun (e : c = v) => h (e ▸ hw.down x c hc)).symm
  rw [reparent_children, this]
  split
  · rfl
  · exact (List.append_nil _).symm

/-- reading back after `v.parent = None` = removing `v`'s subtree from every read-back -/
theorem detach_treeOf {s : Store} (hw : WF s) (v : Nat) (hv : v < s.n) (f : Nat) (hf : s.n ≤ f) (x : Nat) :
    detach v (treeOf s f x) = treeOf (reparent s v none) f x := by
  refine treeOf_edit hw (wf_reparent hw v none hv nofun) hf hf (detach v) (fun x => ?_) x
  rw [detach, detachL_map v _ (treeOf_id s f), reparent_children_eq hw, if_neg nofun, List.append_nil]
  rfl

theorem detach_treeOf_self {s : Store} (hw : WF s) (v f : Nat) (hf : s.n ≤ f) :
    detach v (treeOf s f v) = treeOf s f v := by
  have := detach_root_id (treeOf s f v) (nodup_pre_treeOf hw f hf v)
  rwa [treeOf_id] at this

theorem treeOf_reparent_none_self {s : Store} (hw : WF s) (v : Nat) (hv : v < s.n) (f : Nat) (hf : s.n ≤ f) :
    treeOf (reparent s v none) f v = treeOf s f v := by
  rw [← detach_treeOf hw v hv f hf v, detach_treeOf_self hw v f hf]

/-- the read-back after an accepted `v.parent = p`: take `v`'s subtree out, append it below `p` -/
theorem treeOf_reparent_some {s : Store} (hw : WF s) (v p : Nat) (hv : v < s.n) (hp : p < s.n)
    (hnr : ¬ Reach s v p) (f : Nat) (hf : s.n ≤ f) (x : Nat) :
    treeOf (reparent s v (some p)) f x = appendChild p (treeOf s f v) (detach v (treeOf s f x)) := by
  refine (treeOf_edit hw (wf_reparent hw v (some p) hv (by rintro q ⟨⟩; exact ⟨hp, hnr⟩)) hf hf
    (fun t => appendChild p (treeOf s f v) (detach v t)) (fun x => ?_) x).symm
  show appendChild p (treeOf s f v) (detach v _) = _
  rw [detach, detachL_map v _ (treeOf_id s f), appendChild, appendChildL_eq,
    List.map_map, reparent_children_eq hw, List.map_append]
  by_cases hx : x = p
  · subst hx
    -- the new last child is `v` with its subtree as it was: `x` is not in it
    rw [if_pos rfl, if_pos rfl, List.map_singleton, detach_treeOf_self hw v f hf,
      appendChild_of_not_mem x _ _ fun hm => hnr ((mem_pre_treeOf hw f hf v x).1 hm)]
    rfl
  · rw [if_neg hx, if_neg fun e => hx (Option.some.inj e).symm, List.map_nil, List.append_nil]
    rfl

theorem roots_reparent_some (s : Store) (v p : Nat) :
    roots (reparent s v (some p)) = (roots s).filter (· != v) := by
  rw [roots, roots, List.filter_filter]
  refine List.filter_congr fun x _ => ?_
  show ((reparent s v (some p)).parent x).isNone = _
  rw [reparent_parent]
  by_cases hx : x = v <;> simp [hx]

theorem mem_roots_reparent_none {s : Store} (v : Nat) (hv : v < s.n) (x : Nat) :
    x ∈ roots (reparent s v none) ↔ x = v ∨ x ∈ roots s := by
  rw [mem_roots, mem_roots, reparent_parent]
  show x < s.n ∧ _ ↔ _
  by_cases hx : x = v
  · subst hx; simp [hv]
  · simp [hx]

theorem roots_reparent_none_perm {s : Store} (v : Nat) (hv : v < s.n) :
    (roots (reparent s v none)).Perm (v :: (roots s).filter (· != v)) := by
  rw [List.perm_ext_iff_of_nodup (roots_nodup _)
    (List.nodup_cons.2 ⟨by simp, (roots_nodup s).filter _⟩)]
  intro x
  rw [mem_roots_reparent_none v hv]
  by_cases hx : x = v <;> simp [hx]

/-- accepted `v.parent = p`, on forests: exactly `Forest.move` (as lists, in the order of the roots) -/
theorem forest_reparent_some {s : Store} (hw : WF s) (v p : Nat) (hv : v < s.n) (hp : p < s.n)
    (hnr : ¬ Reach s v p) : forest (reparent s v (some p)) = Forest.move (forest s) v p := by
  unfold Forest.move
  rw [subtreeL_forest hw v hv]
  show (roots (reparent s v (some p))).map (treeOf (reparent s v (some p)) s.n)
    = appendChildL p (treeOf s s.n v) (detachL v (forest s))
  rw [roots_reparent_some, appendChildL_eq, forest, detachL_map v _ (treeOf_id s s.n), List.map_map]
  exact List.map_congr_left fun x _ => treeOf_reparent_some hw v p hv hp hnr s.n (Nat.le_refl _) x

/-- accepted `v.parent = None`, on forests: `Forest.toRoot`, up to the order of the trees -/
theorem forest_reparent_none {s : Store} (hw : WF s) (v : Nat) (hv : v < s.n) :
    (forest (reparent s v none)).Perm (Forest.toRoot (forest s) v) := by
  unfold Forest.toRoot
  rw [subtreeL_forest hw v hv]
  show ((roots (reparent s v none)).map (treeOf (reparent s v none) s.n)).Perm
    (treeOf s s.n v :: detachL v ((roots s).map (treeOf s s.n)))
  rw [detachL_map v _ (treeOf_id s s.n), ← treeOf_reparent_none_self hw v hv s.n (Nat.le_refl _),
    List.map_congr_left fun x _ => detach_treeOf hw v hv s.n (Nat.le_refl _) x]
  exact (roots_reparent_none_perm v hv).map _

end Store
