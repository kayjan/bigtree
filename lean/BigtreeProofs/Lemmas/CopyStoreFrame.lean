import BigtreeProofs.Lemmas.CopyStoreBasic
/-!
# Frame lemmas for the compositions `cloneA`, `pruneA`, `getSubtreeA` (C07)

Every id the compositions operate on lies on the side of the copy; the mutators then preserve
the invariant `Inv` of `Lemmas/CopyStoreBasic.lean`. Each composition is stated for a boundary
`k` below the size of the store it starts from and an arbitrary base store `s0`, so the frame of
a composition is the composition of the frames.
-/

namespace CopyStore

/-! ## ids of a tree read back from a separated store -/

theorem treeIdsL_eq_flatMap : ∀ ts : List Tree, treeIdsL ts = ts.flatMap treeIds
  | [] => rfl
  | t :: ts => (congrArg (treeIds t ++ ·) (treeIdsL_eq_flatMap ts)).trans List.flatMap_cons.symm

theorem toTree_ids {Q : Nat → Prop} {s : Store} (hs : SepQ s Q) (f : Nat) :
    ∀ r, Q r → ∀ i ∈ treeIds (toTree s f r), Q i := by
  induction f with
  | zero => exact fun r hr i hi => List.mem_singleton.1 hi ▸ hr
  | succ f ih =>
    intro r hr i hi
    rw [toTree] at hi
    cases hc : s.cell? r with
    | none =>
      rw [hc] at hi
      exact List.mem_singleton.1 hi ▸ hr
    | some c =>
      rw [hc] at hi
      rcases List.mem_cons.1 hi with rfl | hi
      · exact hr
      · rw [treeIdsL_eq_flatMap] at hi
        obtain ⟨t, ht, hi⟩ := List.mem_flatMap.1 hi
        obtain ⟨ch, hch, rfl⟩ := List.mem_map.1 ht
        exact ih ch (((hs r c hc).2 ch hch).1 hr) i hi

mutual
theorem walk_sub_id : ∀ (T : Tree) (a : Helper.Addr) (anc : List Str) (v : Helper.Visit),
    v ∈ Helper.walk a anc T → v.sub.id ∈ treeIds T
  | .node i n av cs, a, anc, v, hv => by
    rcases List.mem_cons.1 hv with rfl | hv
    · exact List.mem_cons_self
    · exact List.mem_cons_of_mem _ (walkL_sub_id cs a _ 0 v hv)
theorem walkL_sub_id : ∀ (ts : List Tree) (a : Helper.Addr) (anc : List Str) (k : Nat)
    (v : Helper.Visit), v ∈ Helper.walkL a anc k ts → v.sub.id ∈ treeIdsL ts
  | [], a, anc, k, v, hv => nomatch hv
  | c :: cs, a, anc, k, v, hv => by
    rw [Helper.walkL] at hv
    exact List.mem_append.2 ((List.mem_append.1 hv).imp (walk_sub_id c _ _ v) (walkL_sub_id cs _ _ _ v))
end

theorem findPath_mem {sep : Str} {anc : List Str} {T : Tree} {q : Str} {v : Helper.Visit}
    (h : Helper.findPath sep anc T q = .ok (some v)) : v.sub.id ∈ treeIds T := by
  unfold Helper.findPath at h
  simp only at h
  split at h
  · cases h
  · next v' heq =>
    cases h
    exact walk_sub_id _ _ _ _ (List.mem_filter.1 (heq ▸ List.mem_singleton_self v)).1
  · cases h

theorem locateA_ids {treeSep : Str} {anc : List Str} {T : Tree} {sepArg : Str} {qs : List Str}
    {N : List Nat} (h : locateA treeSep anc T sepArg qs = .ok N) {i : Nat} (hi : i ∈ N) :
    i ∈ treeIds T := by
  induction qs generalizing N with
  | nil =>
    cases h
    cases hi
  | cons q qs ih =>
    rw [locateA] at h
    split at h
    · cases h
    · cases h
    · next v hv =>
      obtain ⟨N', hr, rfl⟩ := map_eq_ok h
      rcases List.mem_cons.1 hi with rfl | hi
      · exact findPath_mem hv
      · exact ih hr hi

theorem ancestors_Q {Q : Nat → Prop} {s : Store} (hs : SepQ s Q) (f : Nat) :
    ∀ v, Q v → ∀ a ∈ ancestors s f v, Q a := by
  induction f with
  | zero => exact fun _ _ _ ha => nomatch ha
  | succ f ih =>
    intro v hv a ha
    rw [ancestors] at ha
    cases hp : s.parentOf v with
    | none => rw [hp] at ha; cases ha
    | some p =>
      rw [hp] at ha
      have hq : Q p := sepQ_parent hs hp hv
      rcases List.mem_cons.1 ha with rfl | ha
      · exact hq
      · exact ih p hq a ha

theorem levelIds_Q {Q : Nat → Prop} {s : Store} (hs : SepQ s Q) (f : Nat) :
    ∀ ids, (∀ i ∈ ids, Q i) → ∀ g ∈ levelIds s f ids, ∀ i ∈ g, Q i := by
  induction f with
  | zero => exact fun _ _ _ hg => nomatch hg
  | succ f ih =>
    intro ids hids g hg
    rcases List.mem_cons.1 hg with rfl | hg
    · exact hids
    · split at hg
      · cases hg
      · refine ih _ (fun j hj => ?_) g hg
        obtain ⟨a, ha, hja⟩ := List.mem_flatMap.1 hj
        exact sepQ_children hs (hids a ha) j hja

/-! ## `pruneA` and its phases -/

theorem inv_detachLoop {Q : Nat → Prop} {s0 st : Store} (A N : List Nat) (h : Inv Q s0 st)
    (hA : ∀ a ∈ A, Q a) : Inv Q s0 (detachLoop A N st) := by
  unfold detachLoop
  refine List.foldlRecOn A _ h fun st h a ha => ?_
  refine List.foldlRecOn _ _ h fun st' h' c hc => ?_
  split
  · exact inv_detach c h' (sepQ_children h.1 (hA a ha) c hc)
  · exact h'

theorem inv_depthCutA {Q : Nat → Prop} {s0 st : Store} (r md : Nat) (h : Inv Q s0 st) (hr : Q r) :
    Inv Q s0 (depthCutA st r md) := by
  unfold depthCutA
  cases hg : (levelIds st st.n [r])[md - 1]? with
  | none => exact h
  | some g =>
    have hQ := levelIds_Q h.1 _ _ (fun i hi => List.mem_singleton.1 hi ▸ hr) g (List.mem_of_getElem? hg)
    exact List.foldlRecOn g delChildren h fun _ h' v hv => inv_delChildren v h' (hQ v hv)

theorem inv_prunePathsA {Q : Nat → Prop} {s0 s1 s2 : Store} {treeSep : Str} {r : Nat}
    {paths : List Str} {exact : Bool} {sepArg : Str} (h : Inv Q s0 s1) (hr : Q r)
    (he : prunePathsA treeSep s1 r paths exact sepArg = .ok s2) : Inv Q s0 s2 := by
  by_cases hp : paths.isEmpty
  · cases (if_pos hp).symm.trans he
    exact h
  · obtain ⟨N, hl, rfl⟩ := map_eq_ok ((if_neg hp).symm.trans he)
    have hN : ∀ i ∈ N, Q i := fun i hi => toTree_ids h.1 _ _ hr i (locateA_ids hl hi)
    have hA0 : ∀ a ∈ N.flatMap (ancestors s1 s1.n), Q a := by
      intro a ha
      obtain ⟨x, hx, hax⟩ := List.mem_flatMap.1 ha
      exact ancestors_Q h.1 _ x (hN x hx) a hax
    apply inv_detachLoop _ _ h
    intro a ha
    split at ha
    · exact (List.mem_append.1 ha).elim (hA0 a) (hN a)
    · exact hA0 a ha

theorem inv_pruneA {treeSep : Str} {s0 s : Store} {v : Nat} {paths : List Str} {exact : Bool}
    {sepArg : Str} {md k : Nat} (h : Inv (k ≤ ·) s0 s) (hk : k ≤ s.n) {r : Store × Nat}
    (he : pruneA treeSep s v paths exact sepArg md = .ok r) : Inv (k ≤ ·) s0 r.1 ∧ k ≤ r.2 := by
  obtain ⟨s2, hp, rfl⟩ := map_eq_ok (of_ite_error he)
  have hr : k ≤ (deepCopy s v).2 := Nat.le_trans hk (Nat.le_add_left _ _)
  have h2 : Inv (k ≤ ·) s0 s2 := inv_prunePathsA (inv_deepCopy v h hk) hr hp
  refine ⟨?_, hr⟩
  show Inv _ s0 (if md == 0 then s2 else _)
  split
  · exact h2
  · exact inv_depthCutA _ md h2 hr

/-! ## `getSubtreeA` -/

theorem subtreeFindA_Q {Q : Nat → Prop} {s1 : Store} (hs : SepQ s1 Q) {treeSep : Str} {r : Nat}
    {q : Str} {w : Nat} (hr : Q r) (h : subtreeFindA treeSep s1 r q = .ok w) : Q w := by
  unfold subtreeFindA at h
  split at h
  · cases h; exact hr
  · split at h
    · cases h
    · cases h
    · next v hv =>
      cases h
      exact toTree_ids hs _ _ hr _ (findPath_mem hv)

theorem inv_getSubtreeA {treeSep : Str} {s0 s : Store} {v : Nat} {q : Str} {md k : Nat}
    (h : Inv (k ≤ ·) s0 s) (hk : k ≤ s.n) {r : Store × Nat}
    (he : getSubtreeA treeSep s v q md = .ok r) : Inv (k ≤ ·) s0 r.1 ∧ k ≤ r.2 := by
  obtain ⟨w, hf, he⟩ := bind_eq_ok he
  have h1 := inv_deepCopy v h hk
  have hw : k ≤ w :=
    subtreeFindA_Q (Q := (k ≤ ·)) h1.1 (Nat.le_trans hk (Nat.le_add_left _ _)) hf
  -- the depth part, for whatever store `s2` the detaching step has made
  have key : ∀ s2, Inv (k ≤ ·) s0 s2 → k ≤ s2.n →
      (if md == 0 then .ok (s2, w) else pruneA treeSep s2 w [] false ['/'] md) = Except.ok r →
      Inv (k ≤ ·) s0 r.1 ∧ k ≤ r.2 := by
    intro s2 h2 hn he
    split at he
    · cases he
      exact ⟨h2, hw⟩
    · exact inv_pruneA h2 hn he
  refine key _ ?_ ?_ he
  · split
    · exact inv_detach w h1 hw
    · exact h1
  · rw [apply_ite Store.n, n_setParent, ite_self, deepCopy_n]
    exact Nat.le_trans hk (Nat.le_add_left _ _)

/-! ## `cloneA` -/

mutual
theorem inv_cloneKids {k : Nat} {s0 : Store} : ∀ (cs : List Tree) (np : Nat) (st : Store),
    Inv (k ≤ ·) s0 st → k ≤ st.n → k ≤ np →
      Inv (k ≤ ·) s0 (cloneKids np cs st) ∧ k ≤ (cloneKids np cs st).n
  | [], np, st, h, hn, _ => ⟨h, hn⟩
  | c :: cs, np, st, h, hn, hp => by
    have h2 := inv_setParent st.n (some np) (inv_alloc c.name (Helper.publicAttrs c.attrs) h hn) hn
      fun _ e => Option.some.inj e ▸ hp
    have h3 := inv_cloneNode c st.n _ h2 (by rw [n_setParent, alloc_n]; exact Nat.le_succ_of_le hn) hn
    exact inv_cloneKids cs np _ h3.1 h3.2 hp
theorem inv_cloneNode {k : Nat} {s0 : Store} : ∀ (t : Tree) (ni : Nat) (st : Store),
    Inv (k ≤ ·) s0 st → k ≤ st.n → k ≤ ni →
      Inv (k ≤ ·) s0 (cloneNode ni t st) ∧ k ≤ (cloneNode ni t st).n
  | .node _ _ _ cs, ni, st, h, hn, hi => inv_cloneKids cs ni st h hn hi
end

theorem inv_cloneA {k : Nat} {s0 s : Store} (v : Nat) (h : Inv (k ≤ ·) s0 s) (hk : k ≤ s.n) :
    Inv (k ≤ ·) s0 (cloneA s v).1 ∧ k ≤ (cloneA s v).2 :=
  ⟨(inv_cloneNode _ s.n _ (inv_alloc _ _ h hk) (alloc_n .. ▸ Nat.le_succ_of_le hk) hk).1, hk⟩

end CopyStore
