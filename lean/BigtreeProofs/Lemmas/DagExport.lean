import BigtreeProofs.Lemmas.DagIter
import BigtreeProofs.Lemmas.DagCons
/-! Facts that connect the exports (built on `dagIter`) with the constructor lemmas. -/

namespace Dag
open List

theorem ureach_nbr {g : Dag} {a b : Nat} (h : g.UReach a b) :
    a = b ∨ ∃ y, y ∈ g.parents a ∨ y ∈ g.children a := by
  induction h with
  | refl => exact .inl rfl
  | @step b c _ hy ih => exact .inr (ih.elim (fun h => ⟨c, h ▸ hy⟩) id)

theorem node_has_edge {g : Dag} (wf : g.DWF) (hc : g.Connected) (hne : g.edges ≠ []) {x : Nat}
    (hx : x ∈ g.nodes) : (∃ p, (p, x) ∈ g.edges) ∨ (g.parents x = [] ∧ ∃ c, (x, c) ∈ g.edges) := by
  obtain ⟨⟨p, c⟩, he⟩ := exists_mem_of_ne_nil _ hne
  obtain ⟨hp, hpc⟩ := mem_edges.1 he
  -- `x` has a neighbour: `c` if `x = p`, otherwise the first step towards `p`
  have hnbr : ∃ y, y ∈ g.parents x ∨ y ∈ g.children x := by
    by_cases h : x = p
    · exact ⟨c, .inr (h ▸ hpc)⟩
    · exact (ureach_nbr (hc x hx p hp)).resolve_left h
  obtain ⟨y, hy | hy⟩ := hnbr
  · exact .inl ⟨y, mem_edges.2 (wf.par_closed _ hx _ hy)⟩
  · by_cases hroot : g.parents x = []
    · exact .inr ⟨hroot, y, mem_edges.2 ⟨hx, hy⟩⟩
    · obtain ⟨q, hq⟩ := exists_mem_of_ne_nil _ hroot
      exact .inl ⟨q, mem_edges.2 (wf.par_closed _ hx _ hq)⟩

theorem mem_nodes_of_mem_edges {g : Dag} (wf : g.DWF) {e : Edge} (he : e ∈ g.edges) :
    e.1 ∈ g.nodes ∧ e.2 ∈ g.nodes :=
  let ⟨h1, h2⟩ := mem_edges.1 he
  ⟨h1, (wf.chi_closed _ h1 _ h2).1⟩

theorem relAcyclic_of_edges {g : Dag} (wf : g.DWF) {rel : List Edge} (h : ∀ e ∈ rel, e ∈ g.edges) :
    RelAcyclic rel := by
  intro x hx
  have hedge : ∀ a b, b ∈ (relGraph rel).children a → a ∈ g.nodes ∧ b ∈ g.children a := fun a b hb =>
    mem_edges.1 (h _ (mem_relGraph_children.1 hb))
  obtain ⟨b, hb⟩ := hx.exists_child
  exact wf.acyclic x (hedge x b hb).1 (reach_mono (fun a b hb => (hedge a b hb).2) hx)

/-- the shared part of the three round-trip theorems: a constructor that meets its constructor lemma
    for a relation with the same members as `g.edges`, and takes its names from `g.nodes`, succeeds
    and has rebuilt `g` -/
theorem rebuilt_of_outcome {g : Dag} (wf : g.DWF) (hc : g.Connected) (hne : g.edges ≠ [])
    {rel : List Edge} (hrel : ∀ e, e ∈ rel ↔ e ∈ g.edges) {K : Built → Prop} {r : Except Err Built}
    (h : Outcome K rel r) (hK : ∀ b, K b → Tracks rel b.dag ∧ ∀ x ∈ b.dag.nodes, x ∈ g.nodes) :
    ∃ b, r = .ok b ∧ K b ∧ b.dag.DWF ∧ (∀ e, e ∈ b.dag.edges ↔ e ∈ g.edges) ∧
      (∀ x, x ∈ b.dag.nodes ↔ x ∈ g.nodes) := by
  have hacy := relAcyclic_of_edges wf fun e he => (hrel e).1 he
  obtain ⟨b, hb, hk⟩ := h.1 hacy
  obtain ⟨t, hnodes⟩ := hK b hk
  refine ⟨b, hb, hk, t.dwf hacy, fun e => t.edges_iff.trans (hrel e), fun x => ⟨hnodes x, fun hx => ?_⟩⟩
  rcases node_has_edge wf hc hne hx with ⟨p, he⟩ | ⟨_, c, he⟩
  · exact (t.ends_mem _ ((hrel _).2 he)).2
  · exact (t.ends_mem _ ((hrel _).2 he)).1

end Dag
