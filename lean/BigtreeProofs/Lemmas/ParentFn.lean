/-!
# A bare parent function

Facts about `par : Nat → Option Nat`, read as "the parent of `c` is `p`" (`IsParent par p c`), with no
store around it: the fuelled ancestor walk `ancF` finds exactly the proper ancestors as soon as the
fuel reaches the number of nodes; acyclicity survives adding edges none of whose lower ends is at or
above an upper end (`acc_add`: one new parent for a set of nodes, or new parents for one node); induction from the leaves up (`down_induction`); the `seen`-accumulator loop of the
children guards.
-/

namespace ParentFn
open Relation (TransGen)

/-! ## acyclicity, for any relation (`r p c`: an edge from `c` up to `p`) -/

theorem not_transGen_self {α : Sort u} {r : α → α → Prop} {a : α} (h : Acc r a) : ¬ TransGen r a a := by
  have h' := h.transGen
  clear h
  induction h' with
  | intro x _ ih => exact fun hx => ih x hx hx

/-- Edges `N` are added, and the lower end of a new edge is never the upper end of one, nor above one:
a path upwards takes at most one new edge. -/
theorem acc_add {α : Sort u} {r r' N : α → α → Prop} (hr : ∀ x, Acc r x)
    (hsub : ∀ q x, r' q x → r q x ∨ N q x)
    (hN : ∀ q x, N q x → ∀ q' c, N q' c → c ≠ q ∧ ¬ TransGen r c q) : ∀ x, Acc r' x := by
  -- a node with no lower end of a new edge at or above it keeps its old edges, all the way up
  have key : ∀ y, (∀ q' c, N q' c → c ≠ y ∧ ¬ TransGen r c y) → Acc r' y := by
    intro y
    induction hr y with
    | intro y _ ih =>
      intro hy
      refine ⟨y, fun q hq => ?_⟩
      rcases hsub q y hq with h | h
      · exact ih q h fun q' c hc =>
          ⟨fun e => (hy q' c hc).2 (e ▸ .single h), fun hcq => (hy q' c hc).2 (hcq.tail h)⟩
      · exact absurd rfl (hy q y h).1
  intro x
  induction hr x with
  | intro x _ ih =>
    refine ⟨x, fun q hq => ?_⟩
    rcases hsub q x hq with h | h
    · exact ih q h
    · exact key q (hN q x h)

theorem acc_add_out {α : Sort u} {r r' : α → α → Prop} (hr : ∀ x, Acc r x) (v : α) (L : α → Prop)
    (hsub : ∀ q x, r' q x → r q x ∨ (q = v ∧ L x))
    (hL : ∀ c, L c → c ≠ v ∧ ¬ TransGen r c v) : ∀ x, Acc r' x :=
  acc_add hr hsub fun _ _ h _ c hc => h.1 ▸ hL c hc.2

/-! ## the ancestor walk -/

/-- `p` is the parent of `c` -/
def IsParent (par : Nat → Option Nat) (p c : Nat) : Prop := par c = some p

/-- the `while node is not None: node = node.parent` walk from `v`, nearest ancestor first -/
def ancF (par : Nat → Option Nat) : Nat → Nat → List Nat
  | 0, _ => []
  | f + 1, v =>
    match par v with
    | none => []
    | some p => p :: ancF par f p

variable {par : Nat → Option Nat} {n : Nat}

theorem ancF_of_none {v : Nat} (h : par v = none) (f : Nat) : ancF par f v = [] := by
  cases f <;> simp [ancF, h]

theorem ancF_succ_of_some {v p : Nat} (h : par v = some p) (f : Nat) :
    ancF par (f + 1) v = p :: ancF par f p := by
  simp [ancF, h]

theorem transGen_iff_parent {a v : Nat} :
    TransGen (IsParent par) a v ↔ ∃ p, par v = some p ∧ (a = p ∨ TransGen (IsParent par) a p) := by
  constructor
  · intro h
    cases h with
    | single h => exact ⟨a, h, .inl rfl⟩
    | tail hab hb => exact ⟨_, hb, .inr hab⟩
  · rintro ⟨p, hp, rfl | h⟩
    · exact .single hp
    · exact h.tail hp

theorem mem_ancF {a : Nat} : ∀ {f v : Nat}, a ∈ ancF par f v → TransGen (IsParent par) a v
  | 0, _, h => nomatch h
  | f + 1, v, h => by
    cases hp : par v with
    | none => rw [ancF_of_none hp] at h; cases h
    | some p =>
      rw [ancF_succ_of_some hp, List.mem_cons] at h
      exact transGen_iff_parent.2 ⟨p, hp, h.imp_right mem_ancF⟩

theorem mem_ancF_of_short {a : Nat} : ∀ {f v : Nat}, (ancF par f v).length < f →
    TransGen (IsParent par) a v → a ∈ ancF par f v
  | 0, _, h, _ => absurd h (Nat.not_lt_zero _)
  | f + 1, v, h, ha => by
    obtain ⟨p, hp, hap⟩ := transGen_iff_parent.1 ha
    rw [ancF_succ_of_some hp] at h ⊢
    exact List.mem_cons.2 (hap.imp_right (mem_ancF_of_short (Nat.lt_of_succ_lt_succ h)))

theorem ancF_eq_of_short : ∀ {f g v : Nat}, (ancF par f v).length < f → f ≤ g →
    ancF par g v = ancF par f v
  | 0, _, _, h, _ => absurd h (Nat.not_lt_zero _)
  | _ + 1, 0, _, _, hg => absurd hg (Nat.not_succ_le_zero _)
  | f + 1, g + 1, v, h, hg => by
    cases hp : par v with
    | none => rw [ancF_of_none hp, ancF_of_none hp]
    | some p =>
      rw [ancF_succ_of_some hp] at h ⊢
      rw [ancF_succ_of_some hp,
        ancF_eq_of_short (Nat.lt_of_succ_lt_succ h) (Nat.le_of_succ_le_succ hg)]

theorem transGen_lt (hr : ∀ c p, par c = some p → c < n ∧ p < n) {a v : Nat}
    (h : TransGen (IsParent par) a v) : a < n ∧ v < n := by
  induction h with
  | single h => exact ⟨(hr _ _ h).2, (hr _ _ h).1⟩
  | tail _ h ih => exact ⟨ih.1, (hr _ _ h).1⟩

theorem ancF_nodup (hacc : ∀ x, Acc (IsParent par) x) : ∀ f v : Nat, (v :: ancF par f v).Nodup
  | 0, v => by simp [ancF]
  | f + 1, v => by
    refine List.nodup_cons.2 ⟨fun h => not_transGen_self (hacc v) (mem_ancF h), ?_⟩
    cases hp : par v with
    | none => rw [ancF_of_none hp]; exact List.nodup_nil
    | some p => rw [ancF_succ_of_some hp]; exact ancF_nodup hacc f p

/-- pigeon-hole: `v` and the nodes the walk meets are distinct and all below `n` -/
theorem ancF_length_lt (hacc : ∀ x, Acc (IsParent par) x) (hr : ∀ c p, par c = some p → c < n ∧ p < n)
    {v : Nat} (hv : v < n) (f : Nat) : (ancF par f v).length < n := by
  have h := (ancF_nodup hacc f v).length_le_of_subset (l₂ := List.range n) fun x hx =>
    List.mem_range.2 <| (List.mem_cons.1 hx).elim (· ▸ hv) fun hx => (transGen_lt hr (mem_ancF hx)).1
  rwa [List.length_range] at h

theorem ancF_complete (hacc : ∀ x, Acc (IsParent par) x) (hr : ∀ c p, par c = some p → c < n ∧ p < n)
    {f : Nat} (hf : n ≤ f) {a v : Nat} : a ∈ ancF par f v ↔ TransGen (IsParent par) a v :=
  ⟨mem_ancF, fun h => mem_ancF_of_short
    (Nat.lt_of_lt_of_le (ancF_length_lt hacc hr (transGen_lt hr h).2 f) hf) h⟩

theorem ancF_eq_fuel_n (hacc : ∀ x, Acc (IsParent par) x) (hr : ∀ c p, par c = some p → c < n ∧ p < n)
    {f : Nat} (hf : n ≤ f) (v : Nat) : ancF par f v = ancF par n v := by
  cases hp : par v with
  | none => rw [ancF_of_none hp, ancF_of_none hp]
  | some p => exact ancF_eq_of_short (ancF_length_lt hacc hr (hr v p hp).1 n) hf

theorem ancF_step (hacc : ∀ x, Acc (IsParent par) x) (hr : ∀ c p, par c = some p → c < n ∧ p < n)
    {f : Nat} (hf : n ≤ f) {c v : Nat} (h : par c = some v) : ancF par f c = v :: ancF par f v := by
  rw [ancF_eq_fuel_n hacc hr hf c, ancF_eq_fuel_n hacc hr hf v]
  obtain ⟨m, rfl⟩ : ∃ m, n = m + 1 := ⟨n - 1, by have := (hr c v h).1; omega⟩
  have hl := ancF_length_lt hacc hr (hr c v h).1 (m + 1)
  rw [ancF_succ_of_some h] at hl ⊢
  rw [ancF_eq_of_short (Nat.lt_of_succ_lt_succ hl) (Nat.le_succ m)]

theorem down_induction (hacc : ∀ x, Acc (IsParent par) x) (hr : ∀ c p, par c = some p → c < n ∧ p < n)
    {P : Nat → Prop} (h : ∀ v, (∀ c, par c = some v → P c) → P v) : ∀ v, P v := by
  -- a child's walk is one longer than its parent's, and no walk is as long as `n`
  have key : ∀ k v, n - (ancF par n v).length ≤ k → P v := by
    intro k
    induction k with
    | zero =>
      intro v hk
      refine h v fun c hc => ?_
      have := ancF_length_lt hacc hr (hr c v hc).2 n
      omega
    | succ k ih =>
      intro v hk
      refine h v fun c hc => ih c ?_
      have := ancF_length_lt hacc hr (hr c v hc).1 n
      rw [ancF_step hacc hr (Nat.le_refl n) hc] at this ⊢
      simp only [List.length_cons] at this ⊢
      omega
  exact fun v => key _ v (Nat.le_refl _)

/-! ## re-parenting a set of nodes under one node -/

/-- the members of `C` get the parent `v`; the other children of `v` become roots -/
def adoptFn (par : Nat → Option Nat) (C : Nat → Prop) [DecidablePred C] (v x : Nat) : Option Nat :=
  if C x then some v else if par x = some v then none else par x

variable {C : Nat → Prop} [DecidablePred C] {v : Nat}

theorem adoptFn_eq_some {x q : Nat} :
    adoptFn par C v x = some q ↔ (C x ∧ q = v) ∨ (¬ C x ∧ par x = some q ∧ q ≠ v) := by
  unfold adoptFn
  by_cases hC : C x
  · simp [hC, eq_comm]
  · by_cases hv : par x = some v
    · simp [hC, hv, eq_comm]
    · simp only [hC, hv, if_false, false_and, false_or, not_false_eq_true, true_and]
      exact ⟨fun h => ⟨h, fun e => hv (e ▸ h)⟩, (·.1)⟩

theorem acc_adoptFn (hacc : ∀ x, Acc (IsParent par) x)
    (hC : ∀ c, C c → c ≠ v ∧ ¬ TransGen (IsParent par) c v) :
    ∀ x, Acc (IsParent (adoptFn par C v)) x :=
  acc_add_out hacc v C
    (fun _ _ h => (adoptFn_eq_some.1 h).elim (fun h => .inr ⟨h.2, h.1⟩) fun h => .inl h.2.1) hC

theorem range_adoptFn (hr : ∀ c p, par c = some p → c < n ∧ p < n) (hv : v < n)
    (hC : ∀ c, C c → c < n) : ∀ c p, adoptFn par C v c = some p → c < n ∧ p < n := by
  intro c p h
  rcases adoptFn_eq_some.1 h with ⟨hc, rfl⟩ | ⟨_, hp, _⟩
  · exact ⟨hC c hc, hv⟩
  · exact hr c p hp

/-! ## the loop with a `seen` accumulator -/

/-- every element passes `ok` and has not been met before -/
def seenLoop (ok : Nat → Bool) : List Nat → List Nat → Bool
  | [], _ => true
  | c :: cs, seen => ok c && !seen.contains c && seenLoop ok cs (c :: seen)

theorem seenLoop_iff {ok : Nat → Bool} : ∀ {l seen : List Nat},
    seenLoop ok l seen = true ↔ l.Nodup ∧ ∀ c ∈ l, c ∉ seen ∧ ok c = true
  | [], _ => by simp [seenLoop]
  | c :: cs, seen => by
    simp only [seenLoop, Bool.and_eq_true, Bool.not_eq_true', List.contains_eq_mem,
      decide_eq_false_iff_not, seenLoop_iff (l := cs), List.nodup_cons, List.mem_cons, not_or]
    constructor
    · rintro ⟨⟨hok, hs⟩, hn, h⟩
      refine ⟨⟨fun hc => (h c hc).1.1 rfl, hn⟩, ?_⟩
      rintro x (rfl | hx)
      · exact ⟨hs, hok⟩
      · exact ⟨(h x hx).1.2, (h x hx).2⟩
    · rintro ⟨⟨hc, hn⟩, h⟩
      exact ⟨⟨(h c (.inl rfl)).2, (h c (.inl rfl)).1⟩, hn, fun x hx =>
        ⟨⟨fun e => hc (e ▸ hx), (h x (.inr hx)).1⟩, (h x (.inr hx)).2⟩⟩

end ParentFn
