import BigtreeProofs.Lemmas.DiffApply
/-!
# C15: `get_tree_diff` end to end

The result is presented as `mapN (fnS S) (foldl updFa …) [] T'`. `T'` is the `Bare` tree built by
`dataframe_to_tree`, whose `keys` are `markPM t1 t2` of the kept paths: the ` (-)`/` (+)`
marks only, as `_add_suffix` wrote them into the path strings. The updates never change `T'`: the
value pairs become the attribute function, the ` (~)` renames become `fnS S` with `S` the changed
paths. `pairs_at` and `names_at` (through `status_eq`) then read this two-phase marking as the
one-phase `carried` and `markFull (status …)` of `expected`.
-/
namespace Helper

/-- the paths that get value pairs / renames exist, unmarked, in the rebuilt tree -/
theorem dequeC_in_tree (c : Char) (attrList : List Str) (t1 t2 : Tree) (h : DiffOK c t1 t2) (onlyDiff : Bool)
    (T' : Tree)
    (hk : (keys T').Perm ((keptPaths attrList t1 t2 onlyDiff).map (markPM t1 t2)))
    (p : List Str) (hp : p ∈ dequeC attrList t1 t2) :
    p ∈ keys T' ∧ ∀ n ∈ p, n ≠ [] ∧ c ∉ n ∧ ¬ sufChanged <:+ n := by
  obtain ⟨hpa, hpb⟩ := dequeC_both attrList t1 t2 p hp
  have gp := allPaths_good c t1 t2 h p hpa
  refine ⟨?_, fun n hn => ⟨(gp.2 n hn).1, (gp.2 n hn).2.1, fun hs => (gp.2 n hn).2.2 (.inr (.inr hs))⟩⟩
  have hkept : p ∈ keptC attrList t1 t2 onlyDiff := by
    cases onlyDiff with
    | false => exact hpa
    | true =>
      refine List.mem_filter.mpr ⟨hpa, ?_⟩
      rw [(status_changed_iff attrList t1 t2 p).mpr hp]
      rfl
  exact hk.mem_iff.mpr (List.mem_map.mpr ⟨p, (mem_keptPaths_iff ..).mpr ⟨hpa, p, hkept, List.prefix_refl _⟩,
    markPM_both t1 t2 p hpa hpb⟩)

theorem updates_result (c : Char) (attrList : List Str) (t1 t2 : Tree) (h : DiffOK c t1 t2) (onlyDiff : Bool)
    (T' : Tree) (hs : SibU T')
    (hk : (keys T').Perm ((keptPaths attrList t1 t2 onlyDiff).map (markPM t1 t2))) :
    ∃ S : List (List Str), (∀ q, q ∈ S ↔ q ∈ dequeC attrList t1 t2) ∧
      applyUpdates [c] (((pairUpdsC attrList t1 t2).map fun pu => (pathName [c] pu.1, pu.2)) ++
            renames [c] ((dequeC attrList t1 t2).map (pathName [c]))) T' =
        .ok (mapN (fnS S)
          ((pairUpdsC attrList t1 t2).foldl (fun fa pu => updFa pu.2 pu.1 fa) (fun _ a => a)) [] T') := by
  have hin := dequeC_in_tree c attrList t1 t2 h onlyDiff T' hk
  obtain ⟨Lc, hren, hmem, hpw⟩ := renames_eq c attrList t1 t2 h
  refine ⟨Lc.reverse ++ [], fun q => by rw [List.append_nil, List.mem_reverse]; exact hmem q, ?_⟩
  have hp := fold_pairs c T' hs (pairUpdsC attrList t1 t2) (fun _ a => a) fun pu hpu => by
    have hd := hin pu.1 (List.mem_map_of_mem hpu)
    refine ⟨?_, hd.1, fun n hn => ⟨(hd.2 n hn).1, (hd.2 n hn).2.1⟩⟩
    obtain ⟨k, _, hpu⟩ := List.mem_flatMap.mp hpu
    obtain ⟨p, _, rfl⟩ := List.mem_map.mp hpu
    exact ⟨k, _, _, rfl⟩
  have hr := fold_renames c T' hs
    ((pairUpdsC attrList t1 t2).foldl (fun fa pu => updFa pu.2 pu.1 fa) (fun _ a => a)) Lc [] hpw
    (fun p hp => hin p ((hmem p).mp hp)) (fun _ _ _ hs => nomatch hs)
  rw [applyUpdates, mapN_id] at hp
  rw [applyUpdates, fnS_nil] at hr
  rw [hren, applyUpdates, List.foldlM_append, hp]
  exact hr

theorem final_rows_perm (c : Char) (attrList : List Str) (hA : attrList.Nodup) (t1 t2 : Tree) (h : DiffOK c t1 t2)
    (onlyDiff : Bool) (T' : Tree) (hb : Bare T')
    (hk : (keys T').Perm ((keptPaths attrList t1 t2 onlyDiff).map (markPM t1 t2)))
    (S : List (List Str)) (hS : ∀ q, q ∈ S ↔ q ∈ dequeC attrList t1 t2) :
    (compRows (mapN (fnS S)
        ((pairUpdsC attrList t1 t2).foldl (fun fa pu => updFa pu.2 pu.1 fa) (fun _ a => a)) [] T')).Perm
      (expected attrList t1 t2 onlyDiff) := by
  rw [compRows_eq, rows_mapN, hb.rows, List.map_map]
  refine (hk.map _).trans (List.Perm.of_eq ?_)
  rw [List.map_map, expected]
  refine List.map_congr_left fun p hp => ?_
  have hpa := ((mem_keptPaths_iff ..).mp hp).1
  exact Prod.ext (names_at c attrList t1 t2 h S hS p hpa) (pairs_at c attrList hA t1 t2 h p hpa)

/-- the core theorem, in terms of the kept rows: every data-frame stage is read at component level,
    then the rebuilt tree receives the value pairs and the renames -/
theorem diff_core (c : Char) (t1 t2 : Tree) (onlyDiff : Bool) (attrList : List Str)
    (hA : attrList.Nodup) (h : DiffOK c t1 t2) :
    (keptC attrList t1 t2 onlyDiff = [] → treeDiff [c] t1 t2 onlyDiff attrList = .ok none) ∧
    (keptC attrList t1 t2 onlyDiff ≠ [] →
      ∃ D, treeDiff [c] t1 t2 onlyDiff attrList = .ok (some D) ∧
        (compRows D).Perm (expected attrList t1 t2 onlyDiff)) := by
  unfold treeDiff
  dsimp only
  rw [markedRows_eq c attrList t1 t2 h, deque_eq_dequeC c attrList t1 t2, keptRows_eq c attrList t1 t2 h,
    attrDiffs_flatten c attrList t1 t2]
  refine ⟨fun hK => by rw [hK]; rfl, fun hne => ?_⟩
  obtain ⟨T', hT', hb', hk'⟩ := rebuild_kept c attrList t1 t2 h onlyDiff hne
  obtain ⟨S, hS, hupd⟩ := updates_result c attrList t1 t2 h onlyDiff T' hb'.sibU hk'
  have hfin := final_rows_perm c attrList hA t1 t2 h onlyDiff T' hb' hk' S hS
  rw [List.isEmpty_map, List.isEmpty_eq_false_iff.mpr hne, if_neg Bool.false_ne_true, hT']
  dsimp only
  by_cases hd : dequeC attrList t1 t2 = []
  · -- no attribute change: the rebuilt tree is the result
    have hS' : S = [] := List.eq_nil_iff_forall_not_mem.mpr fun q hq => List.not_mem_nil (hd ▸ (hS q).mp hq)
    rw [List.map_eq_nil_iff.mp hd, hS', fnS_nil, List.foldl_nil, mapN_id] at hfin
    rw [hd]
    exact ⟨T', rfl, hfin⟩
  · rw [List.isEmpty_map, List.isEmpty_eq_false_iff.mpr hd, if_neg Bool.false_ne_true, hupd]
    exact ⟨_, rfl, hfin⟩

end Helper
