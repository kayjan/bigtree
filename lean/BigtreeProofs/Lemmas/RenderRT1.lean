import BigtreeModel.Render
import BigtreeProofs.Lemmas.RenderV
/-! Helper lemmas for C18.print_roundtrip: what `str_to_tree` reads off one rendered line
(`re.split(...)[-1].lstrip()` gives the name, `.index(name)` gives depth × glyph length). -/
namespace Render

/-! ### scanning: `re.split(...)[-1]` -/

theorem reSplitLast_skip (ps : List Str) : ∀ (k : Nat) (last s : Str), k ≤ s.length →
    reSplitLast ps k last s = reSplitLast ps 0 last (s.drop k)
  | 0, _, _, _ => rfl
  | k + 1, last, [], h => absurd h (Nat.not_succ_le_zero k)
  | k + 1, last, c :: s, h => by
    rw [reSplitLast, List.drop_succ_cons]
    exact reSplitLast_skip ps k last s (Nat.le_of_succ_le_succ h)

/-- a non-empty alternative found at the head is skipped; what follows it becomes the last piece -/
theorem reSplitLast_match {ps : List Str} {p s : Str} (last : Str)
    (h : ps.find? (fun q => !q.isEmpty && q.isPrefixOf (p ++ s)) = some p) :
    reSplitLast ps 0 last (p ++ s) = reSplitLast ps 0 s s := by
  cases p with
  | nil => exact absurd (List.find?_some h) (by simp)
  | cons c p =>
    rw [List.cons_append] at h ⊢
    rw [reSplitLast, h]
    show reSplitLast ps p.length ((p ++ s).drop p.length) (p ++ s) = _
    rw [reSplitLast_skip _ _ _ _ (by simp), List.drop_left]

/-- no alternative matches at any position inside `a` -/
def NoMatchIn (ps : List Str) (a b : Str) : Prop :=
  ∀ i, i < a.length → ∀ p ∈ ps, p.isPrefixOf ((a ++ b).drop i) = false

theorem reSplitLast_nomatch (ps : List Str) : ∀ (a b last : Str), NoMatchIn ps a b →
    reSplitLast ps 0 last (a ++ b) = reSplitLast ps 0 last b
  | [], _, _, _ => rfl
  | c :: a, b, last, h => by
    have h0 : ps.find? (fun p => !p.isEmpty && p.isPrefixOf (c :: (a ++ b))) = none := by
      refine List.find?_eq_none.mpr fun p hp => ?_
      rw [show p.isPrefixOf (c :: (a ++ b)) = false from h 0 (Nat.succ_pos _) p hp, Bool.and_false]
      exact Bool.false_ne_true
    rw [List.cons_append, reSplitLast, h0]
    exact reSplitLast_nomatch ps a b last fun i hi p hp => h (i + 1) (Nat.succ_lt_succ hi) p hp

/-! ### a style meeting `styleOk`, a name meeting `nameOk` -/

theorem gap_length (st : Style) : st.gap.length = st.stem.length := List.length_replicate

theorem styleOk_lengths {st : Style} (h : styleOk st = true) :
    st.branch.length = st.stem.length ∧ st.stemFinal.length = st.stem.length ∧ 0 < st.stem.length ∧
    st.branch ≠ st.stemFinal := by
  simp only [styleOk, Style.lengthsOk, Bool.and_eq_true, beq_iff_eq, decide_eq_true_eq] at h
  obtain ⟨⟨⟨⟨h1, h2⟩, h3⟩, h4⟩, _⟩ := h
  exact ⟨h1.symm, h2.symm.trans h1.symm, h3, h4⟩

theorem styleOk_block_length {st : Style} (h : styleOk st = true) :
    ∀ Y ∈ [st.stem, st.gap, st.branch, st.stemFinal], Y.length = st.stem.length := by
  obtain ⟨lb, lf, _, _⟩ := styleOk_lengths h
  simp [gap_length, lb, lf]

/-- no window over an indentation block and what follows it is a connector -/
theorem styleOk_window {st : Style} (h : styleOk st = true) :
    ∀ X ∈ [st.stem, st.gap], ∀ Y ∈ [st.stem, st.gap, st.branch, st.stemFinal], ∀ o < st.stem.length,
      X.drop o ++ Y.take o ∉ [st.branch, st.stemFinal] := by
  simp only [styleOk, Bool.and_eq_true, List.all_eq_true, List.mem_range, Bool.not_eq_true',
    List.contains_eq_mem, decide_eq_false_iff_not] at h
  exact h.2

theorem glyph_mem (st : Style) (b : Bool) : st.glyph b ∈ [st.stem, st.gap] := by
  cases b <;> simp [Style.glyph]

theorem fill_mem (st : Style) (b : Bool) : st.fill b ∈ [st.branch, st.stemFinal] := by
  cases b <;> simp [Style.fill]

/-- indentation and connector are made of the glyph characters and blanks, which `nameOk` keeps away from the start
of a name -/
theorem line_chars (st : Style) (anc : List Bool) (hr : Bool) :
    ∀ c ∈ (anc.map st.glyph).flatten ++ st.fill hr, c ∈ st.stem ++ st.branch ++ st.stemFinal ++ [' '] := by
  intro c hc
  simp only [List.mem_append, List.mem_flatten, List.mem_map] at hc ⊢
  rcases hc with ⟨_, ⟨b, _, rfl⟩, hc⟩ | hc
  · cases b
    · exact Or.inr (List.mem_singleton.mpr (List.eq_of_mem_replicate hc))
    · exact Or.inl (Or.inl (Or.inl hc))
  · cases hr
    · exact Or.inl (Or.inr hc)
    · exact Or.inl (Or.inl (Or.inr hc))

theorem nameOk_parts {st : Style} {n : Str} (h : nameOk st n = true) :
    ∃ c tl, n = c :: tl ∧ pySpace c = false ∧ c ∉ st.stem ++ st.branch ++ st.stemFinal ++ [' '] ∧
      hasInfix st.branch n = false ∧ hasInfix st.stemFinal n = false := by
  match n, h with
  | c :: tl, h =>
    simp only [nameOk, Bool.and_eq_true, Bool.not_eq_true', List.contains_eq_mem, decide_eq_false_iff_not] at h
    obtain ⟨⟨⟨h1, h2⟩, h3⟩, h4⟩ := h
    exact ⟨c, tl, rfl, h1, h2, h3, h4⟩

theorem hasInfix_drop {p : Str} : ∀ {s : Str}, hasInfix p s = false → ∀ i, p.isPrefixOf (s.drop i) = false
  | [], h, i => by
    rw [List.drop_nil]
    exact h
  | c :: s, h, i => by
    rw [hasInfix, Bool.or_eq_false_iff] at h
    cases i with
    | zero => exact h.1
    | succ i => exact hasInfix_drop h.2 i

/-! ### `node_name` of a rendered line -/

theorem prefix_eq_of_length {a b l : Str} (ha : a <+: l) (hb : b <+: l) (h : a.length = b.length) : a = b :=
  (List.prefix_of_prefix_length_le ha hb (Nat.le_of_eq h)).eq_of_length h

theorem block_nomatch {st : Style} (h : styleOk st = true) {X Y : Str} (hX : X ∈ [st.stem, st.gap])
    (hY : Y ∈ [st.stem, st.gap, st.branch, st.stemFinal]) (rest : Str) :
    NoMatchIn [st.branch, st.stemFinal] X (Y ++ rest) := by
  have len := styleOk_block_length h
  have lX : X.length = st.stem.length := len X (List.mem_append_left [st.branch, st.stemFinal] hX)
  intro i hi p hp
  rw [lX] at hi
  refine Bool.eq_false_iff.mpr fun hc => styleOk_window h X hX Y hY i hi ?_
  -- a connector matching at offset `i` would be the window at `i`
  rw [List.drop_append_of_le_length (Nat.le_of_lt (lX ▸ hi)), List.isPrefixOf_iff_prefix] at hc
  have hw : X.drop i ++ Y.take i <+: X.drop i ++ (Y ++ rest) :=
    (List.prefix_append_right_inj _).mpr ((List.take_prefix i Y).trans (List.prefix_append Y rest))
  have := prefix_eq_of_length hw hc (by
    rw [List.length_append, List.length_drop, List.length_take, lX, len Y hY,
      len p (List.mem_append_right [st.stem, st.gap] hp)]
    omega)
  exact this ▸ hp

/-- the scan runs through the indentation without a match. `block_nomatch` has to know the block that follows the
one scanned, hence the cases: the connector after the last glyph, another glyph otherwise. -/
theorem scan_pre {st : Style} (h : styleOk st = true) (hr : Bool) (name last : Str) :
    ∀ anc : List Bool,
    reSplitLast [st.branch, st.stemFinal] 0 last ((anc.map st.glyph).flatten ++ (st.fill hr ++ name)) =
      reSplitLast [st.branch, st.stemFinal] 0 last (st.fill hr ++ name)
  | [] => rfl
  | [b] => by
    rw [List.map_singleton, List.flatten_singleton]
    exact reSplitLast_nomatch _ _ _ _
      (block_nomatch h (glyph_mem st b) (List.mem_append_right [st.stem, st.gap] (fill_mem st hr)) name)
  | b :: b' :: anc => by
    have ih := scan_pre h hr name last (b' :: anc)
    rw [List.map_cons, List.flatten_cons, List.append_assoc] at ih ⊢
    rw [List.map_cons, List.flatten_cons, List.append_assoc, reSplitLast_nomatch _ _ _ _
      (block_nomatch h (glyph_mem st b) (List.mem_append_left [st.branch, st.stemFinal] (glyph_mem st b')) _)]
    exact ih

/-- of the two connectors, the one the line carries is the alternative `re.split` finds at its position -/
theorem find_fill {st : Style} (h : styleOk st = true) (hr : Bool) (s : Str) :
    [st.branch, st.stemFinal].find? (fun q => !q.isEmpty && q.isPrefixOf (st.fill hr ++ s)) = some (st.fill hr) := by
  obtain ⟨lb, lf, lpos, hne⟩ := styleOk_lengths h
  have self : ∀ q : Str, q.length = st.stem.length → (!q.isEmpty && q.isPrefixOf (q ++ s)) = true := by
    intro q hq
    rw [List.isPrefixOf_iff_prefix.mpr (List.prefix_append q s), Bool.and_true, Bool.not_eq_true',
      List.isEmpty_eq_false_iff, ← List.length_pos_iff, hq]
    exact lpos
  cases hr with
  | true => exact List.find?_cons_of_pos (self _ lb)
  | false =>
    have : (!st.branch.isEmpty && st.branch.isPrefixOf (st.stemFinal ++ s)) = false := by
      rw [Bool.and_eq_false_iff]
      refine Or.inr (Bool.eq_false_iff.mpr fun hc => hne ?_)
      exact prefix_eq_of_length (List.isPrefixOf_iff_prefix.mp hc) (List.prefix_append _ s) (lb.trans lf.symm)
    rw [Style.fill, if_neg Bool.false_ne_true, List.find?_cons_of_neg (by rw [this]; exact Bool.false_ne_true)]
    exact List.find?_cons_of_pos (self _ lf)

theorem nodeName_line {st : Style} (h : styleOk st = true) (anc : List Bool) (hr : Bool) {n : Str}
    (hn : nameOk st n = true) :
    nodeName [st.branch, st.stemFinal] ((anc.map st.glyph).flatten ++ st.fill hr ++ n) = n := by
  obtain ⟨c, tl, rfl, hsp, _, i1, i2⟩ := nameOk_parts hn
  have hname : NoMatchIn [st.branch, st.stemFinal] (c :: tl) [] := by
    intro i _ p hp
    rw [List.append_nil]
    rcases List.mem_cons.mp hp with rfl | hp
    · exact hasInfix_drop i1 i
    · exact List.mem_singleton.mp hp ▸ hasInfix_drop i2 i
  unfold nodeName
  rw [if_neg (by exact Bool.false_ne_true), List.append_assoc, scan_pre h, reSplitLast_match _ (find_fill h hr _),
    ← List.append_nil (c :: tl), reSplitLast_nomatch _ _ _ _ hname, List.append_nil]
  show (c :: tl).dropWhile pySpace = c :: tl
  rw [List.dropWhile_cons_of_neg (by rw [hsp]; exact Bool.false_ne_true)]

/-! ### `.index(name)` on a rendered line -/

theorem indexOf_after (c : Char) (tl : Str) : ∀ (a : Str), c ∉ a → indexOf (c :: tl) (a ++ c :: tl) = some a.length
  | [], _ => by
    rw [List.nil_append, indexOf, if_pos (List.isPrefixOf_iff_prefix.mpr (List.prefix_refl _))]
    rfl
  | x :: a, h => by
    rw [List.mem_cons, not_or] at h
    have hx : ((c :: tl).isPrefixOf (x :: (a ++ c :: tl))) = false := by
      rw [List.isPrefixOf_cons_cons, beq_false_of_ne h.1, Bool.false_and]
    rw [List.cons_append, indexOf, hx, if_neg Bool.false_ne_true, indexOf_after c tl a h.2]
    rfl

theorem indexOf_line {st : Style} (h : styleOk st = true) (anc : List Bool) (hr : Bool) {n : Str}
    (hn : nameOk st n = true) :
    indexOf n ((anc.map st.glyph).flatten ++ st.fill hr ++ n) = some ((anc.length + 1) * st.stem.length) := by
  obtain ⟨c, tl, rfl, _, hc, _⟩ := nameOk_parts hn
  rw [indexOf_after c tl _ (fun h => hc (line_chars st anc hr c h)), List.length_append, glyphs_length,
    styleOk_block_length h _ (List.mem_append_right [st.stem, st.gap] (fill_mem st hr)), Nat.succ_mul]
end Render
