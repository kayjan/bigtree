import BigtreeModel.Modify
/-!
# C08 helper lemmas: the vocabulary of the statements; root names and the up-front validation

The primitive edits never change the root's name, and the validation of a pair list only looks at the two
root names and is a conjunction over the pairs.  This is what makes it independent of the pairs already
processed, hence `loop` = sequential single-pair calls.  That a whole step keeps the root's name (`step_name`,
`stepReplace_name`) is read off the frame theorems, at the end of `ModifyFrame` / `ModifyFrameReplace`.
-/
namespace Modify

/-! ## the vocabulary of the C08 statements

What the hypotheses and conclusions of `Properties/C08.lean` are written in, beside the specification
vocabulary of `BigtreeModel/Modify.lean` (`flat`, `paths`, `under`, `rebase`, `SibUnique`, `GoodName`). -/

/-- all three separators are the single character `c` -/
structure Cfg.Plain (cfg : Cfg) (c : Char) : Prop where
  sep : cfg.sep = [c]
  fsep : cfg.fsep = [c]
  tsep : cfg.tsep = [c]

/-- every name is non-empty and free of the separator -/
def GoodNames (c : Char) (ns : List Str) : Prop := ∀ n ∈ ns, GoodName c n

/-- The from-string `fs` of a pair addresses the node `F` at `fp` of `tree`: it survives the
separator normalisation, the lookup the call performs (`find_full_path` with `with_full_path`,
`find_path` otherwise) returns that node, its last component is `l`, and with `with_full_path` it
starts at the root. `FromOK.full` / `FromOK.partial` establish this for printed full paths and for
partial paths that address exactly one node. -/
structure FromOK (cfg : Cfg) (tree : Tree) (fs : Str) (fp : List Str) (F : Tree) (l : Str) : Prop where
  norm : normFrom cfg fs = fs
  res : (if cfg.withFullPath then findFullPath cfg.fsep tree fs else findPath cfg.fsep tree fs)
          = .ok (some (fp, F))
  found : getRel fp tree = some F
  last : lastComp cfg.fsep fs = l
  root : cfg.withFullPath = true → headComp cfg.fsep fs = tree.name

/-- the state of a same-tree call -/
abbrev st0 (t : Tree) (k : Nat) : St := ⟨none, t, k⟩

/-- the node that is attached: the from-node, or the bare from-node with `delete_children` -/
def stripIf (b : Bool) (X : Tree) : Tree := if b then setKids [] X else X

/-- what a copy shares with its origin: paths and attributes, in order -/
def shape (l : List Entry) : List (List Str × Attrs) := l.map (fun e => (e.1, e.2.2))

/-- the objects of a tree: the pairs (identity, attributes) of its nodes, paths forgotten -/
def objs (t : Tree) : List (Nat × Attrs) := (flat t).map (·.2)

/-- `e` lies below one of the children `pp/kid` -/
def underAny (pp : List Str) (kids : List Tree) (e : Entry) : Bool :=
  kids.any (fun kid => under (pp ++ [kid.name]) e)

/-- what is observed of a child: name, object identity, attributes -/
def ent (x : Tree) : Str × Nat × Attrs := (x.name, x.id, x.attrs)

/-- the entries one pair may touch: below the from-node (when it lives in the edited tree) and below an
existing destination -/
def touched (fpo dpo : Option (List Str)) (e : Entry) : Bool :=
  (match fpo with | some fp => under fp e | none => false) ||
  (match dpo with | some dp => under dp e | none => false)

/-- the handle of an existing destination (`none`: deletion, or the destination does not exist yet) -/
def destHandle (cfg : Cfg) (st : St) : Option Str → Option (List Str)
  | none => none
  | some tp =>
    if tp = [] then none else
    match findFullPath cfg.tsep st.dst tp with
    | .ok (some (dp, _)) => some dp
    | _ => none

/-- the handle of the node to be replaced -/
def replHandle (cfg : Cfg) (st : St) : Option Str → Option (List Str)
  | none => none
  | some tp =>
    match findFullPath cfg.tsep st.dst tp with
    | .ok (some (dp, _)) => some dp
    | _ => none

/-! ## root names, `Except`, validation -/

/-- C08's test vectors compare results of the model by `decide` -/
instance instDecEqExcept {ε α : Type} [DecidableEq ε] [DecidableEq α] : DecidableEq (Except ε α)
  | .ok a, .ok b =>
    if h : a = b then isTrue (by rw [h]) else isFalse (by intro e; cases e; exact h rfl)
  | .error a, .error b =>
    if h : a = b then isTrue (by rw [h]) else isFalse (by intro e; cases e; exact h rfl)
  | .ok _, .error _ => isFalse (by intro e; cases e)
  | .error _, .ok _ => isFalse (by intro e; cases e)

@[simp] theorem setKids_name (cs t) : (setKids cs t).name = t.name := by cases t; rfl
@[simp] theorem appendKid_name (c t) : (appendKid c t).name = t.name := by cases t; rfl

theorem modifyAt_name (p : List Str) (f : Tree → Tree) (hf : ∀ x, (f x).name = x.name) (t : Tree) :
    (modifyAt p f t).name = t.name := by
  cases p with
  | nil => simp [modifyAt, hf]
  | cons n ns => cases t; simp [modifyAt]

@[simp] theorem removeAt_name (p : List Str) (t : Tree) : (removeAt p t).name = t.name := by
  match p, t with
  | [], t => simp [removeAt]
  | [n], .node .. => simp [removeAt]
  | n :: m :: ns, .node .. => simp [removeAt]

theorem removeAll_name (ps : List (List Str)) (t : Tree) : (removeAll ps t).name = t.name := by
  induction ps generalizing t with
  | nil => rfl
  | cons p ps ih => simp [removeAll, ih]

/-- Inversion of an `if` in a computation that succeeded.  `split at h` on the large terms of the model is slow to
check; nested `ok_of_ite`s mirror a decision tree instead, one argument per leaf. -/
theorem ok_of_ite {α ε : Type} {c : Prop} [Decidable c] {a b : Except ε α} {d : α} {Q : Prop}
    (ha : a = .ok d → Q) (hb : b = .ok d → Q) (h : (if c then a else b) = .ok d) : Q := by
  split at h
  · exact ha h
  · exact hb h

theorem of_error_eq_ok {ε α : Type} {e : ε} {d : α} {Q : Prop}
    (h : (Except.error e : Except ε α) = .ok d) : Q :=
  nomatch h

theorem tree_name_of {st st' : St} (h : st'.dst.name = st.dst.name ∧ st'.src = st.src) :
    st'.tree.name = st.tree.name := by
  unfold St.tree
  rw [h.2]
  cases st.src with
  | none => exact h.1
  | some s => rfl

theorem valid_congr {cfg st st'} (h1 : st'.dst.name = st.dst.name) (h2 : st'.tree.name = st.tree.name)
    (ps) : valid cfg st' ps = valid cfg st ps := by
  unfold valid; rw [h1, h2]

theorem valid_cons (cfg st p ps) :
    valid cfg st (p :: ps) = (valid cfg st [p] && valid cfg st ps) := by
  unfold valid
  simp only [List.any_cons, List.map_cons, List.all_cons, List.any_nil, List.map_nil, List.all_nil,
    Bool.or_false, Bool.and_true]
  rw [Bool.and_or_distrib_left cfg.copy, Bool.not_or, Bool.or_and_distrib_left (!cfg.withFullPath)]
  cases (!(cfg.mergeChildren && cfg.mergeLeaves))
  · rfl
  · simp only [Bool.true_and]; ac_rfl

theorem validReplace_congr {cfg st st'} (h1 : st'.dst.name = st.dst.name)
    (h2 : st'.tree.name = st.tree.name) (ps) : validReplace cfg st' ps = validReplace cfg st ps := by
  unfold validReplace; rw [h1, h2]

theorem validReplace_cons (cfg st p ps) :
    validReplace cfg st (p :: ps) = (validReplace cfg st [p] && validReplace cfg st ps) := by
  unfold validReplace
  simp only [List.map_cons, List.all_cons, List.map_nil, List.all_nil, Bool.and_true]
  rw [Bool.or_and_distrib_left (!cfg.withFullPath)]
  ac_rfl

end Modify
