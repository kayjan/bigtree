import BigtreeModel.Query
import BigtreeProofs.Lemmas.QueryAddr
/-! Subtrees at addresses, the nodes of a tree as its valid addresses (`locs`), and the located
pre-order as a filter of them. -/

namespace Query

@[simp] theorem sub_nil (R : Tree) : sub R [] = some R := by
  cases R; rfl

theorem sub_cons (R : Tree) (k : Nat) (ks : Addr) :
    sub R (k :: ks) = (R.children[k]?).bind fun c => sub c ks := by
  cases R with
  | node i n a cs =>
    simp only [sub, Tree.children_node]
    cases cs[k]? <;> rfl

theorem sub_cons_isSome {R : Tree} {k : Nat} {ks : Addr} (h : (sub R (k :: ks)).isSome) :
    ∃ c, R.children[k]? = some c ∧ (sub c ks).isSome := by
  rw [sub_cons] at h
  cases hc : R.children[k]? with
  | none => rw [hc] at h; cases h
  | some c => rw [hc] at h; exact ⟨c, rfl, h⟩

theorem sub_append (R : Tree) (a b : Addr) : sub R (a ++ b) = (sub R a).bind fun t => sub t b := by
  induction a generalizing R with
  | nil => rfl
  | cons k ks ih =>
    rw [List.cons_append, sub_cons, sub_cons]
    cases R.children[k]? with
    | none => rfl
    | some c => exact ih c

theorem sub_snoc (R : Tree) (a : Addr) (k : Nat) :
    sub R (a ++ [k]) = (sub R a).bind fun t => t.children[k]? := by
  rw [sub_append]
  congr 1
  funext t
  rw [sub_cons]
  cases t.children[k]? <;> rfl

theorem childrenOf_of_sub {R : Tree} {a : Addr} {t : Tree} (h : sub R a = some t) :
    childrenOf R a = (List.range t.children.length).map fun k => a ++ [k] := by
  simp only [childrenOf, h]

theorem childrenOf_of_none {R : Tree} {a : Addr} (h : sub R a = none) : childrenOf R a = [] := by
  simp only [childrenOf, h]

theorem sub_isSome_of_append {R : Tree} {a b : Addr} (h : (sub R (a ++ b)).isSome) : (sub R a).isSome :=
  Option.isSome_of_isSome_bind (sub_append R a b ▸ h)

/-! ### locs: the nodes of a tree are its valid addresses, each once -/

theorem locs_eq_cons (t : Tree) : locs t = [] :: locsL 0 t.children := by
  cases t; rfl

theorem locsL_cons (k : Nat) (t : Tree) (ts : List Tree) :
    locsL k (t :: ts) = (locs t).map (k :: ·) ++ locsL (k + 1) ts := rfl

theorem nil_mem_locs (t : Tree) : [] ∈ locs t :=
  locs_eq_cons t ▸ List.mem_cons_self

theorem mem_locsL {x : Addr} {j : Nat} {ts : List Tree} :
    x ∈ locsL j ts ↔ ∃ i c y, ts[i]? = some c ∧ y ∈ locs c ∧ x = (j + i) :: y := by
  induction ts generalizing j with
  | nil => simp [locsL]
  | cons t ts ih =>
    rw [locsL_cons, List.mem_append, List.mem_map, ih]
    constructor
    · rintro (⟨y, hy, rfl⟩ | ⟨i, c, y, hc, hy, rfl⟩)
      · exact ⟨0, t, y, rfl, hy, rfl⟩
      · exact ⟨i + 1, c, y, hc, hy, by rw [Nat.add_right_comm, Nat.add_assoc]⟩
    · rintro ⟨i, c, y, hc, hy, rfl⟩
      cases i with
      | zero => cases hc; exact Or.inl ⟨y, hy, rfl⟩
      | succ i => exact Or.inr ⟨i, c, y, hc, hy, by rw [Nat.add_right_comm, Nat.add_assoc]⟩

theorem mem_locs_iff (t : Tree) (x : Addr) : x ∈ locs t ↔ (sub t x).isSome := by
  induction x generalizing t with
  | nil => simp [nil_mem_locs]
  | cons k ks ih =>
    rw [locs_eq_cons, List.mem_cons, mem_locsL]
    constructor
    · rintro (h | ⟨i, c, y, hc, hy, h⟩)
      · cases h
      · cases h
        rw [sub_cons, Nat.zero_add, hc]
        exact (ih c).1 hy
    · intro h
      obtain ⟨c, hc, hs⟩ := sub_cons_isSome h
      exact Or.inr ⟨k, c, ks, hc, (ih c).2 hs, by rw [Nat.zero_add]⟩

mutual
theorem locs_nodup : ∀ t : Tree, (locs t).Nodup
  | .node _ _ _ cs => by
    rw [locs, List.nodup_cons]
    refine ⟨fun h => ?_, locsL_nodup cs 0⟩
    obtain ⟨_, _, _, _, _, h⟩ := mem_locsL.1 h
    cases h
theorem locsL_nodup : ∀ (ts : List Tree) (k : Nat), (locsL k ts).Nodup
  | [], _ => List.nodup_nil
  | t :: ts, k => by
    rw [locsL_cons, List.nodup_append]
    refine ⟨nodup_map_on (fun _ _ _ _ e => List.tail_eq_of_cons_eq e) (locs_nodup t), locsL_nodup ts (k + 1), ?_⟩
    rintro _ hx _ hy rfl
    obtain ⟨_, _, rfl⟩ := List.mem_map.1 hx
    obtain ⟨i, _, _, _, _, h⟩ := mem_locsL.1 hy
    exact Nat.ne_of_lt (Nat.lt_add_right i (Nat.lt_succ_self k)) (List.head_eq_of_cons_eq h)
end

theorem subtreeLocs_of_sub {R : Tree} {a : Addr} {t : Tree} (h : sub R a = some t) :
    subtreeLocs R a = (locs t).map (a ++ ·) := by simp only [subtreeLocs, h]

theorem subtreeLocs_nodup (R : Tree) (a : Addr) : (subtreeLocs R a).Nodup := by
  unfold subtreeLocs
  cases sub R a with
  | none => exact List.nodup_nil
  | some t => exact nodup_map_on (fun _ _ _ _ e => List.append_cancel_left e) (locs_nodup t)

theorem mem_subtreeLocs_iff (R : Tree) (a x : Addr) :
    x ∈ subtreeLocs R a ↔ ∃ y, x = a ++ y ∧ (sub R x).isSome := by
  cases h : sub R a with
  | none =>
    simp only [subtreeLocs, h, List.not_mem_nil, false_iff]
    rintro ⟨y, rfl, hs⟩
    rw [sub_append, h] at hs
    cases hs
  | some t =>
    simp only [subtreeLocs_of_sub h, List.mem_map, mem_locs_iff]
    constructor
    · rintro ⟨y, hy, rfl⟩
      exact ⟨y, rfl, by rw [sub_append, h]; exact hy⟩
    · rintro ⟨y, rfl, hs⟩
      rw [sub_append, h] at hs
      exact ⟨y, hs, rfl⟩

/-! ### the located pre-order is the filtered list of all locations -/

/-- the gate of `preorder_iter` seen as a predicate on addresses -/
def within (md : Nat) (b : Addr) : Bool := md == 0 || decide (b.length + 1 ≤ md)

theorem gate_eq_within (md : Nat) (a : Addr) : (md == 0 || !(decide (depth a > md))) = within md a := by
  rw [depth_eq_length, within]
  simp only [gt_iff_lt, ← decide_not, Nat.not_lt]

theorem within_of_append {md : Nat} {a y : Addr} : within md (a ++ y) = true → within md a = true := by
  simp only [within, Bool.or_eq_true, decide_eq_true_eq, List.length_append]
  exact Or.imp_right (Nat.le_trans (Nat.succ_le_succ (Nat.le_add_right _ _)))

mutual
theorem preAt_eq (filt : Addr → Bool) (md : Nat) : ∀ (t : Tree) (a : Addr),
    preAt filt md a t = ((locs t).map (a ++ ·)).filter fun x => within md x && filt x
  | .node _ _ _ cs, a => by
    rw [preAt, gate_eq_within]
    cases hw : within md a with
    | false =>
      -- the walk stops here; the filter rejects every node below as well
      rw [if_neg Bool.false_ne_true]
      symm
      rw [List.filter_eq_nil_iff]
      intro x hx hp
      obtain ⟨y, _, rfl⟩ := List.mem_map.1 hx
      rw [within_of_append (Bool.and_eq_true_iff.1 hp).1] at hw
      cases hw
    | true =>
      rw [if_pos rfl, preAtL_eq filt md cs a 0, locs, List.map_cons, List.append_nil, List.filter_cons, hw,
        Bool.true_and]
      cases filt a <;> rfl
theorem preAtL_eq (filt : Addr → Bool) (md : Nat) : ∀ (ts : List Tree) (a : Addr) (k : Nat),
    preAtL filt md a k ts = ((locsL k ts).map (a ++ ·)).filter fun x => within md x && filt x
  | [], _, _ => rfl
  | t :: ts, a, k => by
    rw [preAtL, locsL_cons, List.map_append, List.filter_append, preAt_eq filt md t (a ++ [k]),
      preAtL_eq filt md ts a (k + 1), List.map_map]
    congr 3
    funext x
    simp
end

theorem preorderFrom_eq (R : Tree) (filt : Addr → Bool) (md : Nat) (a : Addr) :
    preorderFrom R filt md a = (subtreeLocs R a).filter fun x => within md x && filt x := by
  unfold preorderFrom subtreeLocs
  cases sub R a with
  | none => rfl
  | some t => exact preAt_eq filt md t a

end Query
