import BigtreeModel.Render
/-! Helper lemmas for C18 (dot and mermaid ids): `natStr` (Python's `str(int)` on naturals) is non-empty, all digits
and injective; a list splits in only one way into a run on which a predicate holds and a rest that starts (or, read
from the right, ends) with an element on which it fails. -/
namespace Render

theorem natStr_ne_nil (n : Nat) : natStr n ≠ [] := Nat.toDigits_ne_nil

theorem natStr_isDigit (n : Nat) : ∀ c ∈ natStr n, c.isDigit = true :=
  fun _ hc => Nat.isDigit_of_mem_toDigits (by decide) (by decide) hc

theorem natStr_injective {a b : Nat} (h : natStr a = natStr b) : a = b := by
  have := congrArg (Nat.ofDigitChars 10 · 0) h
  simpa only [natStr, Nat.ofDigitChars_ten_toDigits] using this

theorem takeWhile_append_stop {α} {p : α → Bool} {u r : List α} (hu : ∀ x ∈ u, p x = true)
    (hr : ∀ x, r.head? = some x → p x = false) : (u ++ r).takeWhile p = u := by
  rw [List.takeWhile_append_of_pos hu]
  cases r with
  | nil => simp
  | cons x r => simp [hr x rfl]

theorem span_unique {α} {p : α → Bool} {u v r s : List α} (hu : ∀ x ∈ u, p x = true) (hv : ∀ x ∈ v, p x = true)
    (hr : ∀ x, r.head? = some x → p x = false) (hs : ∀ x, s.head? = some x → p x = false)
    (h : u ++ r = v ++ s) : u = v ∧ r = s := by
  have e : u = v := by rw [← takeWhile_append_stop hu hr, h, takeWhile_append_stop hv hs]
  subst e
  exact ⟨rfl, List.append_cancel_left h⟩

theorem span_unique_right {α} {p : α → Bool} {a b u v : List α} (hu : ∀ x ∈ u, p x = true) (hv : ∀ x ∈ v, p x = true)
    (ha : ∀ x, a.getLast? = some x → p x = false) (hb : ∀ x, b.getLast? = some x → p x = false)
    (h : a ++ u = b ++ v) : a = b ∧ u = v := by
  have h' := congrArg List.reverse h
  rw [List.reverse_append, List.reverse_append] at h'
  have := span_unique (p := p) (fun x hx => hu x (List.mem_reverse.mp hx)) (fun x hx => hv x (List.mem_reverse.mp hx))
    (fun x hx => ha x (List.head?_reverse ▸ hx)) (fun x hx => hb x (List.head?_reverse ▸ hx)) h'
  exact ⟨List.reverse_inj.mp this.2, List.reverse_inj.mp this.1⟩

end Render
