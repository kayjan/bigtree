import BigtreeProofs.Lemmas.CopyStoreBasic
/-!
# Histories that also ATTACH fresh nodes (`Node(name, parent=v)`)

A grown node gets a fresh id, so the two sides of a copy cannot be told apart by a numeric
boundary: a *world* carries the store and the side of every id; a node grown under `v` joins
`v`'s side. `Closed` (every link points into the store) is needed so that the fresh id is not
already referred to; it is preserved by every operation.
-/
namespace CopyStore

theorem closed_grow {s : Store} (hc : Closed s) (v : Nat) (nm : Str) : Closed (grow s v nm) :=
  closed_step (closed_alloc hc nm []) (.setParent s.n (some v))

/-- growing under `v` on the side `Q'` of `v` and of the fresh id; `Q'` need agree with the side
    `Q` that separates the closed store only on the ids of the store -/
theorem inv_grow {Q Q' : Nat → Prop} {s : Store} (hc : Closed s) (h : SepQ s Q)
    (e : ∀ i, i < s.n → (Q i ↔ Q' i)) (v : Nat) (nm : Str) (hn : Q' s.n) (hv : Q' v) :
    Inv Q' s (grow s v nm) :=
  inv_setParent s.n (some v) (inv_alloc nm [] (Inv.refl (sepQ_congr hc e h)) hn) hn
    fun _ e => Option.some.inj e ▸ hv

theorem n_grow (s : Store) (v : Nat) (nm : Str) : (grow s v nm).n = s.n + 1 := by
  unfold grow; rw [n_setParent, alloc_n]

/-! ## worlds: a store with a side for every id -/

/-- an operation of a history: a mutation, or `Node(nm, parent=v)` -/
inductive HOp where
  | op (o : Op)
  | grow (v : Nat) (nm : Str)

/-- the node arguments of an operation; a grown node has no id before the operation runs -/
def HOp.args : HOp → List Nat
  | .op o => o.args
  | .grow v _ => [v]

/-- the store and the side of every id (`true` = the copy's side) -/
structure World where
  st : Store
  side : Nat → Bool

/-- a grown node joins the side of the node it is attached to -/
def hstep (w : World) : HOp → World
  | .op o => ⟨step w.st o, w.side⟩
  | .grow v nm => ⟨grow w.st v nm, fun i => if i = w.st.n then w.side v else w.side i⟩

def hrun (w : World) (ops : List HOp) : World := ops.foldl hstep w

/-- every operation of the history has all its node arguments on side `b` at the time it runs -/
def AllOn (b : Bool) : World → List HOp → Prop
  | _, [] => True
  | w, op :: ops => (∀ a ∈ op.args, w.side a = b) ∧ AllOn b (hstep w op) ops

/-- every operation has all its arguments on one side (either one) at the time it runs -/
def EachOneSided : World → List HOp → Prop
  | _, [] => True
  | w, op :: ops => (∃ b, ∀ a ∈ op.args, w.side a = b) ∧ EachOneSided (hstep w op) ops

/-- no link joins the two sides -/
def WSep (w : World) : Prop := SepQ w.st fun i => w.side i = true

theorem sepQ_side_iff (st : Store) (side : Nat → Bool) (b : Bool) :
    SepQ st (fun i => side i = b) ↔ SepQ st (fun i => side i = true) := by
  cases b with
  | true => exact Iff.rfl
  | false =>
    have e : ∀ i j, (side i = false ↔ side j = false) ↔ (side i = true ↔ side j = true) :=
      fun i j => by cases side i <;> cases side j <;> decide
    exact ⟨sepQ_mono fun i j => (e i j).1, sepQ_mono fun i j => (e i j).2⟩

theorem hstep_frame (w : World) (op : HOp) (b : Bool) (hc : Closed w.st) (hs : WSep w)
    (ha : ∀ a ∈ op.args, w.side a = b) :
    Closed (hstep w op).st ∧ WSep (hstep w op) ∧ w.st.n ≤ (hstep w op).st.n
      ∧ (∀ i, i < w.st.n → (hstep w op).side i = w.side i)
      ∧ (∀ i, i < w.st.n → w.side i ≠ b → (hstep w op).st.cell? i = w.st.cell? i) := by
  have hQ : SepQ w.st fun i => w.side i = b := (sepQ_side_iff w.st w.side b).2 hs
  cases op with
  | op o =>
    have h1 := inv_step o (Inv.refl hQ) ha
    exact ⟨closed_step hc o, (sepQ_side_iff _ _ b).1 h1.1, Nat.le_of_eq (n_step w.st o).symm,
      fun _ _ => rfl, fun i _ hi => h1.2 i hi⟩
  | grow v nm =>
    have hv : w.side v = b := ha v List.mem_cons_self
    -- the new sides: as before on the ids of the store, and `b` at the fresh id and at `v`
    have hold : ∀ i, i < w.st.n → (hstep w (.grow v nm)).side i = w.side i :=
      fun i hi => if_neg (Nat.ne_of_lt hi)
    have h2 : Inv (fun i => (hstep w (.grow v nm)).side i = b) w.st (grow w.st v nm) :=
      inv_grow hc hQ (fun i hi => by rw [hold i hi]) v nm ((if_pos rfl).trans hv)
        ((ite_self (w.side v)).trans hv)
    exact ⟨closed_grow hc v nm, (sepQ_side_iff _ _ b).1 h2.1,
      Nat.le_trans (Nat.le_succ _) (Nat.le_of_eq (n_grow w.st v nm).symm), hold,
      fun i hi hne => h2.2 i fun e => hne ((hold i hi).symm.trans e)⟩

theorem hrun_frame (b : Bool) (ops : List HOp) : ∀ w : World, Closed w.st → WSep w → AllOn b w ops →
    ∀ i, i < w.st.n → w.side i ≠ b → (hrun w ops).st.cell? i = w.st.cell? i := by
  induction ops with
  | nil => exact fun _ _ _ _ _ _ _ => rfl
  | cons op ops ih =>
    intro w hc hs ha i hi hne
    obtain ⟨h1, h2, h3, h4, h5⟩ := hstep_frame w op b hc hs ha.1
    exact (ih (hstep w op) h1 h2 ha.2 i (Nat.lt_of_lt_of_le hi h3) ((h4 i hi).symm ▸ hne)).trans
      (h5 i hi hne)

end CopyStore
