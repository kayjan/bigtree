import BigtreeProofs.Lemmas.DiffWalk
import BigtreeProofs.Lemmas.DiffStr
import BigtreeProofs.Lemmas.DiffMark
/-!
# C15: the outer merge of the two exports, read at component level
-/
namespace Helper

theorem find?_congr' {α} (p q : α → Bool) : ∀ (l : List α), (∀ x ∈ l, p x = q x) → l.find? p = l.find? q := by
  intro l
  induction l with
  | nil => intro _; rfl
  | cons a l ih =>
    intro h
    rw [List.find?_cons, List.find?_cons, h a (List.mem_cons_self ..),
      ih fun x hx => h x (List.mem_cons_of_mem _ hx)]

theorem lookup_eq_find? {α β} [BEq α] (k : α) (l : List (α × β)) :
    l.lookup k = (l.find? fun y => k == y.1).map (·.2) := by
  induction l with
  | nil => rfl
  | cons x l ih =>
    rw [List.lookup_cons, List.find?_cons]
    cases k == x.1
    · exact ih
    · rfl

/-! ## paths of either tree -/

theorem mem_allPaths (t1 t2 : Tree) (p : List Str) :
    p ∈ allPaths t1 t2 ↔ p ∈ compPaths t1 ∨ p ∈ compPaths t2 := by
  by_cases h : p ∈ compPaths t1 <;> simp [allPaths, h]

theorem allPaths_good (c : Char) (t1 t2 : Tree) (h : DiffOK c t1 t2) (p : List Str) (hp : p ∈ allPaths t1 t2) :
    p ≠ [] ∧ ∀ n ∈ p, n ≠ [] ∧ c ∉ n ∧ ¬ endsWithMark n := by
  rw [mem_allPaths, compPaths_eq, compPaths_eq] at hp
  rcases hp with hp | hp
  · exact ⟨fun e => nil_not_mem_keys t1 (e ▸ hp), h.ok1.keys_good _ hp⟩
  · exact ⟨fun e => nil_not_mem_keys t2 (e ▸ hp), h.ok2.keys_good _ hp⟩

theorem allPaths_prefix_closed (t1 t2 : Tree) (p q : List Str) (hp : p ∈ allPaths t1 t2)
    (hq : q <+: p) (hne : q ≠ []) : q ∈ allPaths t1 t2 := by
  rw [mem_allPaths, compPaths_eq, compPaths_eq] at hp ⊢
  exact hp.imp (keys_prefix_closed t1 p q · hq hne) (keys_prefix_closed t2 p q · hq hne)

theorem allPaths_nodup (c : Char) (t1 t2 : Tree) (h : DiffOK c t1 t2) : (allPaths t1 t2).Nodup := by
  rw [allPaths, compPaths_eq, compPaths_eq, List.nodup_append]
  refine ⟨keys_nodup t1 h.ok1.sibU, (keys_nodup t2 h.ok2.sibU).filter _, ?_⟩
  rintro a ha b hb rfl
  simpa [ha] using (List.mem_filter.mp hb).2

theorem take_good {P : Str → Prop} (p : List Str) (k : Nat) (h : ∀ n ∈ p, P n) : ∀ n ∈ p.take k, P n :=
  fun n hn => h n (List.mem_of_mem_take hn)

/-! ## presence of a path in the two trees -/

/-- the `indicator` column of the outer merge, from presence of the key in the left / right frame
    (a merged row is never absent from both) -/
def indB : Bool → Bool → Ind
  | true, false => .left
  | false, true => .right
  | _, _ => .both

/-- the merge indicator of a path, from its presence in the two trees -/
def indC (t1 t2 : Tree) (p : List Str) : Ind := indB ((compPaths t1).contains p) ((compPaths t2).contains p)

def Ind.status : Ind → Status
  | .left => .removed
  | .right => .added
  | .both => .same

/-- the structural status, i.e. the ` (-)` / ` (+)` marks (hence PM) that `_add_suffix` writes:
    removed / added / same (attribute changes are not looked at) -/
def stPM (t1 t2 : Tree) (p : List Str) : Status := (indC t1 t2 p).status

/-- a path as `_add_suffix` writes it: every component carries the ` (-)` / ` (+)` mark of the prefix
    ending there. These are the component paths of the rebuilt tree. -/
def markPM (t1 t2 : Tree) (p : List Str) : List Str := markFull (stPM t1 t2) p

theorem indC_eq_left_iff (t1 t2 : Tree) (p : List Str) :
    indC t1 t2 p = .left ↔ p ∈ compPaths t1 ∧ p ∉ compPaths t2 := by
  have : ∀ a b, indB a b = .left ↔ a = true ∧ ¬ b = true := by decide
  rw [indC, this, List.contains_iff_mem, List.contains_iff_mem]

theorem indC_eq_right_iff (t1 t2 : Tree) (p : List Str) :
    indC t1 t2 p = .right ↔ p ∉ compPaths t1 ∧ p ∈ compPaths t2 := by
  have : ∀ a b, indB a b = .right ↔ ¬ a = true ∧ b = true := by decide
  rw [indC, this, List.contains_iff_mem, List.contains_iff_mem]

theorem indC_of_mem (t1 t2 : Tree) (p : List Str) (h1 : p ∈ compPaths t1) (h2 : p ∈ compPaths t2) :
    indC t1 t2 p = .both := by
  rw [indC, List.contains_iff_mem.mpr h1, List.contains_iff_mem.mpr h2]; rfl

theorem indC_both_iff (t1 t2 : Tree) (p : List Str) (hp : p ∈ allPaths t1 t2) :
    indC t1 t2 p = .both ↔ p ∈ compPaths t1 ∧ p ∈ compPaths t2 := by
  have : ∀ a b, a = true ∨ b = true → (indB a b = .both ↔ a = true ∧ b = true) := by decide
  rw [mem_allPaths, ← List.contains_iff_mem, ← List.contains_iff_mem] at hp
  rw [indC, this _ _ hp, List.contains_iff_mem, List.contains_iff_mem]

theorem indC_ne_both_mem (t1 t2 : Tree) (p : List Str) (h : indC t1 t2 p ≠ .both) : p ∈ allPaths t1 t2 := by
  have : ∀ a b, indB a b ≠ .both → a = true ∨ b = true := by decide
  rw [mem_allPaths, ← List.contains_iff_mem, ← List.contains_iff_mem]
  exact this _ _ h

theorem stPM_eq_iff (t1 t2 : Tree) (p : List Str) (i : Ind) : stPM t1 t2 p = i.status ↔ indC t1 t2 p = i := by
  unfold stPM; cases indC t1 t2 p <;> cases i <;> decide

theorem stPM_ne_changed (t1 t2 : Tree) (p : List Str) : stPM t1 t2 p ≠ .changed := by
  unfold stPM; cases indC t1 t2 p <;> decide

/-! ## component-level reading of one merged row -/

/-- the cell of attribute column `k` in the row of path `p` of the export of `t`; `null` (the
    merge's NaN) where `t` has no such node or the node no such attribute -/
def valAt (t : Tree) (k : Str) (p : List Str) : Val := getAttr ((attrsAt t p).getD []) k

/-- the attribute columns of that row, one cell per listed attribute -/
def valsAt (attrList : List Str) (t : Tree) (p : List Str) : List Val := attrList.map fun k => valAt t k p

/-- the merged row of path `p` before marking -/
def jrow (c : Char) (attrList : List Str) (t1 t2 : Tree) (p : List Str) : MRow :=
  ⟨pathName [c] p, p.getLastD [], indC t1 t2 p, valsAt attrList t1 p, valsAt attrList t2 p⟩

/-- the merged row of path `p` after marking -/
def mrow (c : Char) (attrList : List Str) (t1 t2 : Tree) (p : List Str) : MRow :=
  { jrow c attrList t1 t2 p with path := pathName [c] (markPM t1 t2 p) }

/-- a row of `rowsOf`, from a row of `rows` -/
def drow (c : Char) (attrList : List Str) (r : List Str × Attrs) : DRow :=
  ⟨pathName [c] r.1, r.1.getLastD [], attrList.map (getAttr r.2)⟩

theorem rowsOf_eq (c : Char) (attrList : List Str) (t : Tree) :
    rowsOf [c] attrList t = (rows t).map (drow c attrList) := by
  rw [← compRows_eq, compRows, List.map_map]
  exact List.map_congr_left fun v hv => by
    rw [Function.comp_apply, drow, walk_name_last t [] [] v hv]

theorem valAt_some (t : Tree) (k : Str) (p : List Str) (a : Attrs) (h : attrsAt t p = some a) :
    valAt t k p = getAttr a k := by
  rw [valAt, h]; rfl

theorem valsAt_some (attrList : List Str) (t : Tree) (p : List Str) (a : Attrs) (h : attrsAt t p = some a) :
    valsAt attrList t p = attrList.map (getAttr a) := by
  simp only [valsAt, valAt, h, Option.getD_some]

theorem valsAt_none (attrList : List Str) (t : Tree) (p : List Str) (h : attrsAt t p = none) :
    valsAt attrList t p = List.replicate attrList.length .null := by
  simp only [valsAt, valAt, h, Option.getD_none]
  exact List.map_const' ..

theorem sameKey_drow (c : Char) (al : List Str) (r q : List Str × Attrs)
    (hr : r.1 ≠ [] ∧ ∀ n ∈ r.1, c ∉ n) (hq : q.1 ≠ [] ∧ ∀ n ∈ q.1, c ∉ n) :
    sameKey (drow c al r) (drow c al q) = (r.1 == q.1) := by
  by_cases e : r.1 = q.1
  · simp only [sameKey, drow, e, beq_self_eq_true, Bool.and_self]
  · have : pathName [c] r.1 ≠ pathName [c] q.1 := fun h => e (pathName_inj c _ _ hr.1 hq.1 hr.2 hq.2 h)
    simp only [sameKey, drow, beq_eq_false_iff_ne.mpr this, Bool.false_and, beq_eq_false_iff_ne.mpr e]

theorem rows_good (c : Char) (t : Tree) (h : NamesOK c t) (r : List Str × Attrs) (hr : r ∈ rows t) :
    r.1 ≠ [] ∧ ∀ n ∈ r.1, c ∉ n :=
  have hk : r.1 ∈ keys t := List.mem_map_of_mem hr
  ⟨fun e => nil_not_mem_keys t (e ▸ hk), fun n hn => (h.keys_good _ hk n hn).2.1⟩

theorem outerJoin_map {α κ} [BEq κ] [LawfulBEq κ] (n : Nat) (f : α → DRow) (key : α → κ) (l1 l2 : List α)
    (he : ∀ x ∈ l1, ∀ y ∈ l2, sameKey (f x) (f y) = (key x == key y)) :
    outerJoin n (l1.map f) (l2.map f) =
      (l1.map fun x => match l2.find? (fun y => key x == key y) with
        | some y => ⟨(f x).path, (f x).name, .both, (f x).vals, (f y).vals⟩
        | none => ⟨(f x).path, (f x).name, .left, (f x).vals, List.replicate n .null⟩) ++
      (l2.filter fun y => !(l1.map key).contains (key y)).map fun y =>
        ⟨(f y).path, (f y).name, .right, List.replicate n .null, (f y).vals⟩ := by
  rw [outerJoin, List.map_map, List.filter_map, List.map_map]
  congr 1
  · refine List.map_congr_left fun x hx => ?_
    rw [Function.comp_apply, List.find?_map,
      find?_congr' (sameKey (f x) ∘ f) (fun y => key x == key y) l2 fun y hy => he x hx y hy]
    cases l2.find? (fun y => key x == key y) <;> rfl
  · refine congrArg _ (List.filter_congr fun y hy => ?_)
    rw [Function.comp_apply]
    refine congrArg _ ?_
    rw [List.any_map, List.contains_eq_any_beq, List.any_map, Bool.eq_iff_iff,
      List.any_eq_true, List.any_eq_true]
    exact exists_congr fun x => and_congr_right fun hx => by
      rw [Function.comp_apply, Function.comp_apply, he x hx y hy, beq_iff_eq, beq_iff_eq, eq_comm]

theorem outerJoin_eq (c : Char) (attrList : List Str) (t1 t2 : Tree) (h1 : NamesOK c t1) (h2 : NamesOK c t2) :
    outerJoin attrList.length (rowsOf [c] attrList t1) (rowsOf [c] attrList t2) =
      (allPaths t1 t2).map (jrow c attrList t1 t2) := by
  have hat : ∀ (t : Tree), NamesOK c t → ∀ r ∈ rows t, attrsAt t r.1 = some r.2 := fun t h r hr =>
    (attrsAt_some_iff t h.sibU r.1 r.2).mpr hr
  have hmem : ∀ (t : Tree), ∀ r ∈ rows t, r.1 ∈ compPaths t := fun t r hr =>
    compPaths_eq t ▸ List.mem_map_of_mem hr
  rw [rowsOf_eq, rowsOf_eq, outerJoin_map _ _ (·.1) _ _ fun x hx y hy =>
    sameKey_drow c attrList x y (rows_good c t1 h1 x hx) (rows_good c t2 h2 y hy),
    allPaths, compPaths_eq, compPaths_eq, List.map_append, keys, keys, List.map_map, List.filter_map,
    List.map_map]
  congr 1
  · refine List.map_congr_left fun x hx => ?_
    have ha2 := lookup_eq_find? x.1 (rows t2)
    rw [← attrsAt_eq] at ha2
    rw [Function.comp_apply, jrow, valsAt_some _ _ _ _ (hat t1 h1 x hx)]
    cases hf : (rows t2).find? (fun y => x.1 == y.1) with
    | none =>
      rw [hf] at ha2
      rw [valsAt_none _ _ _ ha2,
        (indC_eq_left_iff t1 t2 x.1).mpr ⟨hmem t1 x hx, (attrsAt_eq_none_iff t2 x.1).mp ha2⟩]
      rfl
    | some y =>
      rw [hf] at ha2
      rw [valsAt_some _ _ _ _ ha2,
        indC_of_mem t1 t2 x.1 (hmem t1 x hx) ((attrsAt_isSome_iff t2 x.1).mp ⟨_, ha2⟩)]
      rfl
  · refine List.map_congr_left fun y hy => ?_
    have ⟨hy2, hy1⟩ := List.mem_filter.mp hy
    have hn1 : y.1 ∉ compPaths t1 := fun hm => by
      rw [compPaths_eq] at hm
      have : ((rows t1).map (·.1)).contains y.1 = true := List.contains_iff_mem.mpr hm
      rw [this] at hy1
      cases hy1
    rw [Function.comp_apply, jrow, valsAt_some _ _ _ _ (hat t2 h2 y hy2),
      valsAt_none _ _ _ ((attrsAt_eq_none_iff t1 y.1).mpr hn1),
      (indC_eq_right_iff t1 t2 y.1).mpr ⟨hn1, hmem t2 y hy2⟩]
    rfl

/-! ## `_add_suffix` -/

/-- the `path_name`s of the merged rows with indicator `i`: the removed (`left`) and added (`right`)
    lists handed to `_add_suffix` -/
def indPaths (c : Char) (attrList : List Str) (t1 t2 : Tree) (i : Ind) : List Str :=
  (((allPaths t1 t2).map (jrow c attrList t1 t2)).filter fun r => r.ind == i).map (·.path)

theorem indPaths_contains (c : Char) (attrList : List Str) (t1 t2 : Tree) (h : DiffOK c t1 t2) (i : Ind)
    (hi : i ≠ .both) (q : List Str) (hq : q ≠ []) (hqc : ∀ n ∈ q, c ∉ n) :
    (indPaths c attrList t1 t2 i).contains (pathName [c] q) = decide (indC t1 t2 q = i) := by
  rw [Bool.eq_iff_iff, List.contains_iff_mem]
  simp only [indPaths, List.mem_map, List.mem_filter, decide_eq_true_eq, beq_iff_eq]
  constructor
  · rintro ⟨r, ⟨⟨p, hp, rfl⟩, hind⟩, hpath⟩
    have gp := allPaths_good c t1 t2 h p hp
    exact pathName_inj c p q gp.1 hq (fun x hx => (gp.2 x hx).2.1) hqc hpath ▸ hind
  · intro hind
    exact ⟨jrow c attrList t1 t2 q, ⟨⟨q, indC_ne_both_mem t1 t2 q (hind ▸ hi), rfl⟩, hind⟩, rfl⟩

/-- the suffix `_add_suffix` picks for a component whose prefix has structural status `s` -/
theorem suffix_choice (n : Str) (s : Status) (b1 b2 : Bool) (h1 : b1 = decide (s = .removed))
    (h2 : b2 = decide (s = .added)) (h3 : s ≠ .changed) :
    (if b1 then n ++ sufRemoved else if b2 then n ++ sufAdded else n) = n ++ s.suffix := by
  subst h1 h2
  cases s with
  | changed => exact absurd rfl h3
  | same => exact (List.append_nil n).symm
  | _ => rfl

theorem addSuffixList_eq_markFull (c : Char) (rem add : List Str) (st : List Str → Status) (p : List Str)
    (hst : ∀ r, r <+: p → r ≠ [] →
      rem.contains (pathName [c] r) = decide (st r = .removed) ∧
      add.contains (pathName [c] r) = decide (st r = .added) ∧ st r ≠ .changed) :
    addSuffixList [c] rem add ([] :: p) = [] :: markFull st p := by
  rw [addSuffixList, markFull, List.length_cons, List.range_succ_eq_map, List.map_cons, List.map_map]
  refine congrArg _ (List.map_congr_left fun i hi => ?_)
  have hne : p.take (i + 1) ≠ [] := by
    cases p with
    | nil => nomatch List.mem_range.mp hi
    | cons => exact List.cons_ne_nil _ _
  obtain ⟨h1, h2, h3⟩ := hst _ (List.take_prefix (i + 1) p) hne
  simp only [Function.comp_apply, Nat.succ_eq_add_one, Nat.add_eq_zero_iff, Nat.one_ne_zero, and_false,
    if_false, List.getD_cons_succ, List.take_succ_cons, ← pathName_eq_join c _ hne]
  exact suffix_choice _ _ _ _ h1 h2 h3

theorem addSuffix_pathName (c : Char) (attrList : List Str) (t1 t2 : Tree) (h : DiffOK c t1 t2)
    (p : List Str) (hp : p ∈ allPaths t1 t2) :
    addSuffix [c] (indPaths c attrList t1 t2 .left) (indPaths c attrList t1 t2 .right) (pathName [c] p) =
      pathName [c] (markPM t1 t2 p) := by
  have gp := allPaths_good c t1 t2 h p hp
  rw [markPM, addSuffix, split_pathName c p gp.1 fun x hx => (gp.2 x hx).2.1,
    addSuffixList_eq_markFull c _ _ (stPM t1 t2) p, pathName_eq_join c _ (mt (markFull_eq_nil _ p).mp gp.1)]
  intro r hr hne
  have hc : ∀ n ∈ r, c ∉ n := fun n hn => (gp.2 n (hr.mem hn)).2.1
  refine ⟨?_, ?_, stPM_ne_changed t1 t2 r⟩
  · exact (indPaths_contains c attrList t1 t2 h .left (by decide) r hne hc).trans
      (decide_eq_decide.mpr (stPM_eq_iff t1 t2 r .left).symm)
  · exact (indPaths_contains c attrList t1 t2 h .right (by decide) r hne hc).trans
      (decide_eq_decide.mpr (stPM_eq_iff t1 t2 r .right).symm)

theorem markedRows_eq (c : Char) (attrList : List Str) (t1 t2 : Tree) (h : DiffOK c t1 t2) :
    markedRows [c] attrList t1 t2 = (allPaths t1 t2).map (mrow c attrList t1 t2) := by
  simp only [markedRows, outerJoin_eq c attrList t1 t2 h.ok1 h.ok2, List.map_map]
  refine List.map_congr_left fun p hp => ?_
  rw [Function.comp_apply, mrow, ← addSuffix_pathName c attrList t1 t2 h p hp]
  rfl

end Helper
