import BigtreeModel.Render
import BigtreeProofs.Lemmas.RenderLinks
/-! Helper lemmas for C18 (tree_to_dot): labels and edges through the tree relabelled
with its ids; the model-level K2 witness. -/
namespace Render

/-! ### the tree relabelled with its dot ids -/
mutual
/-- `dotT` line by line, returning the tree with every name replaced by its id instead of the vertex and edge lists -/
def dotTreeT (sep : Str) (nd : NameDict) (pp : Str) : Tree → NameDict × Tree
  | .node i n a cs =>
    let path := pp ++ sep ++ n
    let lst := nd.get n
    let lst' := if lst.contains path then lst else lst ++ [path]
    let nd' := nd.put n lst'
    let cid := n ++ natStr (lst'.idxOf path)
    let sub := dotTreeL sep nd' path cs
    (sub.1, .node i cid a sub.2)
def dotTreeL (sep : Str) (nd : NameDict) (pp : Str) : List Tree → NameDict × List Tree
  | [] => (nd, [])
  | c :: cs =>
    let a := dotTreeT sep nd pp c
    let b := dotTreeL sep a.1 pp cs
    (b.1, a.2 :: b.2)
end

def parentEdge (parent : Option Str) (cid : Str) : List (Str × Str) :=
  match parent with
  | some p => [(p, cid)]
  | none => []

mutual
theorem dotT_tree (sep : Str) (nd : NameDict) (parent : Option Str) (pp : Str) (t : Tree) :
    (dotT sep nd parent pp t).dict = (dotTreeT sep nd pp t).1 ∧
    (dotT sep nd parent pp t).vertices.map (·.1) = namesT (dotTreeT sep nd pp t).2 ∧
    (dotT sep nd parent pp t).vertices.map (·.2) = namesT t ∧
    (dotT sep nd parent pp t).edges =
      parentEdge parent (dotTreeT sep nd pp t).2.name ++ edgesOfT (dotTreeT sep nd pp t).2 := by
  match t with
  | .node i n a cs =>
    let lst' := if (nd.get n).contains (pp ++ sep ++ n) then nd.get n else nd.get n ++ [pp ++ sep ++ n]
    obtain ⟨i1, i2, i3, i4⟩ :=
      dotL_tree sep (nd.put n lst') (n ++ natStr (lst'.idxOf (pp ++ sep ++ n))) (pp ++ sep ++ n) cs
    exact ⟨i1, congrArg (_ :: ·) i2, congrArg (_ :: ·) i3, congrArg (parentEdge parent _ ++ ·) i4⟩
theorem dotL_tree (sep : Str) (nd : NameDict) (parent : Str) (pp : Str) (cs : List Tree) :
    (dotL sep nd parent pp cs).dict = (dotTreeL sep nd pp cs).1 ∧
    (dotL sep nd parent pp cs).vertices.map (·.1) = namesL (dotTreeL sep nd pp cs).2 ∧
    (dotL sep nd parent pp cs).vertices.map (·.2) = namesL cs ∧
    (dotL sep nd parent pp cs).edges = edgesOfL parent (dotTreeL sep nd pp cs).2 := by
  match cs with
  | [] => exact ⟨rfl, rfl, rfl, rfl⟩
  | c :: cs =>
    obtain ⟨a1, a2, a3, a4⟩ := dotT_tree sep nd (some parent) pp c
    obtain ⟨b1, b2, b3, b4⟩ := dotL_tree sep (dotT sep nd (some parent) pp c).dict parent pp cs
    rw [a1] at b1 b2 b3 b4
    simp only [dotL, dotTreeL, namesL, List.map_append, edgesOfL]
    rw [a1]
    refine ⟨b1, by rw [a2, b2], by rw [a3, b3], ?_⟩
    rw [a4, b4]
    simp [parentEdge]
end

mutual
theorem dotTreeT_size (sep : Str) (nd : NameDict) (pp : Str) (t : Tree) : (dotTreeT sep nd pp t).2.size = t.size := by
  match t with
  | .node i n a cs => rw [dotTreeT, Tree.size, Tree.size, dotTreeL_size]
theorem dotTreeL_size (sep : Str) (nd : NameDict) (pp : Str) (cs : List Tree) :
    Tree.size.sizeL (dotTreeL sep nd pp cs).2 = Tree.size.sizeL cs := by
  match cs with
  | [] => rfl
  | c :: cs => rw [dotTreeL, Tree.size.sizeL, Tree.size.sizeL, dotTreeT_size, dotTreeL_size]
end

mutual
theorem dotTreeT_links (sep : Str) (nd : NameDict) (pp : Str) (i : Nat) (t : Tree) :
    linksT i (dotTreeT sep nd pp t).2 = linksT i t := by
  match t with
  | .node j n a cs => rw [dotTreeT, linksT, linksT, dotTreeL_links]
theorem dotTreeL_links (sep : Str) (nd : NameDict) (pp : Str) (p i : Nat) (cs : List Tree) :
    linksL p i (dotTreeL sep nd pp cs).2 = linksL p i cs := by
  match cs with
  | [] => rfl
  | c :: cs => rw [dotTreeL, linksL, linksL, dotTreeT_links, dotTreeT_size, dotTreeL_links]
end

/-- one edge per parent–child link, joining exactly the ids of the two nodes -/
theorem dot_edges_exact (sep : Str) (t : Tree) :
    dotEdges sep t =
      (linksT 0 t).map fun pc => ((dotIds sep t).getD pc.1 [], (dotIds sep t).getD pc.2 []) := by
  obtain ⟨_, h2, _, h4⟩ := dotT_tree sep [] none [] t
  unfold dotEdges dotIds
  rw [h4, h2]
  simp only [parentEdge, List.nil_append]
  rw [edgesOf_eq_links, dotTreeT_links]
  rfl

/-! ### K2 at the model level -/
def k2Witness : Tree :=
  .node 0 ['r'] [] ((List.range 11).map (fun i => Tree.node 0 ('b' :: natStr i) [] [.node 0 ['x'] [] []])
    ++ [.node 0 ['x', '1'] [] []])

theorem k2Witness_collides :
    sibDistinct k2Witness = true ∧ (∀ n ∈ namesT k2Witness, '/' ∉ n) ∧ ¬ (dotIds ['/'] k2Witness).Nodup := by
  decide +kernel
end Render
