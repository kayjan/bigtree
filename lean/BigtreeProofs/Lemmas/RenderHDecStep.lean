import BigtreeModel.Render
/-!
# The pieces of `decodeNode`: reading one row, scanning the connector column, filtering a range of rows

One step of `decodeNode` is reading the name (`readName`) and then acting on the connector found behind it
(`decodeRest`): `decodeNode_row`.
-/

namespace Render

/-! ### one step of `decodeNode` -/

/-- the name after the branch glyph and what follows it: `─ name ─…` or `──…` -/
def readName (S : HStyle) (rest : Str) : Str × Str :=
  match rest with
  | ' ' :: rest' =>
    let r1 := rest'.dropWhile (· == ' ')
    (r1.takeWhile (· != ' '), (r1.dropWhile (· != ' ')).dropWhile (· == ' '))
  | b2 :: b3 :: rest' => if b2 == S.branch && b3 == S.branch then ([], b3 :: rest') else ([], [])
  | _ => ([], [])

/-- what `decodeNode` does once it has read the name `nm` and found the connector at column `k` -/
def decodeRest (S : HStyle) (rows : List Str) (fuel r k : Nat) (nm : Str) (conn : Char) : Option HTree :=
  if (conn == S.branch) = true then
    Option.map (fun ch => HTree.node nm [ch]) (decodeNode S rows fuel r (k + 1))
  else do
    let top ← scanCol S rows k S.firstChild true rows.length r
    let bot ← scanCol S rows k S.lastChild false rows.length r
    let kids ← List.mapM (fun r' => decodeNode S rows fuel r' (k + 1))
      (List.filter (fun r' => charAt rows r' (k + 1) == some S.branch) (List.range' top (bot - top + 1)))
    pure (HTree.node nm kids)

theorem decodeNode_row (S : HStyle) (rows : List Str) (fuel r c : Nat) (rest : Str)
    (hrow : (rows.getD r []).drop c = S.branch :: rest) :
    decodeNode S rows (fuel + 1) r c =
      match (readName S rest).2 with
      | [] => some (.node (readName S rest).1 [])
      | b' :: conn :: _ => if (b' != S.branch) = true then none else
          decodeRest S rows fuel r ((rows.getD r []).length - (readName S rest).2.length + 1) (readName S rest).1 conn
      | _ => none := by
  rw [decodeNode, hrow]
  simp only [bne_self_eq_false, Bool.false_eq_true, ↓reduceIte]
  rfl

theorem decodeNode_inner_of (S : HStyle) (rows : List Str) (fuel r c : Nat) (mid nm : Str) (conn : Char)
    (tail : Str) (hrow : (rows.getD r []).drop c = S.branch :: (mid ++ S.branch :: conn :: tail))
    (hread : readName S (mid ++ S.branch :: conn :: tail) = (nm, S.branch :: conn :: tail)) :
    decodeNode S rows (fuel + 1) r c = decodeRest S rows fuel r (c + (mid.length + 2)) nm conn := by
  have hlen : (rows.getD r []).length = c + (mid.length + 1) + (tail.length + 1 + 1) := by
    have := congrArg List.length hrow
    rw [List.length_drop, List.length_cons, List.length_append, List.length_cons, List.length_cons] at this
    omega
  rw [decodeNode_row S rows fuel r c _ hrow, hread, hlen]
  simp only [bne_self_eq_false, Bool.false_eq_true, ↓reduceIte, List.length_cons, Nat.add_sub_cancel]
  rfl

/-! ### the three kinds of labels -/

theorem readName_leaf (S : HStyle) (l : Nat) (n : Str) (hn : ∀ ch ∈ n, ch ≠ ' ') :
    readName S (' ' :: (List.replicate l ' ' ++ n)) = (n, []) := by
  have h1 : (List.replicate l ' ' ++ n).dropWhile (· == ' ') = n := by
    rw [List.dropWhile_append_of_pos (by simp)]
    cases n with
    | nil => rfl
    | cons a t => exact List.dropWhile_cons_of_neg (by simpa using hn a (by simp))
  have h2 : n.takeWhile (· != ' ') = n := by
    simpa using List.takeWhile_append_of_pos (l₂ := []) (p := (· != ' ')) (l₁ := n) (by simpa using hn)
  have h3 : n.dropWhile (· != ' ') = [] := by
    simpa using List.dropWhile_append_of_pos (l₂ := []) (p := (· != ' ')) (l₁ := n) (by simpa using hn)
  simp only [readName, h1, h2, h3, List.dropWhile_nil]

theorem readName_inter (S : HStyle) (hb : S.branch ≠ ' ') (l rr : Nat) (n : Str) (hn : ∀ ch ∈ n, ch ≠ ' ')
    (hne : n ≠ []) (t : Str) :
    readName S (' ' :: (List.replicate l ' ' ++ n ++ List.replicate rr ' ' ++ [' ']) ++ S.branch :: t) =
      (n, S.branch :: t) := by
  rw [List.cons_append, List.append_assoc _ [' '], List.singleton_append]
  have hn' : ∀ a ∈ n, (a != ' ') = true := by simpa using hn
  have h1 : ((List.replicate l ' ' ++ n ++ List.replicate rr ' ') ++ ' ' :: S.branch :: t).dropWhile (· == ' ')
      = n ++ (List.replicate rr ' ' ++ ' ' :: S.branch :: t) := by
    obtain ⟨a, n', rfl⟩ := List.exists_cons_of_ne_nil hne
    rw [List.append_assoc, List.append_assoc, List.dropWhile_append_of_pos (by simp), List.cons_append,
      List.dropWhile_cons_of_neg (by simpa using hn a (by simp))]
  have h4 : ∀ p : Char → Bool, p ' ' = false → (List.replicate rr ' ' ++ ' ' :: S.branch :: t).takeWhile p = [] ∧
      (List.replicate rr ' ' ++ ' ' :: S.branch :: t).dropWhile p = List.replicate rr ' ' ++ ' ' :: S.branch :: t := by
    intro p hp
    cases rr <;> simp [List.replicate_succ, hp]
  have h2 : (n ++ (List.replicate rr ' ' ++ ' ' :: S.branch :: t)).takeWhile (· != ' ') = n := by
    rw [List.takeWhile_append_of_pos hn', (h4 _ (by simp)).1, List.append_nil]
  have h3 : ((n ++ (List.replicate rr ' ' ++ ' ' :: S.branch :: t)).dropWhile (· != ' ')).dropWhile (· == ' ')
      = S.branch :: t := by
    rw [List.dropWhile_append_of_pos hn', (h4 _ (by simp)).2, List.dropWhile_append_of_pos (by simp),
      List.dropWhile_cons_of_pos (by simp), List.dropWhile_cons_of_neg (by simpa using hb)]
  simp only [readName, h1, h2, h3]

theorem readName_plain (S : HStyle) (hb : S.branch ≠ ' ') (t : Str) :
    readName S ([S.branch] ++ S.branch :: t) = ([], S.branch :: t) := by
  show readName S (S.branch :: S.branch :: t) = _
  unfold readName
  split
  · next h => exact absurd (List.cons.inj h).1 hb
  · next h => cases h; simp
  · next h => exact absurd rfl (h _ _ _)

/-! ### `center`, `rstrip` on good names -/

theorem center_shape (n : Str) (w : Nat) : ∃ l rr, center n w = List.replicate l ' ' ++ n ++ List.replicate rr ' ' := by
  unfold center
  split
  · exact ⟨0, 0, by simp⟩
  · exact ⟨_, _, rfl⟩

theorem hnameOk_noblank {n : Str} (h : hnameOk n = true) : (∀ ch ∈ n, pySpace ch = false) ∧ n ≠ [] := by
  simp only [hnameOk, Bool.and_eq_true, Bool.not_eq_eq_eq_not, Bool.not_true, List.isEmpty_eq_false_iff,
    List.all_eq_true] at h
  exact ⟨h.2, h.1⟩

theorem pySpace_blank : pySpace ' ' = true := by decide

theorem noblank_of_noSpace {n : Str} (h : ∀ ch ∈ n, pySpace ch = false) : ∀ ch ∈ n, ch ≠ ' ' := by
  intro ch hch e
  have := h ch hch
  rw [e, pySpace_blank] at this
  cases this

theorem rstrip_padded (l rr : Nat) (n : Str) (h : ∀ ch ∈ n, pySpace ch = false) (hne : n ≠ []) :
    rstrip (List.replicate l ' ' ++ n ++ List.replicate rr ' ') = List.replicate l ' ' ++ n := by
  unfold rstrip
  rw [List.reverse_append, List.reverse_replicate,
    List.dropWhile_append_of_pos (by simp [pySpace_blank]), List.reverse_append]
  cases hr : n.reverse with
  | nil => simp at hr; exact absurd hr hne
  | cons c t =>
    have hc : pySpace c = false := h c (by rw [← List.mem_reverse, hr]; simp)
    rw [List.cons_append, List.dropWhile_cons_of_neg (by simp [hc]), ← List.cons_append, ← hr]
    simp

theorem rstrip_blanks (k : Nat) : rstrip (List.replicate k ' ') = [] := by
  unfold rstrip
  rw [List.reverse_replicate]
  simpa using List.dropWhile_append_of_pos (l₁ := List.replicate k ' ') (l₂ := []) (p := pySpace)
    (by simp [pySpace_blank])

theorem rstrip_name {n : Str} (h : hnameOk n = true) : rstrip n = n := by
  obtain ⟨h1, h2⟩ := hnameOk_noblank h
  simpa using rstrip_padded 0 0 n h1 h2

/-! ### scanning the connector column -/

/-- the rows `lo+1 … lo+n` carry stems: upwards from `lo+n+1` the scan stops on `lo`, downwards from `lo` on `lo+n+1` -/
theorem scanCol_run (S : HStyle) (grid : List Str) (k : Nat) (stop : Char) (up : Bool) :
    ∀ (n lo fuel : Nat), n < fuel →
      (∀ j, lo < j → j ≤ lo + n → ∃ ch, charAt grid j k = some ch ∧ ch ≠ stop ∧
        (ch = S.stem ∨ ch = S.subsequentChild)) →
      charAt grid (if up then lo else lo + n + 1) k = some stop →
      scanCol S grid k stop up fuel (if up then lo + n + 1 else lo) = some (if up then lo else lo + n + 1) := by
  intro n
  induction n with
  | zero =>
    intro lo fuel hf _ hstop
    obtain ⟨f, rfl⟩ := Nat.exists_eq_add_one.mpr hf
    cases up with
    | true =>
      rw [if_pos rfl] at hstop
      simp [scanCol, hstop]
    | false =>
      rw [if_neg (by simp)] at hstop
      simp [scanCol, hstop]
  | succ n ih =>
    intro lo fuel hf hstems hstop
    obtain ⟨f, rfl⟩ := Nat.exists_eq_add_one.mpr (Nat.zero_lt_of_lt hf)
    have hf' : n < f := Nat.lt_of_succ_lt_succ hf
    cases up with
    | true =>
      obtain ⟨ch, hch, hne, hor⟩ := hstems (lo + (n + 1)) (Nat.lt_add_of_pos_right (Nat.succ_pos n)) (Nat.le_refl _)
      have hor' : (ch == S.stem || ch == S.subsequentChild) = true := by rcases hor with h | h <;> simp [h]
      have := ih lo f hf' (fun j h1 h2 => hstems j h1 (Nat.le_trans h2 (Nat.le_succ _))) hstop
      rw [scanCol]
      simpa [hch, hne, hor', Nat.add_assoc] using this
    | false =>
      obtain ⟨ch, hch, hne, hor⟩ := hstems (lo + 1) (Nat.lt_succ_self lo) (by omega)
      have hor' : (ch == S.stem || ch == S.subsequentChild) = true := by rcases hor with h | h <;> simp [h]
      have e : lo + 1 + n + 1 = lo + (n + 1) + 1 := by omega
      have := ih (lo + 1) f hf' (fun j h1 h2 => hstems j (Nat.lt_of_succ_lt h1) (by omega)) (by rw [e]; exact hstop)
      rw [scanCol]
      simp only [Bool.false_eq_true, Bool.false_and, ↓reduceIte, hch, beq_iff_eq, hne, hor'] at this ⊢
      rw [this, e]

/-! ### filtering a range of rows -/

theorem filter_range'_nil (p : Nat → Bool) (lo n : Nat) (h : ∀ j, j < n → p (lo + j) = false) :
    (List.range' lo n).filter p = [] := by
  rw [List.filter_eq_nil_iff]
  intro a ha
  rw [List.mem_range'_1] at ha
  obtain ⟨j, rfl⟩ := Nat.exists_eq_add_of_le ha.1
  simp [h j (Nat.lt_of_add_lt_add_left ha.2)]

theorem filter_range'_single (p : Nat → Bool) (lo n i : Nat) (hi : i < n) (hp : p (lo + i) = true)
    (hq : ∀ j, j < n → j ≠ i → p (lo + j) = false) : (List.range' lo n).filter p = [lo + i] := by
  obtain ⟨m, rfl⟩ := Nat.exists_eq_add_of_lt hi
  rw [Nat.add_assoc, Nat.add_comm m 1, ← List.range'_append_1, ← List.range'_append_1, List.filter_append,
    List.filter_append, filter_range'_nil p lo i (fun j hj => hq j (by omega) (Nat.ne_of_lt hj)),
    filter_range'_nil p (lo + i + 1) m
      (fun j hj => by rw [Nat.add_assoc, Nat.add_assoc]; exact hq _ (by omega) (by omega))]
  simp [List.range'_one, hp]

/-- the filter restricted to a stretch of the range that contains all rows it finds -/
theorem filter_range'_restrict (p : Nat → Bool) (lo a n b : Nat) (L : List Nat)
    (hL : (List.range' lo (a + (n + b))).filter p = L) (hb : ∀ x ∈ L, lo + a ≤ x ∧ x < lo + a + n) :
    (List.range' (lo + a) n).filter p = L := by
  have hout : ∀ j, j < a + (n + b) → (j < a ∨ a + n ≤ j) → p (lo + j) = false := by
    intro j h1 h2
    cases hpx : p (lo + j) with
    | false => rfl
    | true =>
      have := hb _ (by rw [← hL, List.mem_filter, List.mem_range'_1]; exact ⟨⟨Nat.le_add_right _ _, by omega⟩, hpx⟩)
      omega
  rw [← List.range'_append_1, ← List.range'_append_1, List.filter_append, List.filter_append,
    filter_range'_nil p lo a (fun j hj => hout j (by omega) (Or.inl hj)),
    filter_range'_nil p (lo + a + n) b
      (fun j hj => by rw [Nat.add_assoc, Nat.add_assoc]; exact hout _ (by omega) (Or.inr (by omega)))] at hL
  simpa using hL

end Render
