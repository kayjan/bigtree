import BigtreeProofs.Lemmas.DagExport
/-! Dictionary format: what `dag_to_dict` lists and what `dict_to_dag` builds. -/

namespace Dag
open List

/-- the (parent, child) pairs a dictionary mentions -/
def dictRel (d : List DEntry) : List Edge :=
  d.flatMap fun e => (e.parents.getD []).map fun p => (p, e.key)

def dictKeys (d : List DEntry) : List Nat := d.map (·.key)

theorem mem_dictRel {d : List DEntry} {e : Edge} :
    e ∈ dictRel d ↔ ∃ ent ∈ d, ent.key = e.2 ∧ e.1 ∈ ent.parents.getD [] := by
  simp only [dictRel, mem_flatMap, mem_map]
  exact ⟨fun ⟨ent, hent, _, hq, h⟩ => h ▸ ⟨ent, hent, rfl, hq⟩,
    fun ⟨ent, hent, hk, hq⟩ => ⟨ent, hent, _, hq, Prod.ext rfl hk⟩⟩

theorem dictRel_append (a b : List DEntry) : dictRel (a ++ b) = dictRel a ++ dictRel b :=
  flatMap_append

/-! ### `data_dict[k] = e` and `data_dict.get(k)` -/

theorem dictKeys_dictPut (d : List DEntry) (e : DEntry) :
    dictKeys (dictPut d e) = if e.key ∈ dictKeys d then dictKeys d else dictKeys d ++ [e.key] := by
  induction d with
  | nil => rfl
  | cons x xs ih =>
    rw [dictPut]
    by_cases h : x.key = e.key
    · rw [if_pos h, if_pos (h ▸ mem_cons_self)]
      exact congrArg (· :: dictKeys xs) h.symm
    · rw [if_neg h]
      show x.key :: dictKeys (dictPut xs e) =
        if e.key ∈ x.key :: dictKeys xs then x.key :: dictKeys xs else x.key :: dictKeys xs ++ [e.key]
      rw [ih]
      by_cases hm : e.key ∈ dictKeys xs
      · rw [if_pos hm, if_pos (mem_cons_of_mem _ hm)]
      · rw [if_neg hm, if_neg fun hc => (mem_cons.1 hc).elim (fun h' => h h'.symm) hm]; rfl

theorem mem_dictKeys_dictPut {d : List DEntry} {e : DEntry} {k : Nat} :
    k ∈ dictKeys (dictPut d e) ↔ k ∈ dictKeys d ∨ k = e.key := by
  rw [dictKeys_dictPut]
  split
  · exact ⟨.inl, fun h => h.elim id (· ▸ ‹e.key ∈ dictKeys d›)⟩
  · exact mem_append.trans (or_congr_right mem_singleton)

theorem nodup_dictKeys_dictPut {d : List DEntry} {e : DEntry} (h : (dictKeys d).Nodup) :
    (dictKeys (dictPut d e)).Nodup := by
  rw [dictKeys_dictPut]
  split
  · exact h
  · exact nodup_snoc.2 ⟨h, ‹_›⟩

theorem mem_dictPut {d : List DEntry} {e x : DEntry} (hnd : (dictKeys d).Nodup)
    (hx : x ∈ dictPut d e) : x = e ∨ (x ∈ d ∧ x.key ≠ e.key) := by
  induction d with
  | nil => exact .inl (mem_singleton.1 hx)
  | cons y ys ih =>
    have hy : y.key ∉ dictKeys ys := (nodup_cons.1 hnd).1
    have hnd' : (dictKeys ys).Nodup := (nodup_cons.1 hnd).2
    rw [dictPut] at hx
    split at hx
    · rename_i h
      refine (mem_cons.1 hx).imp_right fun hx => ⟨mem_cons_of_mem _ hx, fun hk => hy ?_⟩
      rw [h, ← hk]
      exact mem_map_of_mem hx
    · rename_i h
      rcases mem_cons.1 hx with rfl | hx
      · exact .inr ⟨mem_cons_self, h⟩
      · exact (ih hnd' hx).imp_right fun ⟨h1, h2⟩ => ⟨mem_cons_of_mem _ h1, h2⟩

theorem dictGet_some {d : List DEntry} {k : Nat} {ent : DEntry} (h : dictGet d k = some ent) :
    ent ∈ d ∧ ent.key = k :=
  ⟨mem_of_find?_eq_some h, by simpa using find?_some h⟩

theorem dictGet_none {d : List DEntry} {k : Nat} (h : dictGet d k = none) : k ∉ dictKeys d :=
  fun hk =>
    let ⟨x, hx, hxk⟩ := mem_map.1 hk
    find?_eq_none.1 h x hx (beq_iff_eq.2 hxk)

theorem eq_of_key_eq {d : List DEntry} (hnd : (dictKeys d).Nodup) {a b : DEntry} (ha : a ∈ d)
    (hb : b ∈ d) (hab : a.key = b.key) : a = b := by
  induction d with
  | nil => cases ha
  | cons x xs ih =>
    have hx : x.key ∉ dictKeys xs := (nodup_cons.1 hnd).1
    rcases mem_cons.1 ha with rfl | ha' <;> rcases mem_cons.1 hb with rfl | hb'
    · rfl
    · exact absurd (hab ▸ mem_map_of_mem hb' : a.key ∈ dictKeys xs) hx
    · exact absurd (hab ▸ mem_map_of_mem ha' : b.key ∈ dictKeys xs) hx
    · exact ih (nodup_cons.1 hnd).2 ha' hb'

/-! ### the export -/

/-- what the export loop maintains after the pairs `pre`. `covers`, `roots`: which keys are there
    (every child of a pair, every parent-less parent); the other fields: what a single entry holds
    (`attrs_spec`: the attributes are `expAttrs g sel ent.key`, unfolded) -/
structure DictInv (g : Dag) (sel : AttrSel) (pre : List Edge) (d : List DEntry) : Prop where
  keys_nodup : (dictKeys d).Nodup
  none_root : ∀ ent ∈ d, ent.parents = none → g.parents ent.key = []
  some_spec : ∀ ent ∈ d, ∀ ps, ent.parents = some ps → ps.Nodup ∧ ∀ p, p ∈ ps ↔ (p, ent.key) ∈ pre
  covers : ∀ e ∈ pre, e.2 ∈ dictKeys d
  key_mem : ∀ ent ∈ d, ent.key ∈ g.nodes
  attrs_spec : ∀ ent ∈ d, ent.attrs = attrUpdate [] (selAttrs sel (g.attrs ent.key))
  roots : ∀ e ∈ pre, g.parents e.1 = [] → e.1 ∈ dictKeys d

theorem dictInv_nil (g : Dag) (sel : AttrSel) : DictInv g sel [] [] :=
  ⟨nodup_nil, fun _ h => (nomatch h), fun _ h => (nomatch h), fun _ h => (nomatch h),
    fun _ h => (nomatch h), fun _ h => (nomatch h), fun _ h => (nomatch h)⟩

/-- `data_dict[ent.key] = ent` keeps the invariant, for the pairs `pre'`, when `ent` meets the
    field specifications and the pairs new in `pre'` have the child `ent.key` and a parent whose
    root entry (if it is a root) is there -/
theorem DictInv.put {g : Dag} {sel : AttrSel} {pre pre' : List Edge} {d : List DEntry}
    (inv : DictInv g sel pre d) {ent : DEntry} (hkey : ent.key ∈ g.nodes)
    (hattrs : ent.attrs = attrUpdate [] (selAttrs sel (g.attrs ent.key)))
    (hnone : ent.parents = none → g.parents ent.key = [])
    (hsome : ∀ ps, ent.parents = some ps → ps.Nodup ∧ ∀ p, p ∈ ps ↔ (p, ent.key) ∈ pre')
    (hsub : ∀ e ∈ pre, e ∈ pre')
    (hnew : ∀ e ∈ pre', e ∈ pre ∨ (e.2 = ent.key ∧ (g.parents e.1 = [] → e.1 ∈ dictKeys d))) :
    DictInv g sel pre' (dictPut d ent) := by
  have hmem := fun x (hx : x ∈ dictPut d ent) => mem_dictPut inv.keys_nodup hx
  have hkeys : ∀ k ∈ dictKeys d, k ∈ dictKeys (dictPut d ent) := fun k hk =>
    mem_dictKeys_dictPut.2 (.inl hk)
  refine ⟨nodup_dictKeys_dictPut inv.keys_nodup, fun x hx => ?_, fun x hx ps hps => ?_,
    fun e he => ?_, fun x hx => ?_, fun x hx => ?_, fun e he hr => ?_⟩
  · rcases hmem x hx with rfl | ⟨h, _⟩
    · exact hnone
    · exact inv.none_root x h
  · rcases hmem x hx with rfl | ⟨h, hne⟩
    · exact hsome ps hps
    · obtain ⟨h1, h2⟩ := inv.some_spec x h ps hps
      exact ⟨h1, fun q => (h2 q).trans ⟨hsub _, fun h' => (hnew _ h').resolve_right fun h'' => hne h''.1⟩⟩
  · rcases hnew e he with h | ⟨h, _⟩
    · exact hkeys _ (inv.covers e h)
    · exact mem_dictKeys_dictPut.2 (.inr h)
  · rcases hmem x hx with rfl | ⟨h, _⟩
    · exact hkey
    · exact inv.key_mem x h
  · rcases hmem x hx with rfl | ⟨h, _⟩
    · exact hattrs
    · exact inv.attrs_spec x h
  · rcases hnew e he with h | ⟨_, h⟩
    · exact hkeys _ (inv.roots e h hr)
    · exact hkeys _ (h hr)

/-- the first statement of the loop body of `dag_to_dict`: a parent-less parent gets an entry of its
    own (again, if it has one) -/
def rootPut (g : Dag) (sel : AttrSel) (d : List DEntry) (p : Nat) : List DEntry :=
  if (g.parents p).isEmpty
    then dictPut d { key := p, parents := none, attrs := attrUpdate [] (selAttrs sel (g.attrs p)) }
    else d

theorem DictInv.rootPut {g : Dag} {sel : AttrSel} {pre : List Edge} {d : List DEntry}
    (inv : DictInv g sel pre d) {p : Nat} (hp : p ∈ g.nodes) :
    DictInv g sel pre (rootPut g sel d p) ∧ (g.parents p = [] → p ∈ dictKeys (rootPut g sel d p)) := by
  unfold Dag.rootPut
  split
  · exact ⟨inv.put hp rfl (fun _ => isEmpty_iff.1 ‹_›) (fun _ h => nomatch h) (fun _ h => h)
      fun _ h => .inl h, fun _ => mem_dictKeys_dictPut.2 (.inr rfl)⟩
  · exact ⟨inv, fun hr => absurd (isEmpty_iff.2 hr) ‹_›⟩

theorem dictStep_spec {g : Dag} (wf : g.DWF) {sel : AttrSel} {pre : List Edge} {d : List DEntry}
    (inv : DictInv g sel pre d) {e : Edge} (he : e ∈ g.edges) (hnew : e ∉ pre) :
    ∃ d', dictStep g sel (some d) e = some d' ∧ DictInv g sel (pre ++ [e]) d' := by
  obtain ⟨p, c⟩ := e
  obtain ⟨hp, hpc⟩ := mem_edges.1 he
  obtain ⟨hcn, hcp⟩ := wf.chi_closed _ hp _ hpc
  obtain ⟨inv1, hp1⟩ := inv.rootPut (sel := sel) hp
  simp only [dictStep, Option.bind_some]
  rw [← rootPut]
  generalize rootPut g sel d p = d1 at inv1 hp1 ⊢
  have hsub : ∀ e ∈ pre, e ∈ pre ++ [(p, c)] := fun _ => mem_append_left _
  have hnew' : ∀ e ∈ pre ++ [(p, c)], e ∈ pre ∨ (e.2 = c ∧ (g.parents e.1 = [] → e.1 ∈ dictKeys d1)) :=
    fun e he => (mem_append.1 he).imp_right fun h => by rw [mem_singleton.1 h]; exact ⟨rfl, hp1⟩
  have hlast : ∀ q, (q, c) ∈ pre ++ [(p, c)] ↔ (q, c) ∈ pre ∨ q = p := fun q => by
    rw [mem_append, mem_singleton, Prod.mk.injEq, and_iff_left rfl]
  cases hget : dictGet d1 c with
  | none =>
    refine ⟨_, rfl, inv1.put hcn rfl (fun h => nomatch h) (fun ps hps => ?_) hsub hnew'⟩
    obtain rfl := Option.some.inj hps
    refine ⟨nodup_cons.2 ⟨not_mem_nil, nodup_nil⟩, fun q => ?_⟩
    rw [hlast, mem_singleton]
    exact (or_iff_right fun h => dictGet_none hget (inv1.covers _ h)).symm
  | some ent =>
    obtain ⟨hent, rfl⟩ := dictGet_some hget
    cases hpar : ent.parents with
    | none => exact absurd (inv1.none_root ent hent hpar ▸ hcp) not_mem_nil
    | some ps =>
      have htr : ent.truthy = true := by rw [DEntry.truthy, hpar]; rfl
      simp only [htr, if_true, hpar]
      obtain ⟨hnd, hmem⟩ := inv1.some_spec ent hent ps hpar
      refine ⟨_, rfl, inv1.put (inv1.key_mem ent hent) (inv1.attrs_spec ent hent) (fun h => nomatch h)
        (fun qs hqs => ?_) hsub hnew'⟩
      obtain rfl := Option.some.inj hqs
      refine ⟨nodup_snoc.2 ⟨hnd, fun h => hnew ((hmem p).1 h)⟩, fun q => ?_⟩
      rw [hlast, mem_append, mem_singleton, hmem]

theorem foldl_dictStep_spec {g : Dag} (wf : g.DWF) {sel : AttrSel} : ∀ (it pre : List Edge)
    (d : List DEntry), DictInv g sel pre d → (∀ e ∈ it, e ∈ g.edges) → (pre ++ it).Nodup →
    ∃ d', it.foldl (dictStep g sel) (some d) = some d' ∧ DictInv g sel (pre ++ it) d' := by
  intro it
  induction it with
  | nil => intro pre d inv _ _; exact ⟨d, rfl, (append_nil pre).symm ▸ inv⟩
  | cons e it ih =>
    intro pre d inv hit hnd
    rw [append_cons] at hnd ⊢
    obtain ⟨d1, hd1, inv1⟩ := dictStep_spec wf inv (hit e mem_cons_self)
      (nodup_snoc.1 (nodup_append.1 hnd).1).2
    rw [foldl_cons, hd1]
    exact ih (pre ++ [e]) d1 inv1 (fun x hx => hit x (mem_cons_of_mem _ hx)) hnd

theorem dagToDict_spec {g : Dag} (wf : g.DWF) (sel : AttrSel) {v : Nat} (hv : v ∈ g.nodes) :
    ∃ d, g.dagToDict sel v = some d ∧ DictInv g sel (g.dagIter v) d :=
  foldl_dictStep_spec wf (g.dagIter v) [] [] (dictInv_nil g sel)
    (fun _ he => ((mem_dagIter wf hv).1 he).1) (nodup_dagIter wf hv)

theorem DictInv.mem_dictRel {g : Dag} {sel : AttrSel} {it : List Edge} {d : List DEntry}
    (inv : DictInv g sel it d) (wf : g.DWF) (hit : ∀ e ∈ it, e ∈ g.edges) {e : Edge} :
    e ∈ dictRel d ↔ e ∈ it := by
  obtain ⟨p, c⟩ := e
  rw [Dag.mem_dictRel]
  constructor
  · rintro ⟨ent, hent, rfl, hp⟩
    cases hpar : ent.parents with
    | none => rw [hpar] at hp; cases hp
    | some ps => rw [hpar] at hp; exact ((inv.some_spec ent hent ps hpar).2 p).1 hp
  · intro he
    obtain ⟨ent, hent, rfl⟩ := mem_map.1 (inv.covers _ he)
    refine ⟨ent, hent, rfl, ?_⟩
    cases hpar : ent.parents with
    | none =>
      obtain ⟨hp, hc⟩ := mem_edges.1 (hit _ he)
      exact absurd (wf.chi_closed p hp _ hc).2 (inv.none_root ent hent hpar ▸ not_mem_nil)
    | some ps => exact ((inv.some_spec ent hent ps hpar).2 p).2 he

theorem DictInv.nodup_dictRel {g : Dag} {sel : AttrSel} {it : List Edge} {d : List DEntry}
    (inv : DictInv g sel it d) : (dictRel d).Nodup := by
  refine nodup_flatMap_of
    (Pairwise.of_map (·.key) (fun _ _ hne hab => hne (congrArg _ hab)) inv.keys_nodup)
    (fun ent hent => ?_) fun a ha b hb hab x hxa hxb => ?_
  · refine nodup_map_of_inj (fun _ _ h => (Prod.mk.inj h).1) ?_
    cases hpar : ent.parents with
    | none => exact nodup_nil
    | some ps => exact (inv.some_spec ent hent ps hpar).1
  · obtain ⟨_, _, rfl⟩ := mem_map.1 hxa
    obtain ⟨_, _, h⟩ := mem_map.1 hxb
    exact hab (eq_of_key_eq inv.keys_nodup ha hb (Prod.mk.inj h).2.symm)

/-! ### the constructor -/

/-- the first half of the outer loop body: the entry's own node with its attributes -/
def entryNode (g : Dag) (e : DEntry) : Dag :=
  if e.key ∈ g.nodes then g.setAttrs e.key e.attrs else g.newNode e.key e.attrs

theorem dictEntryStep_ok (b : Built) (e : DEntry) : dictEntryStep (.ok b) e =
    (e.parents.getD []).foldl (dictParents e.key) (.ok { b with dag := entryNode b.dag e }) := rfl

theorem nodes_entryNode {g : Dag} {e : DEntry} {x : Nat} :
    x ∈ (entryNode g e).nodes ↔ x ∈ g.nodes ∨ x = e.key := by
  unfold entryNode
  split
  · exact ⟨.inl, fun h => h.elim id (· ▸ ‹e.key ∈ g.nodes›)⟩
  · exact nodes_newNode

theorem Tracks.entryNode {pre : List Edge} {g : Dag} (t : Tracks pre g) (e : DEntry) :
    Tracks pre (entryNode g e) := by
  unfold Dag.entryNode
  split
  · exact t.setAttrs _ _
  · exact t.newNode _ _

theorem AttrInv.entryNode {A : Nat → Attrs} {names : List Nat} {g : Dag} (h : AttrInv A names g)
    {e : DEntry} (hA : e.attrs = A e.key) (hnd : (keysOf (A e.key)).Nodup) :
    AttrInv A (names ++ [e.key]) (entryNode g e) := by
  refine h.write (nodes_entryNode.2 (.inr rfl)) (fun y hy => nodes_entryNode.2 (.inl hy))
    (fun y hy => ?_) fun k => ?_
  all_goals unfold Dag.entryNode; split
  · exact if_neg hy
  · rw [attrs_newNode, if_neg ‹_›, if_neg hy]
  · show (if e.key = e.key then attrUpdate (g.attrs e.key) e.attrs else _).lookup k = _
    rw [if_pos rfl, hA, lookup_attrUpdate_nodup _ hnd]
  · rename_i hk
    rw [attrs_newNode, if_neg hk, if_pos rfl, hA, h.out hk, lookup_nil, Option.or_none]

theorem Stores.entryNode {S : Nat → Prop} {A : Nat → Attrs} {H H' : Prop} {rel : List Edge}
    {names : List Nat} {g : Dag} (h : Stores S A H rel names g) {e : DEntry} (hS : S e.key)
    (hH : H' → H ∧ e.attrs = A e.key ∧ (keysOf (A e.key)).Nodup) :
    Stores S A H' rel (names ++ [e.key]) (entryNode g e) :=
  ⟨h.tracks.entryNode e, fun x hx => (nodes_entryNode.1 hx).elim (h.nodes x) (· ▸ hS),
    fun h' => (h.attrs (hH h').1).entryNode (hH h').2.1 (hH h').2.2⟩

theorem dictParents_error (c : Nat) (err : Err) (p : Nat) :
    dictParents c (.error err) p = .error err := rfl

theorem dictEntryStep_error (err : Err) (e : DEntry) :
    dictEntryStep (.error err) e = .error err := rfl

/-- the inner loop of `dict_to_dag`: the parents `ps` of the key `c` -/
theorem foldl_dictParents_outcome {S : Nat → Prop} {A : Nat → Attrs} {names : List Nat} {H : Prop}
    (c : Nat) (ps : List Nat) (pre : List Edge) (b : Built) (h : Stores S A H pre names b.dag)
    (ha : RelAcyclic pre) (hc : c ∈ b.dag.nodes) (hps : ∀ p ∈ ps, S p)
    (hret : pre ≠ [] → b.ret.isSome) :
    Outcome (fun b' => Stores S A H (pre ++ ps.map (·, c)) names b'.dag ∧ c ∈ b'.dag.nodes ∧
        (pre ++ ps.map (·, c) ≠ [] → b'.ret.isSome))
      (pre ++ ps.map (·, c)) (ps.foldl (dictParents c) (.ok b)) := by
  refine foldl_outcome (step := dictParents c) (fun ps => ps.map (·, c)) pre
    (fun done b' => Stores S A H (pre ++ done.map (·, c)) names b'.dag ∧ c ∈ b'.dag.nodes ∧
      (pre ++ done.map (·, c) ≠ [] → b'.ret.isSome))
    S (fun _ _ => map_append) (dictParents_error c) ?_ ps [] b hps
    ⟨(append_nil pre).symm ▸ h, hc, (append_nil pre).symm ▸ hret⟩ ((append_nil pre).symm ▸ ha)
  rintro done b' p hp ⟨h', hc', -⟩ ha'
  rw [map_append, ← append_assoc]
  exact (h'.newLink ha' hc' hp).mono fun _ h => ⟨h.1, h.2.1, fun _ => h.2.2 ▸ rfl⟩

/-- **constructor lemma** for `dict_to_dag` (a dictionary that mentions at least one parent); `S`:
    any property of the names in it; `A`: the attributes of each key, if they are consistent -/
theorem dictToDag_spec {S : Nat → Prop} (A : Nat → Attrs) (d : List DEntry) (hrel : dictRel d ≠ [])
    (hd : ∀ ent ∈ d, S ent.key ∧ ∀ p ∈ ent.parents.getD [], S p) :
    Outcome (fun b => Stores S A (∀ e ∈ d, e.attrs = A e.key ∧ (keysOf (A e.key)).Nodup)
        (dictRel d) (dictKeys d) b.dag)
      (dictRel d) (dictToDag d) := by
  have hne : d ≠ [] := fun h => hrel (h ▸ rfl)
  rw [dictToDag, if_neg (by simpa using hne)]
  refine (foldl_outcome (step := dictEntryStep) dictRel []
    (fun done b => Stores S A (∀ e ∈ done, e.attrs = A e.key ∧ (keysOf (A e.key)).Nodup)
      (dictRel done) (dictKeys done) b.dag ∧ (dictRel done ≠ [] → b.ret.isSome))
    (fun ent => S ent.key ∧ ∀ p ∈ ent.parents.getD [], S p) dictRel_append dictEntryStep_error ?_ d []
    { dag := empty, ret := none } hd ⟨stores_empty .., fun h => absurd rfl h⟩
    relAcyclic_nil).andThen (k := fun r => r.bind _) (fun _ => rfl) (fun _ h => h)
    fun b ⟨h, hret⟩ hacy => ?_
  · rintro done b e ⟨hSk, hSp⟩ ⟨h, hret⟩ ha
    have hrel1 : dictRel [e] = (e.parents.getD []).map (·, e.key) := append_nil _
    have h1 : Stores S A (∀ e' ∈ done ++ [e], e'.attrs = A e'.key ∧ (keysOf (A e'.key)).Nodup)
        (dictRel done) (dictKeys done ++ [e.key]) (entryNode b.dag e) :=
      h.entryNode hSk fun hA =>
        ⟨fun e' he' => hA e' (mem_append_left _ he'), hA e (mem_append_right _ (mem_singleton.2 rfl))⟩
    rw [dictRel_append, dictEntryStep_ok, hrel1, dictKeys, map_append]
    exact (foldl_dictParents_outcome e.key _ _ { b with dag := entryNode b.dag e } h1 ha
      (nodes_entryNode.2 (.inr rfl)) hSp hret).mono fun _ h => ⟨h.1, h.2.2⟩
  · show Outcome _ _ (if b.ret.isNone then _ else _)
    rw [if_neg (by simpa using Option.isSome_iff_ne_none.1 (hret hrel))]
    exact .ok hacy h

end Dag
