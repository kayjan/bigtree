import BigtreeModel.Search
import BigtreeProofs.Lemmas.QueryAddr
import BigtreeProofs.Lemmas.QueryPre
import BigtreeProofs.Lemmas.QueryProps
import BigtreeProofs.Lemmas.SearchStr
/-! Helper lemmas for C09: the count contract, findall / find / children, `path_name`. -/

namespace Search
open Query

/-- equality of results is decidable, so that concrete searches can be checked by evaluation -/
instance decEqExcept {ε α : Type} [DecidableEq ε] [DecidableEq α] : DecidableEq (Except ε α)
  | .ok a, .ok b => if h : a = b then isTrue (h ▸ rfl) else isFalse fun e => h (Except.ok.inj e)
  | .error a, .error b => if h : a = b then isTrue (h ▸ rfl) else isFalse fun e => h (Except.error.inj e)
  | .ok _, .error _ => isFalse nofun
  | .error _, .ok _ => isFalse nofun

/-! ### findall / find -/

theorem preorderFrom_eq_searched (R : Tree) (a : Addr) (cond : Addr → Bool) (md : Nat) :
    preorderFrom R cond md a = (searched R a md).filter cond := by
  rw [preorderFrom_eq, searched, List.filter_filter]
  apply List.filter_congr
  intro x _
  exact Bool.and_comm _ _

theorem checkResultCount_eq (n mn mx : Nat) :
    checkResultCount n mn mx =
      if (mn ≠ 0 ∧ n < mn) ∨ (mx ≠ 0 ∧ n > mx) then .error .search else .ok () := by
  simp only [checkResultCount, Bool.and_eq_true, bne_iff_ne, decide_eq_true_eq]
  by_cases h1 : mn ≠ 0 ∧ n < mn
  · rw [if_pos h1, if_pos (Or.inl h1)]
  · rw [if_neg h1]
    exact ite_cond_congr (propext (or_iff_right h1)).symm

theorem not_count_zero {p q : Prop} : ¬((0 ≠ 0 ∧ p) ∨ (0 ≠ 0 ∧ q)) :=
  fun h => h.elim (fun h => h.1 rfl) (fun h => h.1 rfl)

theorem findChildren_eq_spec (R : Tree) (a : Addr) (cond : Addr → Bool) (mn mx : Nat) :
    findChildren R a cond mn mx =
      if (mn ≠ 0 ∧ ((childrenOf R a).filter cond).length < mn)
          ∨ (mx ≠ 0 ∧ ((childrenOf R a).filter cond).length > mx)
      then .error .search else .ok ((childrenOf R a).filter cond) := by
  unfold findChildren
  simp only [checkResultCount_eq]
  by_cases h : (mn ≠ 0 ∧ ((childrenOf R a).filter cond).length < mn)
      ∨ (mx ≠ 0 ∧ ((childrenOf R a).filter cond).length > mx)
  · rw [if_pos h, if_pos h]
  · rw [if_neg h, if_neg h]

theorem findChild_eq_spec (R : Tree) (a : Addr) (cond : Addr → Bool) :
    findChild R a cond =
      match (childrenOf R a).filter cond with
      | [] => .ok none
      | [x] => .ok (some x)
      | _ :: _ :: _ => .error .search := by
  unfold findChild
  rw [findChildren_eq_spec]
  cases h : (childrenOf R a).filter cond with
  | nil => simp
  | cons x xs =>
    cases xs with
    | nil => simp
    | cons y ys => simp

theorem findChildByName_eq (R : Tree) (a : Addr) (name : Str) :
    findChildByName R a name =
      match childrenNamed R a name with
      | [] => .ok none
      | [x] => .ok (some x)
      | _ :: _ :: _ => .error .search := by
  unfold findChildByName childrenNamed
  exact findChild_eq_spec R a _

/-! ### path_name -/

theorem pathName_eq (R : Tree) (sep : Str) (a : Addr) :
    pathName R sep a = sep ++ join sep (pathNames R a) := by
  unfold pathName pathNames
  simp only [ancestors_eq_spec, self_ancestors_reverse]

theorem pathNames_snoc (R : Tree) (p : Addr) (k : Nat) :
    pathNames R (p ++ [k]) = pathNames R p ++ [(nameAt R (p ++ [k])).getD []] := by
  simp [pathNames, nodePathSpec_snoc]

theorem pathNames_nil (R : Tree) : pathNames R [] = [R.name] := by
  simp [pathNames, nodePathSpec, nameAt]

end Search
