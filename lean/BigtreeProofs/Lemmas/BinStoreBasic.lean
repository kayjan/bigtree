import BigtreeModel.BinStore
import BigtreeProofs.Lemmas.ParentFn
/-! The two-slot store (`BinStore`) below the level of whole operations: field writes, the list
functions (`idx?`, `fillFirst`, emptying slots), and the ancestor walk `anc`, whose facts are those of
the bare parent function (`Lemmas/ParentFn.lean`). -/

namespace BinStore

/-! ### store extensionality and field writes -/

theorem Store.ext' {s t : Store} (hn : s.n = t.n) (hp : ∀ x, s.parent x = t.parent x)
    (hs : ∀ x, s.slots x = t.slots x) : s = t := by
  cases s; cases t
  simp only [Store.mk.injEq]
  exact ⟨hn, funext hp, funext hs⟩

@[simp] theorem setPar_n (s : Store) (c p) : (setPar s c p).n = s.n := rfl
@[simp] theorem setPar_parent (s : Store) (c p x) :
    (setPar s c p).parent x = if x = c then p else s.parent x := rfl
@[simp] theorem setPar_slots (s : Store) (c p) : (setPar s c p).slots = s.slots := rfl
@[simp] theorem setSlots_n (s : Store) (p l) : (setSlots s p l).n = s.n := rfl
@[simp] theorem setSlots_parent (s : Store) (p l) : (setSlots s p l).parent = s.parent := rfl
@[simp] theorem setSlots_slots (s : Store) (p l x) :
    (setSlots s p l).slots x = if x = p then l else s.slots x := rfl
theorem setSlots_self (s : Store) (p : Nat) : setSlots s p (s.slots p) = s :=
  Store.ext' rfl (fun _ => rfl) fun x => by
    rw [setSlots_slots]
    by_cases hx : x = p
    · rw [if_pos hx, hx]
    · rw [if_neg hx]
@[simp] theorem setSlotAt_n (s : Store) (p i o) : (setSlotAt s p i o).n = s.n := rfl
@[simp] theorem setSlotAt_parent (s : Store) (p i o) : (setSlotAt s p i o).parent = s.parent := rfl
@[simp] theorem setSlotAt_slots (s : Store) (p i o x) :
    (setSlotAt s p i o).slots x = if x = p then (s.slots p).set i o else s.slots x := rfl

/-! ### slot lists: membership, two elements, emptying slots (`clear`, `clearAll`, `clearO`) -/

theorem if_iff_congr {α} {p q : Prop} [Decidable p] [Decidable q] (h : p ↔ q) (a b : α) :
    (if p then a else b) = if q then a else b := by
  by_cases hp : p
  · rw [if_pos hp, if_pos (h.1 hp)]
  · rw [if_neg hp, if_neg (mt h.2 hp)]

theorem mem_cons_none {c : Nat} {l : List (Option Nat)} : some c ∈ none :: l ↔ some c ∈ l :=
  ⟨fun h => (List.mem_cons.1 h).resolve_left nofun, List.mem_cons_of_mem _⟩

theorem mem_cons_some {c d : Nat} {l : List (Option Nat)} : some c ∈ some d :: l ↔ c = d ∨ some c ∈ l := by
  rw [List.mem_cons, Option.some.injEq]

theorem two_of_len {α} {l : List α} (h : l.length = 2) : ∃ a b, l = [a, b] := by
  match l, h with
  | [a, b], _ => exact ⟨a, b, rfl⟩

theorem not_mem_of_count_cons_le {α} [BEq α] [LawfulBEq α] {a : α} {l : List α}
    (h : (a :: l).count a ≤ 1) : a ∉ l := fun hm => by
  have := List.count_pos_iff.2 hm
  rw [List.count_cons_self] at h
  omega

theorem count_pair_le {c1 c2 : Option Nat} (hd : ∀ k, c1 = some k → c2 ≠ some k) (c : Nat) :
    [c1, c2].count (some c) ≤ 1 := by
  simp only [List.count_cons, List.count_nil, beq_iff_eq]
  by_cases h1 : c1 = some c
  · simp [h1, hd c h1]
  · simp only [h1, if_false]; split <;> omega

/-- `clear c l`: every slot holding `c` emptied -/
def clear (c : Nat) (l : List (Option Nat)) : List (Option Nat) :=
  l.map fun o => if o = some c then none else o

@[simp] theorem clear_nil (c) : clear c [] = [] := rfl
@[simp] theorem clear_cons (c o l) :
    clear c (o :: l) = (if o = some c then none else o) :: clear c l := rfl
@[simp] theorem clear_length (c l) : (clear c l).length = l.length := by simp [clear]

/-- `clearAll K l`: every slot holding a member of `K` emptied -/
def clearAll (K l : List (Option Nat)) : List (Option Nat) := l.map fun o => if o ∈ K then none else o

theorem clear_eq_clearAll (c : Nat) (l : List (Option Nat)) : clear c l = clearAll [some c] l := by
  simp [clear, clearAll]

@[simp] theorem clearAll_length (K l : List (Option Nat)) : (clearAll K l).length = l.length :=
  List.length_map _

theorem mem_clearAll {K l : List (Option Nat)} {c : Nat} :
    some c ∈ clearAll K l ↔ some c ∉ K ∧ some c ∈ l := by
  simp only [clearAll, List.mem_map]
  constructor
  · rintro ⟨o, ho, e⟩
    by_cases hK : o ∈ K
    · rw [if_pos hK] at e; cases e
    · rw [if_neg hK] at e; exact e ▸ ⟨hK, ho⟩
  · exact fun ⟨hK, hm⟩ => ⟨some c, hm, if_neg hK⟩

theorem count_clearAll_le (K l : List (Option Nat)) (c : Nat) :
    (clearAll K l).count (some c) ≤ l.count (some c) := by
  simp only [clearAll, List.count, List.countP_map]
  refine List.countP_mono_left fun o _ h => ?_
  by_cases hK : o ∈ K
  · simp [hK] at h
  · simpa [hK] using h

theorem clearAll_eq_self {K l : List (Option Nat)} (h : ∀ c, some c ∈ K → some c ∉ l) :
    clearAll K l = l := by
  refine (List.map_congr_left fun o ho => ?_).trans (List.map_id l)
  cases o with
  | none => exact ite_self none
  | some c => exact if_neg fun hK => h c hK ho

theorem clearAll_clear (K l : List (Option Nat)) (c : Nat) :
    clearAll K (clear c l) = clearAll (some c :: K) l := by
  simp only [clearAll, clear, List.map_map]
  refine List.map_congr_left fun o _ => ?_
  by_cases ho : o = some c
  · simp [ho]
  · simp [ho]

theorem clearAll_cons_none (K l : List (Option Nat)) : clearAll (none :: K) l = clearAll K l := by
  refine List.map_congr_left fun o _ => ?_
  cases o <;> simp

theorem mem_clear {c d : Nat} {l : List (Option Nat)} : some d ∈ clear c l ↔ d ≠ c ∧ some d ∈ l := by
  rw [clear_eq_clearAll, mem_clearAll]; simp

theorem clear_of_not_mem {c : Nat} {l : List (Option Nat)} (h : some c ∉ l) : clear c l = l := by
  rw [clear_eq_clearAll]
  exact clearAll_eq_self fun d hd => by simp at hd; exact hd ▸ h

theorem count_clear_le (k c : Nat) (l : List (Option Nat)) :
    (clear k l).count (some c) ≤ l.count (some c) := by
  rw [clear_eq_clearAll]; exact count_clearAll_le _ l c

theorem getElem?_clear (k : Nat) (l : List (Option Nat)) (i : Nat) :
    (clear k l)[i]? = (l[i]?).map fun o => if o = some k then none else o := by
  simp [clear]

/-- `clearO c l`: the slot(s) holding the (optional) node `c` emptied -/
def clearO : Option Nat → List (Option Nat) → List (Option Nat)
  | none, l => l
  | some k, l => clear k l

@[simp] theorem clearO_none (l) : clearO none l = l := rfl
@[simp] theorem clearO_some (k l) : clearO (some k) l = clear k l := rfl

/-! ### `idx?` -/

theorem idx?_eq_none {l : List (Option Nat)} {c : Nat} : idx? l c = none ↔ some c ∉ l := by
  induction l with
  | nil => simp [idx?]
  | cons o l ih =>
    by_cases h : o = some c
    · simp [idx?, h]
    · have h' : ¬ some c = o := fun e => h e.symm
      simp [idx?, h, h', ih]

theorem idx?_isSome {l : List (Option Nat)} {c : Nat} (h : some c ∈ l) : ∃ i, idx? l c = some i := by
  cases hi : idx? l c with
  | none => exact absurd h (idx?_eq_none.1 hi)
  | some i => exact ⟨i, rfl⟩

theorem idx?_mem {l : List (Option Nat)} {c i : Nat} (h : idx? l c = some i) : some c ∈ l := by
  by_cases hm : some c ∈ l
  · exact hm
  · rw [idx?_eq_none.2 hm] at h; cases h

theorem getElem?_of_idx? {l : List (Option Nat)} {k i : Nat} (h : idx? l k = some i) :
    l[i]? = some (some k) := by
  induction l generalizing i with
  | nil => simp [idx?] at h
  | cons o l ih =>
    by_cases ho : o = some k
    · subst ho
      simp only [idx?, if_true, Option.some.injEq] at h
      subst h; rfl
    · simp only [idx?, ho, if_false, Option.map_eq_some_iff] at h
      obtain ⟨j, hj, rfl⟩ := h
      simpa using ih hj

theorem set_idx_map {l : List (Option Nat)} {c i : Nat} (h : idx? l c = some i)
    (h1 : l.count (some c) ≤ 1) {g g' : Option Nat → Option Nat} (hg : ∀ o, o ≠ some c → g' o = g o)
    {a : Option Nat} (ha : g' (some c) = a) : (l.map g).set i a = l.map g' := by
  induction l generalizing i with
  | nil => simp [idx?] at h
  | cons o l ih =>
    by_cases ho : o = some c
    · subst ho
      simp only [idx?, if_true, Option.some.injEq] at h
      subst h
      have hm := not_mem_of_count_cons_le h1
      simp only [List.map_cons, List.set_cons_zero, List.cons.injEq, ha, true_and]
      exact List.map_congr_left fun o ho => (hg o fun e => hm (e ▸ ho)).symm
    · simp only [idx?, ho, if_false, Option.map_eq_some_iff] at h
      obtain ⟨j, hj, rfl⟩ := h
      have hc : l.count (some c) ≤ 1 := by
        have : (o == some c) = false := by simp [ho]
        simpa [List.count_cons, this] using h1
      simp only [List.map_cons, List.set_cons_succ, ih hj hc, hg o ho]

theorem set_idx_none {l : List (Option Nat)} {c i : Nat} (h : idx? l c = some i)
    (h1 : l.count (some c) ≤ 1) : l.set i none = clear c l := by
  have := set_idx_map (g := id) (g' := fun o => if o = some c then none else o) h h1
    (fun o ho => if_neg ho) (if_pos rfl)
  rwa [List.map_id] at this

theorem set_idx_clear {l : List (Option Nat)} {c i : Nat} (h : idx? l c = some i)
    (h1 : l.count (some c) ≤ 1) : (clear c l).set i (some c) = l := by
  have := set_idx_map (g := fun o => if o = some c then none else o) (g' := id) h h1
    (fun o ho => (if_neg ho).symm) rfl
  rwa [List.map_id] at this

/-! ### `fillFirst` -/

/-- index of the first empty slot -/
def firstNone : List (Option Nat) → Option Nat
  | [] => none
  | o :: l => if o = none then some 0 else (firstNone l).map (· + 1)

theorem fillFirst_true (v : Nat) (l : List (Option Nat)) : fillFirst v l true = (l, true) := by
  induction l with
  | nil => rfl
  | cons o l ih => simp [fillFirst, ih]

theorem fillFirst_false (v : Nat) (l : List (Option Nat)) :
    fillFirst v l false =
      match firstNone l with
      | some j => (l.set j (some v), true)
      | none => (l, false) := by
  induction l with
  | nil => rfl
  | cons o l ih =>
    cases o with
    | none => simp [fillFirst, firstNone, fillFirst_true]
    | some k =>
      simp only [fillFirst, firstNone, Option.isNone_some, Bool.false_and, ih]
      cases firstNone l <;> simp

theorem firstNone_getElem {l : List (Option Nat)} {j : Nat} (h : firstNone l = some j) :
    ∃ hj : j < l.length, l[j] = none := by
  induction l generalizing j with
  | nil => simp [firstNone] at h
  | cons o l ih =>
    by_cases ho : o = none
    · subst ho
      simp only [firstNone, if_true, Option.some.injEq] at h
      subst h
      exact ⟨Nat.zero_lt_succ _, rfl⟩
    · simp only [firstNone, ho, if_false, Option.map_eq_some_iff] at h
      obtain ⟨i, hi, rfl⟩ := h
      obtain ⟨hl, e⟩ := ih hi
      exact ⟨Nat.succ_lt_succ hl, e⟩

theorem firstNone_lt {l : List (Option Nat)} {j : Nat} (h : firstNone l = some j) : j < l.length :=
  (firstNone_getElem h).1

theorem firstNone_get {l : List (Option Nat)} {j : Nat} (h : firstNone l = some j) :
    l.set j none = l := by
  obtain ⟨hj, e⟩ := firstNone_getElem h
  have := List.set_getElem_self hj
  rwa [e] at this

theorem count_set_firstNone {l : List (Option Nat)} {j v : Nat} (c : Nat) (h : firstNone l = some j) :
    (l.set j (some v)).count (some c) = l.count (some c) + (if c = v then 1 else 0) := by
  obtain ⟨hj, e⟩ := firstNone_getElem h
  rw [List.count_set hj, e]
  by_cases hc : c = v
  · simp [hc]
  · simp [hc, Ne.symm hc]

theorem mem_set_firstNone {l : List (Option Nat)} {j v c : Nat} (h : firstNone l = some j) :
    some c ∈ l.set j (some v) ↔ c = v ∨ some c ∈ l := by
  rw [← List.count_pos_iff, count_set_firstNone c h, ← List.count_pos_iff (a := some c) (l := l)]
  split <;> simp [*]

theorem idx?_set_firstNone {l : List (Option Nat)} {j v : Nat} (h : firstNone l = some j)
    (hv : some v ∉ l) : idx? (l.set j (some v)) v = some j := by
  induction l generalizing j with
  | nil => simp [firstNone] at h
  | cons o l ih =>
    simp only [List.mem_cons, not_or] at hv
    by_cases ho : o = none
    · subst ho
      simp only [firstNone, if_true, Option.some.injEq] at h
      subst h
      simp [idx?]
    · simp only [firstNone, ho, if_false, Option.map_eq_some_iff] at h
      obtain ⟨i, hi, rfl⟩ := h
      have : ¬ o = some v := fun e => hv.1 e.symm
      simp [idx?, this, ih hi hv.2]

theorem set_set_same {α} (l : List α) (i : Nat) (a b : α) : (l.set i a).set i b = l.set i b := by
  simp

/-! ### ancestors -/

open Relation

/-- `a` is a proper ancestor of `v` -/
abbrev ProperAnc (s : Store) (a v : Nat) : Prop := TransGen (IsParent s) a v

theorem anc_eq (s : Store) : ∀ f v, anc s f v = ParentFn.ancF s.parent f v
  | 0, _ => rfl
  | f + 1, v => by
    unfold anc ParentFn.ancF
    cases s.parent v with
    | none => rfl
    | some p => exact congrArg (p :: ·) (anc_eq s f p)

theorem properAnc_irrefl {s : Store} (hs : ∀ x, Acc (IsParent s) x) (a : Nat) : ¬ ProperAnc s a a :=
  ParentFn.not_transGen_self (hs a)

/-- **fuel lemma**: the executable loop check (`n` steps of `.parent`) sees every proper ancestor as
soon as walking parents terminates and every edge stays below `n`; nothing about the slot lists is needed -/
theorem anc_complete {s : Store} (hs : ∀ x, Acc (IsParent s) x)
    (hr : ∀ c p, s.parent c = some p → c < s.n ∧ p < s.n) {a v : Nat} :
    a ∈ anc s s.n v ↔ ProperAnc s a v := by
  rw [anc_eq]
  exact ParentFn.ancF_complete hs hr (Nat.le_refl _)

theorem acyc_reparent {s t : Store} (hs : ∀ x, Acc (IsParent s) x) (v : Nat) (C : Nat → Prop)
    (h1 : ∀ x p, t.parent x = some p → (C x ∧ p = v) ∨ (¬ C x ∧ s.parent x = some p))
    (h3 : ∀ c, C c → c ≠ v ∧ ¬ ProperAnc s c v) : ∀ x, Acc (IsParent t) x :=
  ParentFn.acc_add_out hs v C
    (fun p x h => (h1 x p h).elim (fun h => .inr ⟨h.2, h.1⟩) fun h => .inl h.2) h3

/-! ### the two guards of the `parent` setter -/

theorem parentTypeBad_eq_false {s : Store} {p : Nat} : parentTypeBad s (some p) = false ↔ p < s.n := by
  simp [parentTypeBad]

theorem parentLoopBad_eq_false {s : Store} {v p : Nat} :
    parentLoopBad s v (some p) = false ↔ p ≠ v ∧ v ∉ anc s s.n p := by
  simp [parentLoopBad]

end BinStore
