import BigtreeProofs.Lemmas.DagStoreBasic
import BigtreeProofs.Lemmas.ParentFn
/-!
# DagStore — the invariant `DWF`, reachability, the fuel of `ancestors`, acyclicity of insertions

Reachability comes in several spellings, each for one use. `Anc s a v` (through `parents` lists) is what the
guards of the setters decide and what C10 states; `Relation.TransGen` is the same relation in the form
`ParentFn` wants (`anc_iff_transGen`). `Up s v l` is an explicit upward chain, needed only to count its nodes
for the fuel bound (`anc_iff_up`, `mem_ancestors`). `Desc`, `Linked`, `Chain` (`BigtreeModel/DagBridge.lean`) walk
the `children` lists and are the store-side readings of `Dag.Reach`, `Dag.UReach`, `Dag.IsPath`, in which C16 / C17
are stated; on a well-formed store `Desc` is `Anc` (`desc_iff_anc`).
-/

namespace DagStore

/-- link well-formedness without acyclicity -/
structure DWF0 (s : DStore) : Prop where
  sym : ∀ p c, p ∈ s.parents c ↔ c ∈ s.children p
  ndp : ∀ v, (s.parents v).Nodup
  ndc : ∀ v, (s.children v).Nodup
  rng : ∀ p c, p ∈ s.parents c → p < s.n ∧ c < s.n

/-- nobody is its own ancestor, stated as well-foundedness of "is a parent of" -/
def Acyclic (s : DStore) : Prop := ∀ v, Acc (fun p c => p ∈ s.parents c) v

/-- the invariant of C10: symmetric links, no duplicates, ids in range, acyclic -/
structure DWF (s : DStore) : Prop extends DWF0 s where
  acyc : Acyclic s

theorem DWF0.parents_nil {s : DStore} (h : DWF0 s) {v : Nat} (hv : s.n ≤ v) : s.parents v = [] :=
  List.eq_nil_iff_forall_not_mem.2 fun a ha => Nat.not_lt.2 hv (h.rng a v ha).2

theorem DWF0.children_nil {s : DStore} (h : DWF0 s) {v : Nat} (hv : s.n ≤ v) : s.children v = [] :=
  List.eq_nil_iff_forall_not_mem.2 fun a ha => Nat.not_lt.2 hv (h.rng v a ((h.sym v a).2 ha)).1

/-! ## `DWF0` under edge insertion and removal -/

theorem DWF0.addE {s : DStore} (h : DWF0 s) {p c : Nat} (hn : p ∉ s.parents c) (hp : p < s.n)
    (hc : c < s.n) : DWF0 (s.addE p c) where
  sym q x := by rw [mem_addE_parents, mem_addE_children, h.sym, and_comm]
  ndp v := nodup_push (f := s.parents) (h.ndp v) hn
  ndc v := nodup_push (f := s.children) (h.ndc v) fun hc => hn ((h.sym _ _).2 hc)
  rng q x hq := by
    rw [addE_n]
    rcases mem_addE_parents.1 hq with hq | ⟨hx, hq⟩
    · exact h.rng q x hq
    · rw [hx, hq]; exact ⟨hp, hc⟩

theorem DWF0.addEs {s : DStore} (h : DWF0 s) {E : List (Nat × Nat)} (hnd : E.Nodup)
    (hE : ∀ e ∈ E, e.1 ∉ s.parents e.2 ∧ e.1 < s.n ∧ e.2 < s.n) : DWF0 (addEs s E) := by
  induction E generalizing s with
  | nil => exact h
  | cons e E ih =>
    have he := hE e (by simp)
    have hnd' := List.nodup_cons.1 hnd
    refine ih (h.addE he.1 he.2.1 he.2.2) hnd'.2 fun e' he' => ?_
    have := hE e' (by simp [he'])
    refine ⟨fun hm => ?_, this.2⟩
    rcases mem_addE_parents.1 hm with h1 | ⟨h1, h2⟩
    · exact this.1 h1
    · exact hnd'.1 (Prod.ext h2 h1 ▸ he')

theorem mem_delE_parents {s : DStore} (hs : DWF0 s) {p c q x : Nat} :
    q ∈ (s.delE p c).parents x ↔ q ∈ s.parents x ∧ ¬(x = c ∧ q = p) := mem_pop (hs.ndp x)

theorem DWF0.delE {s : DStore} (h : DWF0 s) (p c : Nat) : DWF0 (s.delE p c) where
  sym q x := by
    rw [mem_delE_parents h, h.sym, and_comm (a := x = c)]
    exact (mem_pop (h.ndc q)).symm
  ndp v := nodup_pop (h.ndp v)
  ndc v := nodup_pop (h.ndc v)
  rng q x hq := h.rng q x ((mem_delE_parents h).1 hq).1

theorem Acyclic.mono {s t : DStore} (h : Acyclic s) (hsub : ∀ p c, p ∈ t.parents c → p ∈ s.parents c) :
    Acyclic t :=
  fun v => Subrelation.accessible (fun {p c} => hsub p c) (h v)

theorem DWF.delE {s : DStore} (h : DWF s) (p c : Nat) : DWF (s.delE p c) where
  toDWF0 := h.toDWF0.delE p c
  acyc := h.acyc.mono fun _ _ hq => ((mem_delE_parents h.toDWF0).1 hq).1

/-! ## reachability -/

/-- `Anc s a v`: `a` is a proper ancestor of `v` (transitive closure of "is a parent of") -/
inductive Anc (s : DStore) : Nat → Nat → Prop
  | base {p c : Nat} : p ∈ s.parents c → Anc s p c
  | step {a p c : Nat} : Anc s a p → p ∈ s.parents c → Anc s a c

theorem anc_iff_transGen {s : DStore} {a v : Nat} :
    Anc s a v ↔ Relation.TransGen (fun p c => p ∈ s.parents c) a v := by
  constructor
  · intro h
    induction h with
    | base h => exact .single h
    | step _ h ih => exact ih.tail h
  · intro h
    induction h with
    | single h => exact .base h
    | tail _ h ih => exact .step ih h

theorem Anc.trans {s : DStore} {a b c : Nat} (h1 : Anc s a b) (h2 : Anc s b c) : Anc s a c :=
  anc_iff_transGen.2 ((anc_iff_transGen.1 h1).trans (anc_iff_transGen.1 h2))

theorem Anc.head {s : DStore} {q y v : Nat} (hq : q ∈ s.parents y) (h : Anc s y v) : Anc s q v :=
  (Anc.base hq).trans h

theorem Anc.mono {s t : DStore} (h : ∀ p c, p ∈ s.parents c → p ∈ t.parents c) {a b : Nat}
    (hab : Anc s a b) : Anc t a b := by
  induction hab with
  | base h1 => exact .base (h _ _ h1)
  | step _ h2 ih => exact .step ih (h _ _ h2)

theorem Acyclic.irrefl {s : DStore} (h : Acyclic s) (v : Nat) : ¬ Anc s v v :=
  fun hv => ParentFn.not_transGen_self (h v) (anc_iff_transGen.1 hv)

/-- `Up s v [p₁, …, p_k]`: `p₁` is a parent of `v`, `p₂` a parent of `p₁`, … -/
def Up (s : DStore) : Nat → List Nat → Prop
  | _, [] => True
  | v, p :: l => p ∈ s.parents v ∧ Up s p l

theorem anc_iff_up {s : DStore} {a v : Nat} : Anc s a v ↔ ∃ l, Up s v (l ++ [a]) := by
  constructor
  · intro h
    induction h with
    | base h => exact ⟨[], by simpa [Up] using h⟩
    | step _ h2 ih =>
      obtain ⟨l, hl⟩ := ih
      exact ⟨_ :: l, by simpa [Up] using ⟨h2, hl⟩⟩
  · rintro ⟨l, hl⟩
    induction l generalizing v with
    | nil => exact .base (by simpa [Up] using hl)
    | cons p l ih =>
      simp only [List.cons_append, Up] at hl
      exact .step (ih hl.2) hl.1

theorem mem_recParent {s : DStore} {f a v : Nat} :
    a ∈ recParent s f v ↔ ∃ l, l.length < f ∧ Up s v (l ++ [a]) := by
  induction f generalizing v with
  | zero => simp [recParent]
  | succ f ih =>
    simp only [recParent, List.mem_flatMap, List.mem_append, List.mem_singleton, ih]
    constructor
    · rintro ⟨p, hp, (⟨l, hl, hu⟩ | rfl)⟩
      · exact ⟨p :: l, by simp; omega, by simpa [Up] using ⟨hp, hu⟩⟩
      · exact ⟨[], by simp, by simpa [Up] using hp⟩
    · rintro ⟨l, hl, hu⟩
      cases l with
      | nil => exact ⟨a, by simpa [Up] using hu, Or.inr rfl⟩
      | cons p l =>
        simp only [List.cons_append, Up] at hu
        exact ⟨p, hu.1, Or.inl ⟨l, by simp at hl; omega, hu.2⟩⟩

theorem Up.anc {s : DStore} {v : Nat} {l : List Nat} (h : Up s v l) : ∀ x ∈ l, Anc s x v := by
  induction l generalizing v with
  | nil => simp
  | cons p l ih =>
    intro x hx
    rcases List.mem_cons.1 hx with rfl | hx
    · exact .base h.1
    · exact .step (ih h.2 x hx) h.1

theorem Up.nodup {s : DStore} (hs : Acyclic s) {v : Nat} {l : List Nat} (h : Up s v l) :
    (v :: l).Nodup := by
  induction l generalizing v with
  | nil => simp
  | cons p l ih =>
    refine List.nodup_cons.2 ⟨?_, ih h.2⟩
    intro hv
    exact hs.irrefl v (h.anc v hv)

theorem Up.lt {s : DStore} (hs : DWF0 s) {v : Nat} {l : List Nat} (h : Up s v l) (hl : l ≠ []) :
    ∀ x ∈ v :: l, x < s.n := by
  induction l generalizing v with
  | nil => exact absurd rfl hl
  | cons p l ih =>
    intro x hx
    rcases List.mem_cons.1 hx with rfl | hx
    · exact (hs.rng _ _ h.1).2
    · by_cases hl' : l = []
      · subst hl'
        simp at hx; subst hx
        exact (hs.rng _ _ h.1).1
      · exact ih h.2 hl' x hx

/-- pigeon-hole: `v` and an upward chain from it are distinct nodes -/
theorem up_length_le {s : DStore} (hs : DWF s) {v : Nat} {l : List Nat} (h : Up s v l) : l.length ≤ s.n := by
  by_cases hl : l = []
  · subst hl
    exact Nat.zero_le _
  · exact Nat.le_of_succ_le (nodup_bound s.n _ (h.nodup hs.acyc) (h.lt hs.toDWF0 hl))

/-- **the fuel `n + 1` of the recursive `ancestors` is enough** on well-formed stores: the
fuel-bounded, de-duplicated list is exactly the set of proper ancestors -/
theorem mem_ancestors {s : DStore} (hs : DWF s) {a v : Nat} : a ∈ ancestors s v ↔ Anc s a v := by
  have e : ancestors s v = (recParent s (s.n + 1) v).eraseDups := by
    unfold ancestors
    split
    · rename_i he; rw [recParent, List.isEmpty_iff.1 he]; rfl
    · rfl
  rw [e, List.mem_eraseDups, mem_recParent, anc_iff_up]
  refine ⟨fun ⟨l, _, hu⟩ => ⟨l, hu⟩, fun ⟨l, hu⟩ => ⟨l, ?_, hu⟩⟩
  have := up_length_le hs hu
  rw [List.length_append, List.length_singleton] at this
  exact Nat.le_succ_of_le this

/-! ## acyclicity of a batch of insertions -/

/-- new edges all *into* `v`, from nodes that `v` does not reach: still acyclic. This is why the
parents setter may check every new parent against the **initial** store only. -/
theorem Acyclic.add_in {s t : DStore} (hs : Acyclic s) (v : Nat) (L : List Nat)
    (hsub : ∀ q x, q ∈ t.parents x → q ∈ s.parents x ∨ (x = v ∧ q ∈ L))
    (hL : ∀ p ∈ L, p ≠ v ∧ ¬ Anc s v p) : Acyclic t :=
  ParentFn.acc_add hs hsub fun p _ hp _ _ hc =>
    hc.1 ▸ ⟨(hL p hp.2).1.symm, fun h => (hL p hp.2).2 (anc_iff_transGen.2 h)⟩

/-- new edges all *out of* `v`, to nodes that do not reach `v`: still acyclic (children setter) -/
theorem Acyclic.add_out {s t : DStore} (hs : Acyclic s) (v : Nat) (L : List Nat)
    (hsub : ∀ q x, q ∈ t.parents x → q ∈ s.parents x ∨ (q = v ∧ x ∈ L))
    (hL : ∀ c ∈ L, c ≠ v ∧ ¬ Anc s c v) : Acyclic t :=
  ParentFn.acc_add_out hs v (· ∈ L) hsub fun c hc =>
    ⟨(hL c hc).1, fun h => (hL c hc).2 (anc_iff_transGen.2 h)⟩

end DagStore
