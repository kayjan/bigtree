import BigtreeProofs.Lemmas.ModifyEdit
/-!
# C08 helper lemmas: attaching several nodes under one parent (`merge_children`, `merge_leaves`),
removing several addresses, the leaves of a node
-/
namespace Modify

variable {cfg : Cfg} {c : Char}

theorem mem_filter_underAny {pp q : List Str} {kids : List Tree} {l : List Entry} :
    q ∈ (l.filter (underAny pp kids)).map (·.1) ↔
      ∃ kid ∈ kids, q ∈ (l.filter (under (pp ++ [kid.name]))).map (·.1) := by
  simp only [List.mem_map, List.mem_filter, underAny, List.any_eq_true]
  constructor
  · rintro ⟨e, ⟨he, kid, hk, hu⟩, rfl⟩; exact ⟨kid, hk, e, ⟨he, hu⟩, rfl⟩
  · rintro ⟨kid, hk, e, ⟨he, hu⟩, rfl⟩; exact ⟨e, ⟨he, kid, hk, hu⟩, rfl⟩

theorem sibling_addresses_disjoint (pp : List Str) {a b : Str} (hab : a ≠ b) {e : Entry}
    (h : under (pp ++ [a]) e = true) : under (pp ++ [b]) e = false :=
  have hn : ∀ {x y : Str}, x ≠ y → ¬ pp ++ [x] <+: pp ++ [y] := fun hxy h =>
    hxy (List.cons_prefix_cons.1 ((List.prefix_append_right_inj pp).1 h)).1
  not_under_both (hn hab) (hn (Ne.symm hab)) h

theorem appendKid_children (x P : Tree) : (appendKid x P).children = P.children ++ [x] := by
  cases P; rfl

theorem attachAll_facts {pp : List Str} (kids : List Tree) {t P : Tree}
    (hu : SibUnique t) (hP : getRel pp t = some P)
    (hnd : (kids.map Tree.name).Nodup)
    (hdisj : ∀ kid ∈ kids, ∀ y ∈ P.children, y.name ≠ kid.name)
    (hsu : ∀ kid ∈ kids, SibUnique kid) :
    ∃ t', attachAll pp kids t = .ok t' ∧ SibUnique t' ∧
      (∀ kid ∈ kids, (flat t').filter (under (pp ++ [kid.name]))
          = (flat kid).map (rebase (pp ++ [kid.name]))) ∧
      (flat t').filter (fun e => !underAny pp kids e) = flat t := by
  induction kids generalizing t P with
  | nil => exact ⟨t, rfl, hu, fun _ h => absurd h List.not_mem_nil, List.filter_eq_self.2 fun _ _ => rfl⟩
  | cons kid rest ih =>
    rw [List.map_cons, List.nodup_cons] at hnd
    have hne : ∀ k' ∈ rest, kid.name ≠ k'.name := fun k' hk' h =>
      hnd.1 (h ▸ List.mem_map.2 ⟨k', hk', rfl⟩)
    have hnew : ∀ y ∈ P.children, y.name ≠ kid.name := hdisj kid List.mem_cons_self
    have hku : SibUnique kid := hsu kid List.mem_cons_self
    have hdisj1 : ∀ k' ∈ rest, ∀ y ∈ (appendKid kid P).children, y.name ≠ k'.name := by
      intro k' hk' y hy
      rw [appendKid_children, List.mem_append, List.mem_singleton] at hy
      rcases hy with hy | rfl
      · exact hdisj k' (List.mem_cons_of_mem _ hk') y hy
      · exact hne k' hk'
    obtain ⟨t', hatt, hsu', hkids, hrest⟩ :=
      ih (hu.appendAt hP hku hnew) (getRel_modifyAt_self hP (appendKid_name kid P)) hnd.2 hdisj1
        (fun k' hk' => hsu k' (List.mem_cons_of_mem _ hk'))
    have hsep : ∀ e ∈ flat t', under (pp ++ [kid.name]) e = true → (!underAny pp rest e) = true :=
      fun e _ he => (Bool.not_eq_true' _).mpr (List.any_eq_false.2 fun k' hk' =>
        Bool.not_eq_true _ ▸ sibling_addresses_disjoint pp (hne k' hk') he)
    refine ⟨t', by simp only [attachAll, attachOne_ok hP hnew, hatt], hsu', ?_, ?_⟩
    · intro k' hk'
      rcases List.mem_cons.1 hk' with rfl | hk'
      · rw [← flat_appendAt_new hP hnew hu hku, ← hrest, List.filter_filter, filter_and_of_imp hsep]
      · exact hkids k' hk'
    · rw [← flat_appendAt_old hP hnew hu, ← hrest, List.filter_filter]
      apply List.filter_congr
      intro e _
      simp only [underAny, List.any_cons, Bool.not_or]

theorem stripIf_map_names (b : Bool) (cs : List Tree) :
    (cs.map (stripIf b)).map Tree.name = cs.map Tree.name := by
  simp [List.map_map, Function.comp_def, stripIf_name]

/-! ### removing several addresses -/

theorem modifyAt_removeAt (fp p : List Str) (hp : p ≠ []) (t : Tree) :
    modifyAt fp (removeAt p) t = removeAt (fp ++ p) t := by
  induction fp generalizing t with
  | nil => rfl
  | cons n fs ih =>
    cases t with
    | node i nm a cs =>
      have hf : modifyAt fs (removeAt p) = removeAt (fs ++ p) := funext ih
      cases hq : fs ++ p with
      | nil => exact absurd (List.append_eq_nil_iff.1 hq).2 hp
      | cons m q => simp only [modifyAt, List.cons_append, hq, removeAt, hf]

theorem removeAll_name' (ps : List (List Str)) (t : Tree) : (removeAll ps t).name = t.name :=
  removeAll_name ps t

theorem modifyAt_removeAll (fp : List Str) (ps : List (List Str)) (hps : ∀ p ∈ ps, p ≠ []) (t : Tree) :
    modifyAt fp (removeAll ps) t = removeAll (ps.map (fp ++ ·)) t := by
  induction ps generalizing t with
  | nil => exact modifyAt_id fp t
  | cons p ps ih =>
    have : (removeAll (p :: ps) : Tree → Tree) = removeAll ps ∘ removeAt p := rfl
    rw [this, ← modifyAt_modifyAt _ _ _ (fun x => removeAt_name p x),
      modifyAt_removeAt fp p (hps p List.mem_cons_self), ih (fun q hq => hps q (List.mem_cons_of_mem _ hq))]
    rfl

theorem flat_removeAll (ps : List (List Str)) (hps : ∀ p ∈ ps, p ≠ []) {t : Tree} (hu : SibUnique t) :
    flat (removeAll ps t) = (flat t).filter (fun e => !(ps.any (fun p => under p e))) ∧
      SibUnique (removeAll ps t) := by
  induction ps generalizing t with
  | nil => exact ⟨(List.filter_eq_self.2 fun _ _ => rfl).symm, hu⟩
  | cons p ps ih =>
    obtain ⟨h1, h2⟩ := ih (fun q hq => hps q (List.mem_cons_of_mem _ hq)) (hu.removeAt (p := p))
    refine ⟨?_, h2⟩
    simp only [removeAll]
    rw [h1, flat_removeAt (hps p List.mem_cons_self) hu, List.filter_filter]
    apply List.filter_congr
    intro e _
    simp only [List.any_cons, Bool.not_or, Bool.and_comm]

/-! ### leaves -/

theorem nodesRel_name_root {t : Tree} {pr : List Str × Tree} (h : pr ∈ nodesRel t) :
    pr.2.name = (t.name :: pr.1).getLast (List.cons_ne_nil _ _) := by
  induction t using Tree.ind generalizing pr with
  | h i n a cs ih =>
    rw [nodesRel_node] at h
    rcases List.mem_cons.1 h with rfl | h
    · rfl
    · obtain ⟨x, hx, q, hq, rfl⟩ := mem_nodesRelL.1 h
      exact (ih x hx hq).trans (List.getLast_cons (List.cons_ne_nil _ _)).symm

theorem nodesRel_name {t : Tree} {pr : List Str × Tree} (h : pr ∈ nodesRel t) (hne : pr.1 ≠ []) :
    pr.2.name = pr.1.getLast hne :=
  (nodesRel_name_root h).trans (List.getLast_cons hne)

theorem leavesRel_facts {F : Tree} (hF : F.children ≠ []) {pr : List Str × Tree} (h : pr ∈ leavesRel F) :
    pr.1 ≠ [] ∧ pr.2.children = [] := by
  unfold leavesRel at h
  obtain ⟨h1, h2⟩ := List.mem_filter.1 h
  have hk : pr.2.children = [] := List.isEmpty_iff.1 h2
  refine ⟨?_, hk⟩
  intro h0
  cases F with
  | node i n a cs =>
    rw [nodesRel_node] at h1
    rcases List.mem_cons.1 h1 with rfl | h1
    · exact hF hk
    · obtain ⟨x, _, q, _, rfl⟩ := mem_nodesRelL.1 h1
      cases h0

theorem flat_leaf {x : Tree} (h : x.children = []) : flat x = [([], x.id, x.attrs)] := by
  rw [flat_eq, h]; rfl
theorem sibUnique_leaf {x : Tree} (h : x.children = []) : SibUnique x := by
  cases x
  simp only [Tree.children_node] at h
  subst h
  simp [sibUnique_node]

end Modify
