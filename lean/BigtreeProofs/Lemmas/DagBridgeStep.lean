import BigtreeModel.DagCopy
import BigtreeProofs.Lemmas.DagBridgeBasic
import BigtreeProofs.Lemmas.DagStoreEdges
/-!
# DagBridge — the effect of one operation on the edge list of the store

(`Op.isConstruct` is defined in `BigtreeModel/DagCopy.lean`, hence that import.)
-/

namespace DagStore
open List

/-! ## `n` and `names` under one step -/

theorem setParents_n_names {s : DStore} (hs : DWF0 s) (v : Nat) (a : Arg) (f : Fault) :
    (setParents true s v a f).1.n = s.n ∧ (setParents true s v a f).1.names = s.names := by
  cases h : (setParents true s v a f).2 with
  | rej => rw [setParents_rej_id hs h]; exact ⟨rfl, rfl⟩
  | ok => obtain ⟨l, _, _, _, he⟩ := setParents_ok h; rw [he]; exact ⟨addEs_n _ _, addEs_names _ _⟩

theorem setChildren_n_names {s : DStore} (hs : DWF0 s) (v : Nat) (a : Arg) (f : Fault) :
    (setChildren true s v a f).1.n = s.n ∧ (setChildren true s v a f).1.names = s.names := by
  cases h : (setChildren true s v a f).2 with
  | rej => rw [setChildren_rej_id hs h]; exact ⟨rfl, rfl⟩
  | ok => obtain ⟨l, _, _, _, he⟩ := setChildren_ok h; rw [he]; exact ⟨addEs_n _ _, addEs_names _ _⟩

theorem delChildrenLoop_n_names (s : DStore) (v : Nat) (l : List Nat) :
    (delChildrenLoop s v l).n = s.n ∧ (delChildrenLoop s v l).names = s.names := by
  induction l generalizing s with
  | nil => exact ⟨rfl, rfl⟩
  | cons c l ih => exact ih _

theorem step_n_names {s : DStore} (hs : DWF s) {op : Op} (hc : op.isConstruct = false) :
    (step true s op).1.n = s.n ∧ (step true s op).1.names = s.names :=
  step_cases (P := fun op r => op.isConstruct = false → r.1.n = s.n ∧ r.1.names = s.names)
    (fun _ _ => ⟨rfl, rfl⟩)
    (fun v a f _ _ => setParents_n_names hs.toDWF0 v a f) (fun v a f _ _ => setChildren_n_names hs.toDWF0 v a f)
    (fun _ o f _ _ _ => setParents_n_names hs.toDWF0 o _ f) (fun v _ f _ _ => setParents_n_names hs.toDWF0 v _ f)
    (fun v _ _ => delChildrenLoop_n_names s v _)
    (fun v nm _ _ => by unfold delItem; split <;> exact ⟨rfl, rfl⟩)
    (fun _ _ _ _ _ hc => nomatch hc) op hc

/-- the constructor allocates the next id and records the name, whatever happens to its two assignments -/
theorem construct_n_names {s : DStore} (hs : DWF s) (nm : Str) (ps cs : Arg) (fp fc : Fault) :
    (step true s (.construct nm ps cs fp fc)).1.n = s.n + 1 ∧
    (step true s (.construct nm ps cs fp fc)).1.names = upd s.names s.n nm := by
  simp only [step, construct_eq]
  have h0 := dwf_alloc hs nm
  have e1 := setParents_n_names h0.toDWF0 s.n ps fp
  split
  · exact e1
  · have e2 := setChildren_n_names (dwf_setParents h0 (Nat.lt_succ_self s.n) ps fp).toDWF0 s.n cs fc
    exact ⟨e2.1.trans e1.1, e2.2.trans e1.2⟩

theorem step_n_le {s : DStore} (hs : DWF s) (op : Op) : s.n ≤ (step true s op).1.n := by
  cases op with
  | construct nm ps cs fp fc => rw [(construct_n_names hs nm ps cs fp fc).1]; exact Nat.le_succ _
  | _ => exact Nat.le_of_eq (step_n_names hs rfl).1.symm

/-! ## assignments: the edge list only grows, and an accepted one adds exactly the requested edges that were missing -/

theorem edges_perm_of_adds {s t : DStore} (hs : DWF0 s) (ht : DWF0 t) {R : List (Nat × Nat)} (hR : R.Nodup)
    (h : ∀ p c, p ∈ t.parents c ↔ p ∈ s.parents c ∨ (p, c) ∈ R) :
    (edges t).Perm (edges s ++ R.filter fun e => decide (e ∉ edges s)) := by
  have hnd : (edges s ++ R.filter fun e => decide (e ∉ edges s)).Nodup :=
    nodup_append.2 ⟨nodup_edges hs, hR.filter _, fun a ha b hb hab =>
      of_decide_eq_true (mem_filter.1 hb).2 (hab ▸ ha)⟩
  rw [perm_ext_iff_of_nodup (nodup_edges ht) hnd]
  rintro ⟨p, c⟩
  rw [mem_edges_iff ht, h, mem_append, mem_filter, decide_eq_true_eq, mem_edges_iff hs]
  constructor
  · rintro (h1 | h1)
    · exact Or.inl h1
    · exact (Classical.em (p ∈ s.parents c)).imp_right fun h2 => ⟨h1, h2⟩
  · exact Or.imp_right And.left

theorem ok_of_guard {c : Prop} [Decidable c] {s : DStore} {x : DStore × Outcome}
    (h : (if c then x else (s, Outcome.rej)).2 = .ok) : c ∧ x.2 = .ok := by
  split at h
  · exact ⟨‹c›, h⟩
  · cases h

theorem requested_nodup {s : DStore} (hs : DWF s) {op : Op} (h : (step true s op).2 = .ok) :
    (requested s op).Nodup := by
  have inj1 : ∀ v : Nat, ∀ a b : Nat, (a, v) = (b, v) → a = b := fun v a b e => (Prod.mk.inj e).1
  have inj2 : ∀ v : Nat, ∀ a b : Nat, (v, a) = (v, b) → a = b := fun v a b e => (Prod.mk.inj e).2
  cases op with
  | setParents v a f =>
    obtain ⟨l, rfl, hn, _⟩ := setParents_ok_spec hs (ok_of_guard h).2
    exact Dag.nodup_map_of_inj (inj1 v) hn
  | setChildren v a f =>
    obtain ⟨l, ha, hn, _⟩ := setChildren_ok_spec hs (ok_of_guard h).2
    rw [requested, ha]
    exact Dag.nodup_map_of_inj (inj2 v) hn
  | rshift v o f => exact nodup_cons.2 ⟨not_mem_nil, nodup_nil⟩
  | lshift v o f => exact nodup_cons.2 ⟨not_mem_nil, nodup_nil⟩
  | delChildren v => exact nodup_nil
  | delItem v nm => exact nodup_nil
  | construct nm ps cs fp fc =>
    cases h1 : (setParents true (alloc s nm) s.n ps fp).2 with
    | rej => rw [step, construct_of_rej h1, h1] at h; cases h
    | ok =>
      rw [step, construct_of_ok h1] at h
      have h0 := dwf_alloc hs nm
      obtain ⟨lp, rfl, hnp, hlp⟩ := setParents_ok_spec h0 h1
      obtain ⟨lc, hac, hnc, _⟩ := setChildren_ok_spec (dwf_setParents h0 (Nat.lt_succ_self s.n) _ fp) h
      rw [requested, hac]
      refine nodup_append.2 ⟨Dag.nodup_map_of_inj (inj1 _) hnp, Dag.nodup_map_of_inj (inj2 _) hnc, ?_⟩
      intro a ha b hb hab
      obtain ⟨p, hp, rfl⟩ := mem_map.1 ha
      obtain ⟨c, _, rfl⟩ := mem_map.1 hb
      exact (hlp p hp).2.1 (Prod.mk.inj hab).1

theorem step_edges_adds {s : DStore} (hs : DWF s) {op : Op} (ha : op.isAssign = true)
    (h : (step true s op).2 = .ok) :
    (edges (step true s op).1).Perm (edges s ++ (requested s op).filter fun e => decide (e ∉ edges s)) :=
  edges_perm_of_adds hs.toDWF0 (dwf_step hs op).toDWF0 (requested_nodup hs h)
    (fun p c => step_adds hs h ha p c)

/-- **any assignment, any outcome** (accepted, refused, failed hook, half-built constructor): the old
edge list is a sublist of the new one — no edge disappears, no two edges change their order -/
theorem step_edges_sublist {s : DStore} (hs : DWF s) {op : Op} (ha : op.isAssign = true) :
    edges s <+ edges (step true s op).1 ∧ edgesUp s <+ edgesUp (step true s op).1 :=
  have hn := range_sublist.2 (step_n_le hs op)
  ⟨outE_sublist hn fun x => (step_prefix hs ha x).2.sublist, by
    rw [edgesUp_eq_outE, edgesUp_eq_outE]
    exact (outE_sublist hn fun x => (step_prefix hs ha x).1.sublist).map _⟩

/-! ## deletions: the edge list loses exactly the named edges, order kept -/

/-- on a receiver that is no node the two deleters find no children and do nothing: the guard of `step`
changes nothing for them -/
theorem step_delChildren {s : DStore} (hs : DWF0 s) (v : Nat) :
    (step true s (.delChildren v)).1 = delChildrenLoop s v (s.children v) := by
  by_cases hv : v < s.n
  · exact congrArg Prod.fst (if_pos hv)
  · rw [hs.children_nil (Nat.le_of_not_lt hv)]
    exact congrArg Prod.fst (if_neg hv)

theorem step_delItem {s : DStore} (hs : DWF0 s) (v : Nat) (nm : Str) :
    (step true s (.delItem v nm)).1 = (delItem s v nm).1 := by
  by_cases hv : v < s.n
  · exact congrArg Prod.fst (if_pos hv)
  · rw [delItem, hs.children_nil (Nat.le_of_not_lt hv)]
    exact (congrArg Prod.fst (if_neg hv)).trans rfl

theorem edges_delChildrenLoop (s : DStore) (v : Nat) :
    edges (delChildrenLoop s v (s.children v)) = (edges s).filter fun e => e.1 != v := by
  rw [edges_eq_outE, (delChildrenLoop_n_names s v _).1]
  refine outE_filter _ fun x _ => ?_
  rw [delChildrenLoop_children v rfl]
  by_cases hx : x = v
  · rw [if_pos hx, eq_comm, filter_eq_nil_iff]
    exact fun c _ h => bne_iff_ne.1 h hx
  · rw [if_neg hx, eq_comm, filter_eq_self]
    exact fun c _ => bne_iff_ne.2 hx

theorem edges_delE {s : DStore} (hs : DWF0 s) (v c : Nat) :
    edges (s.delE v c) = (edges s).filter fun e => e != (v, c) := by
  refine outE_filter (f := s.children) _ fun x _ => ?_
  rw [delE_children]
  by_cases hx : x = v
  · rw [if_pos hx, hx, (hs.ndc v).erase_eq_filter]
    exact filter_congr fun d _ => by
      rw [Bool.eq_iff_iff, bne_iff_ne, bne_iff_ne, Ne, Ne, Prod.mk.injEq, eq_self, true_and]
  · rw [if_neg hx, eq_comm, filter_eq_self]
    exact fun d _ => bne_iff_ne.2 fun h => hx (Prod.mk.inj h).1

/-- **deletion, on the edge list**: `del v.children` / `del v[name]` leave the old edge list with
exactly the named edges filtered out (list equality: the order of the remaining edges is kept) -/
theorem step_edges_removes {s : DStore} (hs : DWF s) {op : Op} (ha : op.isAssign = false) :
    edges (step true s op).1 = (edges s).filter fun e => decide (e ∉ removed s op) := by
  cases op with
  | delChildren v =>
    rw [step_delChildren hs.toDWF0, edges_delChildrenLoop, removed]
    refine filter_congr fun e he => ?_
    have : e ∈ (s.children v).map (fun c => (v, c)) ↔ e.1 = v :=
      ⟨fun h => by obtain ⟨c, _, rfl⟩ := mem_map.1 h; rfl,
       fun h => mem_map.2 ⟨e.2, h ▸ (mem_edges.1 he).2, by rw [← h]⟩⟩
    rw [Bool.eq_iff_iff, bne_iff_ne, decide_eq_true_iff, this]
  | delItem v nm =>
    rw [step_delItem hs.toDWF0, delItem, removed]
    cases hf : (s.children v).filter (fun c => s.names c == nm) with
    | nil => exact (filter_eq_self.2 fun _ _ => rfl).symm
    | cons c t =>
      cases t with
      | cons b t => exact (filter_eq_self.2 fun _ _ => rfl).symm
      | nil =>
        show edges (s.delE v c) = (edges s).filter fun e => decide (e ∉ [(v, c)])
        rw [edges_delE hs.toDWF0]
        exact filter_congr fun e _ => by
          rw [Bool.eq_iff_iff, bne_iff_ne, decide_eq_true_iff, mem_singleton]
  | _ => cases ha

/-! ## accepted setters, list-exactly -/

/-- accepted `v.children = a`: the new edges `(v, c)` — the members of `a` that were not children of
`v` yet, in argument order — are inserted right behind `v`'s old out-edges; nothing else moves -/
theorem setChildren_edges_exact {s : DStore} {v : Nat} (hv : v < s.n) {a : Arg} {f : Fault}
    (h : (setChildren true s v a f).2 = .ok) :
    edges (setChildren true s v a f).1 =
      (edges s).filter (fun e => decide (e.1 ≤ v)) ++
      ((a.items.getD []).filter fun c => decide (v ∉ s.parents c)).map (fun c => (v, c)) ++
      (edges s).filter (fun e => !decide (e.1 ≤ v)) := by
  have hn : (setChildren true s v a f).1.n = s.n := by
    obtain ⟨l, _, _, _, he⟩ := setChildren_ok h
    rw [he, addEs_n]
  rw [edges_eq_outE, edges_eq_outE, hn]
  exact outE_append_at hv (setChildren_ok_children h)

/-- accepted `v.parents = l`, read on the `parents` lists: the new edges `(p, v)` — the members of `l`
that were not parents of `v` yet, in argument order — sit right behind `v`'s old in-edges -/
theorem setParents_edgesUp_exact {s : DStore} {v : Nat} (hv : v < s.n) {l : List Nat} {f : Fault}
    (h : (setParents true s v (.list l) f).2 = .ok) :
    edgesUp (setParents true s v (.list l) f).1 =
      (edgesUp s).filter (fun e => decide (e.2 ≤ v)) ++
      (l.filter fun p => decide (p ∉ s.parents v)).map (fun p => (p, v)) ++
      (edgesUp s).filter (fun e => !decide (e.2 ≤ v)) := by
  have hn : (setParents true s v (.list l) f).1.n = s.n := by
    obtain ⟨l', _, _, _, he⟩ := setParents_ok h
    rw [he, addEs_n]
  rw [edgesUp_eq_outE, edgesUp_eq_outE, hn, outE_append_at hv (setParents_ok_parents h)]
  simp only [map_append, filter_map, map_map]
  rfl

/-- … and read on the `children` lists: every new parent gets `v` appended to its children list -/
theorem setParents_edges_exact {s : DStore} (hs : DWF s) {v : Nat} {l : List Nat} {f : Fault}
    (h : (setParents true s v (.list l) f).2 = .ok) :
    edges (setParents true s v (.list l) f).1 =
      (List.range s.n).flatMap fun p =>
        (s.children p ++ if p ∈ l ∧ p ∉ s.parents v then [v] else []).map fun c => (p, c) := by
  obtain ⟨l', hl', hchk, _, he⟩ := setParents_ok h
  cases hl'
  rw [edges, (setParents_n_names hs.toDWF0 _ _ _).1, he, newParentEdges]
  refine flatMap_congr' fun p _ => ?_
  rw [addEs_parentEdges_children s v p ((checkParentLoop_spec hchk).1.filter _)]
  simp only [mem_filter, decide_eq_true_eq]

end DagStore
