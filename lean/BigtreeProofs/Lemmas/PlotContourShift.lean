import BigtreeModel.Plot
import BigtreeProofs.Lemmas.Plot
import BigtreeProofs.Lemmas.PlotContourLevels
import BigtreeProofs.Lemmas.PlotContourWalk
/-!
# What `_get_subtree_shift` guarantees

* `gss_level0` — the result is at least the accumulated shift plus what the current level asks for
  (every level only adds);
* `gss_cover` — for `left_idx = 0` (no scaling) the result separates the walked nodes on every level
  the lock-step walk visits, and those are the last / first nodes of the true levels;
* `gss_top` — the call made by `_first_pass` for a sibling pair: under the pair condition of `Sk.exact`
  every node of the left subtree is `sub` left of every node of the right subtree on the same level
  once the right subtree has moved by `result * (1 - li/ri)` relative to the left one.
-/

namespace Plot

/-! ## list helpers -/

theorem exists_snoc_of_ne_nil {α : Type} {l : List α} (h : l ≠ []) :
    ∃ a r, l.reverse = a :: r ∧ l = r.reverse ++ [a] := by
  obtain ⟨a, r, hr⟩ := List.exists_cons_of_ne_nil (mt List.reverse_eq_nil_iff.mp h)
  exact ⟨a, r, hr, by rw [← List.reverse_reverse l, hr, List.reverse_cons]⟩

theorem getLast?_append_of_ne_nil {α : Type} (pre : List α) {X : List α} (h : X ≠ []) :
    (pre ++ X).getLast? = X.getLast? := by
  rw [List.getLast?_append, List.getLast?_eq_some_getLast h]; rfl

theorem head?_append_of_ne_nil {α : Type} {X : List α} (post : List α) (h : X ≠ []) :
    (X ++ post).head? = X.head? := by
  rw [List.head?_append, List.head?_eq_some_head h]; rfl

/-! ## `Rat` -/

theorem rat_factor_pos {i j : Nat} (h : i < j) : (0 : Rat) < 1 - (i : Rat) / (j : Rat) := by
  have hj : (0 : Rat) < (j : Rat) := Rat.natCast_pos.mpr (Nat.zero_lt_of_lt h)
  have h1 := Rat.mul_lt_mul_of_pos_right (Rat.natCast_lt_natCast.mpr h) (Rat.inv_pos.mpr hj)
  rw [Rat.mul_inv_cancel _ (Rat.ne_of_lt hj).symm, ← Rat.div_def] at h1
  exact (Rat.lt_iff_sub_pos _ _).mp h1

theorem rat_factor_zero (ri : Nat) : (1 : Rat) - ((0 : Nat) : Rat) / (ri : Rat) = 1 := by
  rw [show ((0 : Nat) : Rat) = 0 from rfl, Rat.div_def, Rat.zero_mul, Rat.sub_eq_add_neg, Rat.neg_zero,
    Rat.add_zero]

/-- `gss_level0` at `cum = 0`, cleared of the factor `f = 1 - i/j` -/
theorem rat_scaled {a s b f g : Rat} (hf : 0 < f) (h : 0 + (a + s - (b + 0)) / f ≤ g) :
    a + s - b ≤ g * f := by
  rw [Rat.zero_add, Rat.add_zero] at h
  have := Rat.mul_le_mul_of_nonneg_right h (Rat.le_of_lt hf)
  rwa [Rat.div_mul_cancel (Rat.ne_of_lt hf).symm] at this

/-- `gss_level0` for `left_idx = 0`, where the factor is 1 (`rat_factor_zero`) -/
theorem rat_unscaled {a s b c g : Rat} (h : c + (a + s - (b + c)) / 1 ≤ g) : a + s ≤ b + g := by
  grind

/-- all of the left level is left of its end `a`, all of the right level right of its start `b` -/
theorem rat_cross_of_ends {p q a b s g : Rat} (hpa : p ≤ a) (hbq : b ≤ q) (h : a + s - b ≤ g) :
    p + s - q ≤ g := by
  rw [Rat.sub_right_le_iff_le_add] at h ⊢
  exact Rat.le_trans (Rat.add_le_add_right.mpr hpa) (Rat.le_trans h (Rat.add_le_add_left.mpr hbq))

theorem rat_le_add_max (c x : Rat) : c ≤ c + max x 0 := by
  have := Rat.add_le_add_left (c := c) |>.mpr (rat_le_max_right x 0)
  rwa [Rat.add_zero] at this

/-! ## every level only adds -/

theorem gss_ge (sub : Rat) (li ri : Nat) : ∀ (fuel : Nat) (left : PT) (lsibs : List PT) (right : PT)
    (rsibs : List PT) (lcum rcum cum : Rat),
    cum ≤ getSubtreeShift sub li ri fuel left lsibs right rsibs lcum rcum cum false := by
  intro fuel
  induction fuel with
  | zero => intros; rw [getSubtreeShift]; exact Rat.le_refl
  | succ fuel ih =>
    intros
    simp only [getSubtreeShift, Bool.false_eq_true, if_false]
    split
    · exact Rat.le_trans (rat_le_add_max _ _) (ih ..)
    · exact rat_le_add_max _ _

theorem gss_level0 (sub : Rat) (li ri : Nat) {fuel : Nat} (hf : 0 < fuel) (left : PT) (lsibs : List PT)
    (right : PT) (rsibs : List PT) (lcum rcum cum : Rat) :
    cum + (left.x + left.shift + lcum + sub - (right.x + right.shift + rcum + cum)) /
        (1 - (li : Rat) / (ri : Rat)) ≤
      getSubtreeShift sub li ri fuel left lsibs right rsibs lcum rcum cum false := by
  obtain ⟨fuel, rfl⟩ := Nat.exists_eq_succ_of_ne_zero (Nat.ne_of_gt hf)
  simp only [getSubtreeShift, Bool.false_eq_true, if_false]
  split
  · exact Rat.le_trans (Rat.add_le_add_left.mpr (rat_le_max_left _ 0)) (gss_ge ..)
  · exact Rat.add_le_add_left.mpr (rat_le_max_left _ 0)

/-! ## descending one level -/

theorem gss_init (sub : Rat) (li ri fuel : Nat) {left right lc rc : PT} {lrest rrest : List PT}
    (hl : left.children.reverse = lc :: lrest) (hr : right.children = rc :: rrest)
    (lsibs rsibs : List PT) (lcum rcum cum : Rat) :
    getSubtreeShift sub li ri (fuel + 1) left lsibs right rsibs lcum rcum cum true =
      getSubtreeShift sub li ri fuel lc lrest rc rrest
        (lcum + left.mod + left.shift) (rcum + right.mod + right.shift) cum false := by
  simp only [getSubtreeShift, if_true, hl, hr, Rat.add_zero]

theorem gss_step (sub : Rat) (li ri fuel : Nat) {left right lc rc : PT} {lsibs rsibs lrest rrest : List PT}
    (hl : (scanLeft left lsibs).children.reverse = lc :: lrest)
    (hr : (scanRight right rsibs).children = rc :: rrest) (lcum rcum cum : Rat) :
    ∃ cum', getSubtreeShift sub li ri (fuel + 1) left lsibs right rsibs lcum rcum cum false =
      getSubtreeShift sub li ri fuel lc lrest rc rrest
        (lcum + (scanLeft left lsibs).mod + (scanLeft left lsibs).shift)
        (rcum + (scanRight right rsibs).mod + (scanRight right rsibs).shift) cum' false :=
  ⟨_, by simp only [getSubtreeShift, Bool.false_eq_true, if_false, hl, hr]; rfl⟩

/-! ## the lock-step walk without scaling (`left_idx = 0`) -/

theorem gss_cover (sub : Rat) (ri : Nat) : ∀ (fuel : Nat) (left : PT) (lsibs : List PT) (right : PT)
    (rsibs : List PT) (lcum rcum cum : Rat) (n : Nat),
    n < fuel → n < Sk.rwalkL ((lsibs.reverse ++ [left]).map PT.sk) →
    n < Sk.lwalkL ((right :: rsibs).map PT.sk) →
    ∀ a b, (flv lcum (lsibs.reverse ++ [left]) n).getLast? = some a →
      (flv rcum (right :: rsibs) n).head? = some b →
      a + sub ≤ b + getSubtreeShift sub 0 ri fuel left lsibs right rsibs lcum rcum cum false := by
  intro fuel
  induction fuel with
  | zero => intro _ _ _ _ _ _ _ n h; exact absurd h (Nat.not_lt_zero n)
  | succ fuel ih =>
    intro left lsibs right rsibs lcum rcum cum n hf hl hr a b ha hb
    cases n with
    | zero =>
      rw [getLast?_flv_zero] at ha
      rw [head?_flv_zero] at hb
      have h1 := gss_level0 sub 0 ri hf left lsibs right rsibs lcum rcum cum
      rw [rat_factor_zero, Option.some.inj ha, Option.some.inj hb] at h1
      exact rat_unscaled h1
    | succ n =>
      -- the scanned nodes carry the next level of both walks
      rw [rwalk_scanLeft, PT.rwalk_sk] at hl
      rw [lwalk_scanRight, PT.lwalk_sk] at hr
      have hl' := Nat.lt_of_add_lt_add_left (Nat.add_comm n 1 ▸ hl)
      have hr' := Nat.lt_of_add_lt_add_left (Nat.add_comm n 1 ▸ hr)
      have hlne := flv_ne_nil (Nat.lt_of_lt_of_le hl' (Sk.rwalkL_le _))
        (lcum + (scanLeft left lsibs).mod + (scanLeft left lsibs).shift)
      have hrne := flv_ne_nil (Nat.lt_of_lt_of_le hr' (Sk.lwalkL_le _))
        (rcum + (scanRight right rsibs).mod + (scanRight right rsibs).shift)
      obtain ⟨pre, hpre⟩ := flv_scanLeft lcum n lsibs left
      obtain ⟨post, hpost⟩ := flv_scanRight rcum n rsibs right
      rw [hpre, plv_succ, getLast?_append_of_ne_nil pre hlne] at ha
      rw [hpost, plv_succ, head?_append_of_ne_nil post hrne] at hb
      obtain ⟨lc, lrest, hlc, hL⟩ := exists_snoc_of_ne_nil (l := (scanLeft left lsibs).children)
        (fun h0 => hlne (by rw [h0, flv]))
      obtain ⟨rc, rrest, hrc⟩ := List.exists_cons_of_ne_nil (l := (scanRight right rsibs).children)
        (fun h0 => hrne (by rw [h0, flv]))
      rw [hL] at ha hl'
      rw [hrc] at hb hr'
      obtain ⟨cum', hstep⟩ := gss_step sub 0 ri fuel hlc hrc lcum rcum cum
      rw [hstep]
      exact ih lc lrest rc rrest _ _ cum' n (Nat.lt_of_succ_lt_succ hf) hl' hr' a b ha hb

/-! ## the call of `_first_pass` for one sibling pair -/

/-- the pair condition of `Sk.groupOK` for the pair `(i, ·)` -/
def PairCond (i : Nat) (a b : Sk) : Prop :=
  (i = 0 ∧ Sk.pairExact a b = true) ∨ Sk.shallow a b = true

/-- with exact facing walks and no scaling by `gss_cover`, with a single common level by `gss_level0` -/
theorem gss_top (sub : Rat) (i j : Nat) (hij : i < j) (l node : PT) {m : Rat} (hm : 0 ≤ m)
    (hl : SortedT m l) (hn : SortedT m node) (hc : PairCond i l.sk node.sk) :
    ∀ n p q, p ∈ plv 0 l (n + 1) → q ∈ plv 0 node (n + 1) →
      p + sub - q ≤ getSubtreeShift sub i j (l.height + 1) l [] node [] 0 0 0 true *
        (1 - (i : Rat) / (j : Rat)) := by
  intro n p q hp hq
  have h1 := mem_plv_height hp
  have h2 := mem_plv_height hq
  have hsl := hl 0 (n + 1)
  have hsn := hn 0 (n + 1)
  rw [plv_succ] at hp hq hsl hsn
  -- it is enough to look at the last node `a` of the left level and the first node `b` of the right
  have hlne := List.ne_nil_of_mem hp
  have hrne := List.ne_nil_of_mem hq
  obtain ⟨a, ha⟩ : ∃ a, _ = some a := ⟨_, List.getLast?_eq_some_getLast hlne⟩
  obtain ⟨b, hb⟩ : ∃ b, _ = some b := ⟨_, List.head?_eq_some_head hrne⟩
  refine rat_cross_of_ends (sorted_le_last hm hsl ha p hp) (sorted_head_le hm hsn hb q hq) ?_
  obtain ⟨lc, lrest, hlc, hL⟩ := exists_snoc_of_ne_nil (l := l.children) (fun h0 => hlne (by rw [h0, flv]))
  obtain ⟨rc, rrest, hrc⟩ := List.exists_cons_of_ne_nil (l := node.children)
    (fun h0 => hrne (by rw [h0, flv]))
  rw [gss_init sub i j _ hlc hrc]
  have hlw := PT.rwalk_sk l
  have hrw := PT.lwalk_sk node
  rw [hL] at ha hlw
  rw [hrc] at hb hrw
  rcases hc with ⟨rfl, hex⟩ | hsh
  · -- both walks reach below level `n + 1`, which exists in both subtrees
    rw [Sk.pairExact, decide_eq_true_eq] at hex
    have hw := Nat.lt_min.mp (Nat.lt_of_lt_of_le (Nat.lt_min.mpr ⟨h1, h2⟩) hex)
    rw [hlw, hrw, Nat.add_comm n 1] at hw
    rw [rat_factor_zero, Rat.mul_one, Rat.sub_right_le_iff_le_add, Rat.add_comm _ b]
    exact gss_cover sub j l.height lc lrest rc rrest _ _ _ n
      (PT.height_eq_sk l ▸ Nat.lt_of_succ_lt h1) (Nat.lt_of_add_lt_add_left hw.1)
      (Nat.lt_of_add_lt_add_left hw.2) a b ha hb
  · -- only level 1 exists in both subtrees
    rw [Sk.shallow, decide_eq_true_eq] at hsh
    obtain rfl : n = 0 :=
      Nat.lt_one_iff.mp (Nat.lt_of_succ_lt_succ (Nat.lt_of_lt_of_le (Nat.lt_min.mpr ⟨h1, h2⟩) hsh))
    rw [getLast?_flv_zero] at ha
    rw [head?_flv_zero] at hb
    have h5 := gss_level0 sub i j (PT.height_pos l) lc lrest rc rrest (0 + l.mod + l.shift)
      (0 + node.mod + node.shift) 0
    rw [Option.some.inj ha, Option.some.inj hb] at h5
    exact rat_scaled (rat_factor_pos hij) h5

end Plot
