import BigtreeModel.Render
import BigtreeProofs.Lemmas.RenderRT1
/-! Helper lemmas for C18.print_roundtrip: the `cur_parent` walk of `str_to_tree` as an ancestor stack;
reading the specification lines of a tree rebuilds the tree; the side conditions survive `max_depth` pruning. -/
namespace Render

/-! ### the ancestor stack -/

/-- pop `n` frames (each popped frame is attached to the one below) -/
def popN : Nat → List Frame → List Frame
  | 0, S => S
  | n + 1, f :: p :: rest => popN n (p.attach f :: rest)
  | _ + 1, S => S

def popTo (d : Nat) (S : List Frame) : List Frame := popN (S.length - d) S

theorem popTo_of_le {d : Nat} {S : List Frame} (h : S.length ≤ d) : popTo d S = S := by
  unfold popTo
  rw [Nat.sub_eq_zero_of_le h]
  rfl

/-- the step of the `cur_parent` walk: a stack higher than `d` loses its top frame -/
theorem popTo_cons_cons {d : Nat} (f p : Frame) (rest : List Frame) (h : d < rest.length + 2) :
    popTo d (f :: p :: rest) = popTo d (p.attach f :: rest) := by
  unfold popTo
  rw [show (f :: p :: rest).length - d = (p.attach f :: rest).length - d + 1 from
    Nat.succ_sub (Nat.le_of_lt_succ h)]
  rfl

/-- induction along the walk towards depth `d` -/
theorem stack_induction {P : List Frame → Prop} (d : Nat) (single : ∀ f, P [f])
    (stay : ∀ f p rest, rest.length + 2 ≤ d → P (f :: p :: rest))
    (pop : ∀ f p rest, d < rest.length + 2 → P (p.attach f :: rest) → P (f :: p :: rest)) :
    ∀ S, S ≠ [] → P S
  | [], h => absurd rfl h
  | [f], _ => single f
  | f :: p :: rest, _ =>
    if h : d < rest.length + 2 then
      pop f p rest h (stack_induction d single stay pop (p.attach f :: rest) (List.cons_ne_nil _ _))
    else stay f p rest (Nat.le_of_not_lt h)
termination_by S => S.length

theorem popTo_length {d : Nat} {S : List Frame} (h1 : 1 ≤ d) (h2 : d ≤ S.length) : (popTo d S).length = d := by
  have hS : S ≠ [] := fun e => by subst e; exact absurd (Nat.le_trans h1 h2) (by decide)
  revert h2
  refine stack_induction (P := fun S => d ≤ S.length → (popTo d S).length = d) d ?_ ?_ ?_ S hS
  · intro f h2
    rw [popTo_of_le (S := [f]) h1]
    exact Nat.le_antisymm h1 h2
  · intro f p rest h h2
    rw [popTo_of_le h]
    exact Nat.le_antisymm h h2
  · intro f p rest h ih _
    rw [popTo_cons_cons f p rest h]
    exact ih (Nat.le_of_lt_succ h)

theorem popTo_popTo {d' d : Nat} {S : List Frame} (h0 : 1 ≤ d') (h : d' ≤ d) : popTo d' (popTo d S) = popTo d' S := by
  by_cases hS : S = []
  · rw [hS, popTo_of_le (S := []) (Nat.zero_le d)]
  refine stack_induction (P := fun S => popTo d' (popTo d S) = popTo d' S) d ?_ ?_ ?_ S hS
  · intro f
    rw [popTo_of_le (S := [f]) (Nat.le_trans h0 h)]
  · intro f p rest hle
    rw [popTo_of_le (S := f :: p :: rest) hle]
  · intro f p rest hlt ih
    rw [popTo_cons_cons f p rest hlt, popTo_cons_cons f p rest (Nat.lt_of_le_of_lt h hlt), ih]

theorem popTo_cons_pop {d : Nat} {f p : Frame} {rest : List Frame} (h : rest.length + 1 = d) :
    popTo d (f :: p :: rest) = p.attach f :: rest := by
  rw [popTo_cons_cons f p rest (h ▸ Nat.lt_succ_self _), popTo_of_le (S := p.attach f :: rest) (Nat.le_of_eq h)]

theorem popWhile_eq (q : Nat) (hq : 1 ≤ q) (S : List Frame) (hS : S ≠ []) :
    ∀ fuel, S.length - q ≤ fuel → popWhile q fuel S = some (popTo q S) := by
  refine stack_induction (P := fun S => ∀ fuel, S.length - q ≤ fuel → popWhile q fuel S = some (popTo q S))
    q ?_ ?_ ?_ S hS
  · intro f fuel _
    rw [popTo_of_le hq]
    cases fuel with
    | zero => rfl
    | succ fuel => exact if_neg (Nat.not_lt.mpr hq)
  · intro f p rest hle fuel _
    rw [popTo_of_le hle]
    cases fuel with
    | zero => rfl
    | succ fuel => exact if_neg (Nat.not_lt.mpr hle)
  · intro f p rest hlt ih fuel hf
    rw [popTo_cons_cons f p rest hlt]
    cases fuel with
    | zero => exact absurd hf (Nat.not_le.mpr (Nat.sub_pos_of_lt hlt))
    | succ fuel =>
      rw [popWhile, if_pos hlt]
      exact ih fuel (Nat.le_of_succ_le_succ (Nat.succ_sub (Nat.le_of_lt_succ hlt) ▸ hf))

theorem closeAll_eq (S : List Frame) (hS : S ≠ []) :
    ∀ fuel, S.length ≤ fuel → closeAll fuel S = (popTo 1 S).head?.map Frame.close := by
  refine stack_induction (P := fun S => ∀ fuel, S.length ≤ fuel → closeAll fuel S = (popTo 1 S).head?.map Frame.close)
    1 ?_ ?_ ?_ S hS
  · intro f fuel hf
    cases fuel with
    | zero => cases hf
    | succ fuel => rfl
  · intro f p rest hle
    exact absurd (Nat.le_of_succ_le_succ hle) (Nat.not_succ_le_zero _)
  · intro f p rest hlt ih fuel hf
    rw [popTo_cons_cons f p rest hlt]
    cases fuel with
    | zero => cases hf
    | succ fuel => exact ih fuel (Nat.le_of_succ_le_succ hf)

/-! ### reading the lines of a subtree -/

/-- when `strStep` accepts a line: the name starts at a multiple of the prefix length (which the first
accepted line fixes) and is new among the children of the frame the walk stops at -/
theorem strStep_ok {ps : List Str} {s : PState} {line name : Str} {i pl : Nat} {top : Frame} {rest : List Frame}
    (hname : nodeName ps line = name) (hidx : indexOf name line = some i)
    (hpl : s.prefixLen = some pl ∨ (s.prefixLen = none ∧ i = pl ∧ pl ≠ 0)) (hmod : i % pl = 0)
    (hpop : popWhile (i / pl) s.stack.length s.stack = some (top :: rest))
    (hne : name.isEmpty = false) (hdup : (top.kids.map Tree.name).contains name = false) :
    strStep ps s line = some ⟨some pl, ⟨name, []⟩ :: top :: rest⟩ := by
  unfold strStep
  rcases hpl with hpl | ⟨hpl, rfl, h0⟩
  · simp only [hpl, hname, hidx, hmod, hpop, hne, hdup, bne_self_eq_false, Bool.false_eq_true, ↓reduceIte,
      Option.pure_def, Option.bind_eq_bind, Option.bind_some]
  · simp only [hpl, hname, hidx, hmod, hpop, hne, hdup, h0, beq_iff_eq, bne_self_eq_false, Bool.false_eq_true,
      ↓reduceIte, Option.pure_def, Option.bind_eq_bind, Option.bind_some]

theorem strLoop_append (ps : List Str) : ∀ (a b : List Str) (s : PState),
    strLoop ps s (a ++ b) = (strLoop ps s a).bind fun s' => strLoop ps s' b
  | [], _, _ => rfl
  | l :: a, b, s => by
    simp only [List.cons_append, strLoop]
    cases strStep ps s l with
    | none => rfl
    | some s' => simp [strLoop_append ps a b s']

theorem erase_name (t : Tree) : (erase t).name = t.name := by
  match t with
  | .node i n a cs => rfl

theorem eraseL_names : ∀ cs : List Tree, (erase.eraseL cs).map Tree.name = cs.map Tree.name
  | [] => rfl
  | c :: cs => by simp [erase.eraseL, erase_name, eraseL_names cs]

theorem close_erase (c : Tree) : Frame.close ⟨c.name, erase.eraseL c.children⟩ = erase c := by
  cases c
  rfl

theorem eraseL_append_singleton : ∀ (c : Tree) (cs : List Tree), erase.eraseL (c :: cs) = erase c :: erase.eraseL cs := by
  intros; rfl

def Lok (st : Style) : PState → List Frame → Prop := fun s S => s.prefixLen = some st.stem.length ∧ s.stack = S

/- Reading the lines of a subtree whose root has depth `anc.length + 1`, from a stack that the walk to that depth
turns into `P :: rest`: afterwards the walk to the same depth gives `P` with the read subtrees attached.
After `hread` the arguments come in three groups, which the calls below keep a line each: `pl? S hpl hS`, then
`P rest hP hdup`, then `hnames hsd`.
`pl?` is the prefix length `str_to_tree` has fixed so far: `none` only before the first line below the root (`hpl`).
`S` is the stack of open frames the reader has reached, at least as deep as the parent (`hS`); `P` is the parent's
frame once the deeper ones are closed (`hP`), and none of the children it has so far bears a name still to come
(`hdup`). -/
mutual
theorem rtT {st : Style} (h : styleOk st = true) (ps : List Str) (c : Tree) (anc : List Bool) (hr : Bool)
    (hread : ∀ (anc : List Bool) (hr : Bool), ∀ n ∈ namesT c, nodeName ps ((anc.map st.glyph).flatten ++ st.fill hr ++ n) = n)
    (pl? : Option Nat) (S : List Frame)
    (hpl : pl? = some st.stem.length ∨ (pl? = none ∧ anc = []))
    (hS : anc.length + 1 ≤ S.length) (P : Frame) (rest : List Frame)
    (hP : popTo (anc.length + 1) S = P :: rest)
    (hdup : (P.kids.map Tree.name).contains c.name = false)
    (hnames : ∀ n ∈ namesT c, nameOk st n = true) (hsd : sibDistinct c = true) :
    ∃ S', strLoop ps ⟨pl?, S⟩ ((specT st anc hr c).map Line.text) =
        some ⟨some st.stem.length, S'⟩ ∧ anc.length + 2 ≤ S'.length ∧
      popTo (anc.length + 2) S' = ⟨c.name, erase.eraseL c.children⟩ :: P :: rest := by
  match c with
  | .node i n a cs =>
    have hn := hnames n (List.mem_cons_self ..)
    have lpos := (styleOk_lengths h).2.2.1
    -- the line of `n`: its name starts at column `(anc.length + 1) * stem.length`, so the walk goes to depth `anc.length + 1`
    have hstep : strStep ps ⟨pl?, S⟩ ((anc.map st.glyph).flatten ++ st.fill hr ++ n) =
        some ⟨some st.stem.length, ⟨n, []⟩ :: P :: rest⟩ := by
      refine strStep_ok (hread anc hr n (List.mem_cons_self ..)) (indexOf_line h anc hr hn) ?_ (Nat.mul_mod_left _ _) ?_
        ?_ hdup
      · rcases hpl with rfl | ⟨rfl, rfl⟩
        · exact Or.inl rfl
        · exact Or.inr ⟨rfl, Nat.one_mul _, Nat.ne_of_gt lpos⟩
      · rw [Nat.mul_div_cancel _ lpos,
          popWhile_eq _ (Nat.succ_pos _) S (fun e => by subst e; cases hS) _ (Nat.sub_le _ _), hP]
      · obtain ⟨c, tl, rfl, _⟩ := nameOk_parts hn
        rfl
    have hlen : (⟨n, []⟩ :: P :: rest : List Frame).length = (anc ++ [hr]).length + 1 := by
      rw [List.length_cons, ← hP, popTo_length (Nat.succ_pos _) hS, List.length_append, List.length_singleton]
    simp only [sibDistinct, Bool.and_eq_true, decide_eq_true_eq] at hsd
    obtain ⟨pl', S', e1, e2, e3, e4⟩ := rtL h ps cs (anc ++ [hr])
      (fun a b m hm => hread a b m (List.mem_cons_of_mem _ hm))
      (some st.stem.length) (⟨n, []⟩ :: P :: rest) (Or.inl rfl) (Nat.le_of_eq hlen.symm)
      ⟨n, []⟩ (P :: rest) (popTo_of_le (Nat.le_of_eq hlen)) hsd.1
      (fun m hm => hnames m (List.mem_cons_of_mem _ hm)) hsd.2
    rw [List.length_append, List.length_singleton] at e3 e4
    refine ⟨S', ?_, e3, e4⟩
    rw [specT, List.map_cons, strLoop, Line.text, hstep, Option.bind_some, e1]
    rcases e2 with rfl | rfl <;> rfl
theorem rtL {st : Style} (h : styleOk st = true) (ps : List Str) (cs : List Tree) (anc : List Bool)
    (hread : ∀ (anc : List Bool) (hr : Bool), ∀ n ∈ namesL cs, nodeName ps ((anc.map st.glyph).flatten ++ st.fill hr ++ n) = n)
    (pl? : Option Nat) (S : List Frame)
    (hpl : pl? = some st.stem.length ∨ (pl? = none ∧ anc = []))
    (hS : anc.length + 1 ≤ S.length) (P : Frame) (rest : List Frame)
    (hP : popTo (anc.length + 1) S = P :: rest)
    (hdup : (P.kids.map Tree.name ++ cs.map Tree.name).Nodup)
    (hnames : ∀ n ∈ namesL cs, nameOk st n = true) (hsd : sibDistinct.sibDistinctL cs = true) :
    ∃ pl' S', strLoop ps ⟨pl?, S⟩ ((specL st anc cs).map Line.text) = some ⟨pl', S'⟩ ∧
      (pl' = some st.stem.length ∨ pl' = pl?) ∧ anc.length + 1 ≤ S'.length ∧
      popTo (anc.length + 1) S' = ⟨P.name, P.kids ++ erase.eraseL cs⟩ :: rest := by
  match cs with
  | [] => exact ⟨pl?, S, rfl, Or.inr rfl, hS, by rw [hP, erase.eraseL, List.append_nil]⟩
  | c :: cs =>
    simp only [sibDistinct.sibDistinctL, Bool.and_eq_true] at hsd
    have hd1 : (P.kids.map Tree.name).contains c.name = false :=
      Bool.eq_false_iff.mpr fun hc =>
        (List.nodup_append.mp hdup).2.2 _ (List.contains_iff_mem.mp hc) _ (List.mem_cons_self ..) rfl
    obtain ⟨S1, e1, e2, e3⟩ := rtT h ps c anc (!cs.isEmpty)
      (fun a b m hm => hread a b m (List.mem_append_left _ hm))
      pl? S hpl hS
      P rest hP hd1
      (fun m hm => hnames m (List.mem_append_left _ hm)) hsd.1
    -- the walk back to this depth attaches the finished subtree to `P`
    have hP1 : popTo (anc.length + 1) S1 = (P.attach ⟨c.name, erase.eraseL c.children⟩) :: rest := by
      rw [← popTo_popTo (Nat.succ_pos _) (Nat.le_succ (anc.length + 1)), e3]
      exact popTo_cons_pop ((congrArg List.length hP).symm.trans (popTo_length (Nat.succ_pos _) hS))
    have hkids : (P.attach ⟨c.name, erase.eraseL c.children⟩).kids = P.kids ++ [erase c] := by
      rw [Frame.attach, close_erase]
    obtain ⟨pl2, S2, f1, f2, f3, f4⟩ := rtL h ps cs anc
      (fun a b m hm => hread a b m (List.mem_append_right _ hm))
      (some st.stem.length) S1 (Or.inl rfl) (Nat.le_of_succ_le e2)
      (P.attach ⟨c.name, erase.eraseL c.children⟩) rest hP1
      (by
        rw [hkids, List.map_append, List.map_singleton, erase_name, List.append_assoc]
        exact hdup)
      (fun m hm => hnames m (List.mem_append_right _ hm)) hsd.2
    refine ⟨pl2, S2, ?_, Or.inl (f2.elim id id), f3, ?_⟩
    · rw [specL, List.map_append, strLoop_append, e1]
      exact f1
    · rw [f4, hkids, List.append_assoc]
      rfl
end

theorem strToTree_spec {st : Style} (h : styleOk st = true) (ps : List Str) (t : Tree)
    (hread : ∀ (anc : List Bool) (hr : Bool), ∀ n ∈ namesT t, nodeName ps ((anc.map st.glyph).flatten ++ st.fill hr ++ n) = n)
    (hnames : ∀ n ∈ namesT t, nameOk st n = true) (hsd : sibDistinct t = true) :
    strToTreeLines ps ((specRoot st t).map Line.text) = some (erase t) := by
  match t with
  | .node i n a cs =>
    have hne : n.isEmpty = false := by
      obtain ⟨c0, tl, rfl, _⟩ := nameOk_parts (hnames n (List.mem_cons_self ..))
      rfl
    simp only [sibDistinct, Bool.and_eq_true, decide_eq_true_eq] at hsd
    obtain ⟨pl', S', e1, _, e3, e4⟩ := rtL h ps cs []
      (fun a b m hm => hread a b m (List.mem_cons_of_mem _ hm))
      none [⟨n, []⟩] (Or.inr ⟨rfl, rfl⟩) (Nat.le_refl _)
      ⟨n, []⟩ [] rfl hsd.1
      (fun m hm => hnames m (List.mem_cons_of_mem _ hm)) hsd.2
    have hS' : S' ≠ [] := fun e => by subst e; cases e3
    show (if n.isEmpty = true then none else
      (strLoop ps ⟨none, [⟨n, []⟩]⟩ ((specL st [] cs).map Line.text)).bind fun s => closeAll s.stack.length s.stack) = _
    rw [hne, if_neg Bool.false_ne_true, e1, Option.bind_some, closeAll_eq _ hS' _ (Nat.le_refl _), show popTo 1 S' = _ from e4]
    rfl

/-! ### the side conditions survive `max_depth` pruning -/

theorem cut_name (md d : Nat) (t : Tree) : (cut md d t).name = t.name := by
  cases t
  rfl

theorem cutL_names (md d : Nat) : ∀ cs : List Tree, (cutL md d cs).map Tree.name = cs.map Tree.name
  | [] => rfl
  | c :: cs => by rw [cutL, List.map_cons, List.map_cons, cut_name, cutL_names md d cs]

mutual
theorem cut_namesT (md d : Nat) (t : Tree) : ∀ n ∈ namesT (cut md d t), n ∈ namesT t := by
  match t with
  | .node i m a cs =>
    intro n hn
    rw [cut, namesT, List.mem_cons] at hn
    rw [namesT, List.mem_cons]
    refine hn.imp id fun hn => ?_
    by_cases he : (d == md) = true
    · rw [if_pos he] at hn
      cases hn
    · rw [if_neg he] at hn
      exact cutL_namesL md (d + 1) cs n hn
theorem cutL_namesL (md d : Nat) (cs : List Tree) : ∀ n ∈ namesL (cutL md d cs), n ∈ namesL cs := by
  match cs with
  | [] => intro n hn; cases hn
  | c :: cs =>
    intro n hn
    rw [cutL, namesL, List.mem_append] at hn
    rw [namesL, List.mem_append]
    exact hn.imp (cut_namesT md d c n) (cutL_namesL md d cs n)
end

mutual
theorem cut_sibDistinct (md d : Nat) (t : Tree) (h : sibDistinct t = true) : sibDistinct (cut md d t) = true := by
  match t with
  | .node i m a cs =>
    rw [sibDistinct, Bool.and_eq_true] at h
    rw [cut, sibDistinct, Bool.and_eq_true]
    by_cases he : (d == md) = true
    · rw [if_pos he]
      exact ⟨decide_eq_true List.nodup_nil, rfl⟩
    · rw [if_neg he, cutL_names]
      exact ⟨h.1, cutL_sibDistinct md (d + 1) cs h.2⟩
theorem cutL_sibDistinct (md d : Nat) (cs : List Tree) (h : sibDistinct.sibDistinctL cs = true) :
    sibDistinct.sibDistinctL (cutL md d cs) = true := by
  match cs with
  | [] => rfl
  | c :: cs =>
    rw [sibDistinct.sibDistinctL, Bool.and_eq_true] at h
    rw [cutL, sibDistinct.sibDistinctL, Bool.and_eq_true]
    exact ⟨cut_sibDistinct md d c h.1, cutL_sibDistinct md d cs h.2⟩
end

theorem prune_namesT (md : Nat) (t : Tree) : ∀ n ∈ namesT (prune md t), n ∈ namesT t := by
  unfold prune
  by_cases h : (md == 0) = true
  · rw [if_pos h]
    exact fun _ => id
  · rw [if_neg h]
    exact cut_namesT md 1 t

theorem prune_sibDistinct (md : Nat) (t : Tree) (h : sibDistinct t = true) : sibDistinct (prune md t) = true := by
  unfold prune
  by_cases h0 : (md == 0) = true
  · rw [if_pos h0]
    exact h
  · rw [if_neg h0]
    exact cut_sibDistinct md 1 t h

/-- print → parse round trip on the line level, for any prefix list under which `node_name` reads the names back -/
theorem strToTree_yieldTree {st : Style} (hst : styleOk st = true) (ps : List Str) (md : Nat) (t : Tree)
    (hread : ∀ (anc : List Bool) (hr : Bool), ∀ n ∈ namesT t, nodeName ps ((anc.map st.glyph).flatten ++ st.fill hr ++ n) = n)
    (hnames : ∀ n ∈ namesT t, nameOk st n = true) (hsib : sibDistinct t = true) :
    strToTreeLines ps ((yieldTree st md t).map Line.text) = some (erase (prune md t)) := by
  rw [yieldTree_eq_spec]
  exact strToTree_spec hst ps _ (fun anc hr n hn => hread anc hr n (prune_namesT md t n hn))
    (fun n hn => hnames n (prune_namesT md t n hn)) (prune_sibDistinct md t hsib)
end Render
