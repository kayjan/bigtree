import BigtreeModel.Query
/-! Addresses and the walks along `parent` (`ancestors`, `depth`, `root`, `node_path`).  Core Lean only. -/

namespace Query

/-! ### lists: an injective map keeps `Nodup` and positions -/

theorem nodup_map_on {α β : Type} {f : α → β} {l : List α} (hf : ∀ x ∈ l, ∀ y ∈ l, f x = f y → x = y)
    (h : l.Nodup) : (l.map f).Nodup :=
  List.pairwise_map.2 (List.Pairwise.imp_of_mem (fun hx hy hne e => hne (hf _ hx _ hy e)) h)

theorem idxOf_map_range {α : Type} [BEq α] [LawfulBEq α] {g : Nat → α} {n i : Nat}
    (hg : ∀ x ∈ List.range n, ∀ y ∈ List.range n, g x = g y → x = y) (hi : i < n) :
    ((List.range n).map g).idxOf (g i) = i := by
  have h := (nodup_map_on hg List.nodup_range).idxOf_getElem i (by simpa using hi)
  rwa [List.getElem_map, List.getElem_range] at h

/-! ### `parent` -/

@[simp] theorem parent_nil : parent [] = none := rfl

@[simp] theorem parent_snoc (p : Addr) (k : Nat) : parent (p ++ [k]) = some p := by
  cases p with
  | nil => rfl
  | cons x xs => exact congrArg some (List.dropLast_concat (l₁ := x :: xs) (b := k))

theorem parent_of_ne_nil {a : Addr} (h : a ≠ []) : parent a = some a.dropLast := by
  cases a with
  | nil => exact absurd rfl h
  | cons x xs => rfl

theorem snoc_cases (a : Addr) : a = [] ∨ ∃ p k, a = p ++ [k] := by
  rcases List.eq_nil_or_concat a with h | ⟨l, b, h⟩
  · exact Or.inl h
  · exact Or.inr ⟨l, b, h.trans List.concat_eq_append⟩

theorem parent_eq_some {a p : Addr} : parent a = some p ↔ ∃ k, a = p ++ [k] := by
  constructor
  · intro h
    rcases snoc_cases a with rfl | ⟨q, k, rfl⟩
    · cases h
    · rw [parent_snoc] at h
      cases h
      exact ⟨k, rfl⟩
  · rintro ⟨k, rfl⟩; exact parent_snoc p k

theorem parent_eq_none {a : Addr} : parent a = none ↔ a = [] := by
  cases a <;> simp [parent]

/-- Induction for a walk along `parent` with fuel. -/
theorem fuel_induction {P : Nat → Addr → Prop} (h0 : ∀ f, P f [])
    (hs : ∀ f p k, P f p → P (f + 1) (p ++ [k])) : ∀ f a, a.length ≤ f → P f a := by
  intro f
  induction f with
  | zero =>
    intro a h
    rw [List.eq_nil_of_length_eq_zero (Nat.le_zero.1 h)]
    exact h0 0
  | succ f ih =>
    intro a h
    rcases snoc_cases a with rfl | ⟨p, k, rfl⟩
    · exact h0 _
    · rw [List.length_append] at h
      exact hs f p k (ih p (Nat.le_of_succ_le_succ h))

theorem snoc_induction {P : Addr → Prop} (h0 : P []) (hs : ∀ p k, P p → P (p ++ [k])) : ∀ a, P a :=
  fun a => fuel_induction (P := fun _ a => P a) (fun _ => h0) (fun _ => hs) a.length a (Nat.le_refl _)

/-! ### the specifications along `p ++ [k]` -/

theorem ancestorsSpec_nil : ancestorsSpec [] = [] := rfl

theorem ancestorsSpec_snoc (p : Addr) (k : Nat) :
    ancestorsSpec (p ++ [k]) = p :: ancestorsSpec p := by
  unfold ancestorsSpec
  rw [List.length_append, List.length_singleton, List.range_succ, List.reverse_append,
    List.reverse_singleton, List.singleton_append, List.map_cons, List.take_left]
  congr 1
  apply List.map_congr_left
  intro j hj
  rw [List.mem_reverse, List.mem_range] at hj
  exact List.take_append_of_le_length (Nat.le_of_lt hj)

theorem nodePathSpec_nil : nodePathSpec [] = [[]] := rfl

theorem nodePathSpec_snoc (p : Addr) (k : Nat) :
    nodePathSpec (p ++ [k]) = nodePathSpec p ++ [p ++ [k]] := by
  unfold nodePathSpec
  rw [List.length_append, List.length_singleton, List.range_succ, List.map_append, List.map_singleton,
    List.take_of_length_le (by simp)]
  congr 1
  apply List.map_congr_left
  intro j hj
  rw [List.mem_range] at hj
  exact List.take_append_of_le_length (Nat.le_of_lt_succ hj)

theorem self_ancestors_reverse (a : Addr) : (a :: ancestorsSpec a).reverse = nodePathSpec a := by
  induction a using snoc_induction with
  | h0 => rfl
  | hs p k ih => rw [ancestorsSpec_snoc, nodePathSpec_snoc, List.reverse_cons, ih]

theorem length_ancestorsSpec (a : Addr) : (ancestorsSpec a).length = a.length := by
  simp [ancestorsSpec]

/-! ### the walks: the length of the address is fuel enough -/

theorem ancestors_eq_spec (a : Addr) : ancestors a = ancestorsSpec a :=
  fuel_induction (P := fun f a => ancLoop f (parent a) = ancestorsSpec a) (fun f => by cases f <;> rfl)
    (fun f p k ih => by rw [parent_snoc, ancLoop, ih, ancestorsSpec_snoc]) a.length a (Nat.le_refl _)

theorem depth_eq_length (a : Addr) : depth a = a.length + 1 :=
  fuel_induction (P := fun f a => depthF f a = a.length + 1) (fun f => by cases f <;> rfl)
    (fun f p k ih => by simp only [depthF, parent_snoc, ih, List.length_append, List.length_singleton])
    a.length a (Nat.le_refl _)

theorem root_eq_nil (a : Addr) : root a = [] :=
  fuel_induction (P := fun f a => rootF f a = []) (fun f => by cases f <;> rfl)
    (fun f p k ih => by simp only [rootF, parent_snoc, ih]) a.length a (Nat.le_refl _)

theorem nodePath_eq_spec (a : Addr) : nodePath a = nodePathSpec a :=
  fuel_induction (P := fun f a => nodePathF f a = nodePathSpec a) (fun f => by cases f <;> rfl)
    (fun f p k ih => by simp only [nodePathF, parent_snoc, ih, nodePathSpec_snoc]) a.length a (Nat.le_refl _)

end Query
