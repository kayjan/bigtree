import BigtreeModel.Query
import BigtreeModel.Iter
import BigtreeProofs.Lemmas.QueryAddr
import BigtreeProofs.Lemmas.QueryPre
/-! The located pre-order of `Query` (used by descendants / leaves / the search functions) is the
pre-order of `Iter` (property C04's model of `preorder_iter`) with no stop condition: same nodes,
same order, when the filter is a function of the node's identity. -/

namespace Query

mutual
theorem preAt_ids (R : Tree) (filt : Addr → Bool) (f : Nat → Bool) (md : Nat)
    (hf : ∀ (b : Addr) (s : Tree), sub R b = some s → filt b = f s.id) :
    ∀ (t : Tree) (a : Addr), sub R a = some t →
      (preAt filt md a t).map (idAt R) =
        (Iter.preImpl ⟨f, fun _ => false, md⟩ (a.length + 1) t).map fun s => some s.id
  | .node i n at' cs, a, ha => by
    have hadm : Iter.Cfg.admit ⟨f, fun _ => false, md⟩ (a.length + 1) (.node i n at' cs) = within md a := by
      rw [← gate_eq_within, depth_eq_length]; exact Bool.and_true _
    have hemit : Iter.emit ⟨f, fun _ => false, md⟩ (.node i n at' cs) =
        if f i then [.node i n at' cs] else [] := rfl
    rw [preAt, Iter.preImpl, gate_eq_within, hadm]
    cases within md a with
    | false => rfl
    | true =>
      rw [if_pos rfl, if_pos rfl, List.map_append, List.map_append,
        preAtL_ids R filt f md hf cs a 0 (fun j c hj => by rw [sub_snoc, ha, Nat.zero_add]; exact hj),
        hf a _ ha, hemit, Tree.id_node]
      cases f i
      · rfl
      · rw [if_pos rfl, if_pos rfl, List.map_singleton, List.map_singleton, idAt, ha]; rfl
theorem preAtL_ids (R : Tree) (filt : Addr → Bool) (f : Nat → Bool) (md : Nat)
    (hf : ∀ (b : Addr) (s : Tree), sub R b = some s → filt b = f s.id) :
    ∀ (cs : List Tree) (a : Addr) (k : Nat), (∀ j c, cs[j]? = some c → sub R (a ++ [k + j]) = some c) →
      (preAtL filt md a k cs).map (idAt R) =
        (Iter.preImplL ⟨f, fun _ => false, md⟩ (a.length + 2) cs).map fun s => some s.id
  | [], _, _, _ => rfl
  | c :: cs, a, k, hk => by
    rw [preAtL, Iter.preImplL, List.map_append, List.map_append,
      preAt_ids R filt f md hf c (a ++ [k]) (hk 0 c rfl),
      preAtL_ids R filt f md hf cs a (k + 1) (fun j c' hj => by
        rw [Nat.add_right_comm, Nat.add_assoc]; exact hk (j + 1) c' hj),
      List.length_append, List.length_singleton]
end

end Query
