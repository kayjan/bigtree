import BigtreeModel.Iter
/-! Helper lemmas for C04 (traversals). Core Lean only.

The gated forest `gateL c d ts` is the image of the admitted roots under `gate` (`gateL_eq`), so one pass of
the level loop yields its roots and leaves the candidates `nextLevel c d ts`, whose gated forest consists of
its children (`children_gateL`). The grouped level order is treated first; the flat one is its `flatten`, and
zigzag is level order with every second group reversed (`zigGroup_ids`). -/

namespace Iter

/-! ### gate and gateL -/

/-- the trees of `ts` that a traversal at depth `d` enters: within `max_depth` and not cut by `stop_condition` -/
def admitted (c : Cfg) (d : Nat) (ts : List Tree) : List Tree := ts.filter (c.admit d)

/-- candidates for the next level: the children of the admitted trees -/
def nextLevel (c : Cfg) (d : Nat) (ts : List Tree) : List Tree :=
  (ts.filter (c.admit d)).flatMap Tree.children

theorem admit_id (c : Cfg) (d : Nat) (i n a cs) :
    c.admit d (.node i n a cs) = ((c.maxDepth == 0 || !(decide (d > c.maxDepth))) && !(c.stop i)) := rfl

/-- the gate only reads the identity -/
theorem admit_gate (c : Cfg) (d d' : Nat) (t : Tree) : c.admit d (gate c d' t) = c.admit d t := by
  cases t; rfl

theorem id_gate (c : Cfg) (d : Nat) (t : Tree) : (gate c d t).id = t.id := by
  cases t; rfl

theorem children_gate (c : Cfg) (d : Nat) (t : Tree) :
    (gate c d t).children = gateL c (d + 1) t.children := by
  cases t; rfl

mutual
theorem gate_congr {c c' : Cfg} (h : ∀ d t, c'.admit d t = c.admit d t) :
    ∀ (d : Nat) (t : Tree), gate c' d t = gate c d t
  | d, .node i n a cs => by rw [gate, gate, gateL_congr h (d + 1) cs]
theorem gateL_congr {c c' : Cfg} (h : ∀ d t, c'.admit d t = c.admit d t) :
    ∀ (d : Nat) (ts : List Tree), gateL c' d ts = gateL c d ts
  | _, [] => rfl
  | d, t :: ts => by rw [gateL, gateL, h, gate_congr h d t, gateL_congr h d ts]
end

theorem gateL_eq (c : Cfg) (d : Nat) (ts : List Tree) :
    gateL c d ts = (admitted c d ts).map (gate c d) := by
  induction ts with
  | nil => rfl
  | cons t ts ih =>
    unfold admitted at ih ⊢
    cases h : c.admit d t <;> simp only [gateL, List.filter_cons, h, ih] <;> rfl

theorem gateL_append (c : Cfg) (d : Nat) (a b : List Tree) :
    gateL c d (a ++ b) = gateL c d a ++ gateL c d b := by
  simp only [gateL_eq, admitted, List.filter_append, List.map_append]

theorem gateL_single (c : Cfg) (d : Nat) (t : Tree) :
    gateL c d [t] = if c.admit d t then [gate c d t] else [] := by
  cases h : c.admit d t <;> simp only [gateL, h] <;> rfl

theorem gateL_ids (c : Cfg) (d : Nat) (ts : List Tree) :
    (gateL c d ts).map Tree.id = (admitted c d ts).map Tree.id := by
  rw [gateL_eq, List.map_map]
  exact List.map_congr_left fun t _ => id_gate c d t

theorem children_gateL (c : Cfg) (d : Nat) (ts : List Tree) :
    (gateL c d ts).flatMap Tree.children = gateL c (d + 1) (nextLevel c d ts) := by
  rw [gateL_eq, gateL_eq, List.flatMap_map]
  simp only [children_gate, gateL_eq, nextLevel, admitted, List.filter_flatMap, List.map_flatMap]

/-- `h` is the failed continuation test of the grouped loops (no candidates, or they lie beyond `max_depth`):
    then nothing of `ts` is admitted -/
theorem admitted_of_not_continue (c : Cfg) (d : Nat) (ts : List Tree)
    (h : (!ts.isEmpty && (c.maxDepth == 0 || !(decide (d > c.maxDepth)))) = false) :
    admitted c d ts = [] := by
  cases ts with
  | nil => rfl
  | cons t ts =>
    apply List.filter_eq_nil_iff.2
    intro x _
    rw [Bool.not_eq_true, Cfg.admit, show (c.maxDepth == 0 || !(decide (d > c.maxDepth))) = false from h]
    rfl

theorem nextLevel_of_gateL_nil {c : Cfg} {d : Nat} {ts : List Tree} (h : gateL c d ts = []) :
    nextLevel c d ts = [] := by
  rw [gateL_eq, List.map_eq_nil_iff] at h
  unfold admitted at h
  rw [nextLevel, h]; rfl

/-! ### pre- and post-order -/

theorem preL_eq_flatMap (ts : List Tree) : preL ts = ts.flatMap pre := by
  induction ts with
  | nil => rfl
  | cons t ts ih => rw [preL, ih]; rfl

theorem postL_eq_flatMap (ts : List Tree) : postL ts = ts.flatMap post := by
  induction ts with
  | nil => rfl
  | cons t ts ih => rw [postL, ih]; rfl

theorem preL_append (a b : List Tree) : preL (a ++ b) = preL a ++ preL b := by
  simp only [preL_eq_flatMap, List.flatMap_append]

theorem postL_append (a b : List Tree) : postL (a ++ b) = postL a ++ postL b := by
  simp only [postL_eq_flatMap, List.flatMap_append]

theorem preImplL_append (c : Cfg) (d : Nat) (a b : List Tree) :
    preImplL c d (a ++ b) = preImplL c d a ++ preImplL c d b := by
  induction a with
  | nil => rfl
  | cons t ts ih => simp only [List.cons_append, preImplL, ih, List.append_assoc]

theorem emit_ids (c : Cfg) (t : Tree) : (emit c t).map Tree.id = [t.id].filter c.filt := by
  unfold emit; cases h : c.filt t.id <;> simp [h]

mutual
theorem preImpl_ids (c : Cfg) : ∀ (d : Nat) (t : Tree), c.admit d t = true →
    (preImpl c d t).map Tree.id = (pre (gate c d t)).filter c.filt
  | d, .node i n a cs, h => by
    rw [preImpl, if_pos h, List.map_append, emit_ids, preImplL_ids c (d + 1) cs]
    exact (List.filter_append (p := c.filt) [i] _).symm
theorem preImplL_ids (c : Cfg) : ∀ (d : Nat) (ts : List Tree),
    (preImplL c d ts).map Tree.id = (preL (gateL c d ts)).filter c.filt
  | _, [] => rfl
  | d, t :: ts => by
    rw [preImplL, List.map_append, preImplL_ids c d ts, gateL]
    cases h : c.admit d t
    · cases t; rw [preImpl, h]; rfl
    · rw [preImpl_ids c d t h, if_pos rfl, preL, List.filter_append]
end

mutual
theorem postImpl_ids (c : Cfg) : ∀ (d : Nat) (t : Tree), c.admit d t = true →
    (postImpl c d t).map Tree.id = (post (gate c d t)).filter c.filt
  | d, .node i n a cs, h => by
    rw [postImpl, if_pos h, List.map_append, emit_ids, postImplL_ids c (d + 1) cs]
    exact (List.filter_append (p := c.filt) _ [i]).symm
theorem postImplL_ids (c : Cfg) : ∀ (d : Nat) (ts : List Tree),
    (postImplL c d ts).map Tree.id = (postL (gateL c d ts)).filter c.filt
  | _, [] => rfl
  | d, t :: ts => by
    rw [postImplL, List.map_append, postImplL_ids c d ts, gateL]
    cases h : c.admit d t
    · cases t; rw [postImpl, h]; rfl
    · rw [postImpl_ids c d t h, if_pos rfl, postL, List.filter_append]
end

/-! ### one pass of the level loop -/

/-- closed form of the loop body of `_levelorder_iter` -/
theorem levelStep_eq (c : Cfg) (d : Nat) (ts : List Tree) :
    levelStep c d ts = ((admitted c d ts).flatMap (emit c), nextLevel c d ts) := by
  unfold admitted nextLevel
  induction ts with
  | nil => rfl
  | cons t ts ih =>
    cases h : c.admit d t <;> simp only [levelStep, ih, h, List.filter_cons] <;> rfl

theorem zigStep_eq (c : Cfg) (d : Nat) (rev : Bool) (ts : List Tree) :
    zigStep c d rev ts =
      ((admitted c d ts).flatMap (emit c),
       (admitted c d ts).flatMap fun t => if rev then t.children.reverse else t.children) := by
  unfold admitted
  induction ts with
  | nil => rfl
  | cons t ts ih =>
    cases h : c.admit d t <;> simp only [zigStep, ih, h, List.filter_cons] <;> rfl

theorem zigStep_false (c : Cfg) (d : Nat) (L : List Tree) :
    zigStep c d false L = ((admitted c d L).flatMap (emit c), nextLevel c d L) :=
  zigStep_eq c d false L

/-- with the flag set the loop sees the level right to left and leaves the next one right to left -/
theorem zigStep_true (c : Cfg) (d : Nat) (L : List Tree) :
    zigStep c d true L.reverse = (((admitted c d L).flatMap (emit c)).reverse, (nextLevel c d L).reverse) := by
  have he : List.reverse ∘ emit c = emit c := by
    funext t; show (emit c t).reverse = emit c t; unfold emit; split <;> rfl
  rw [zigStep_eq, admitted, List.filter_reverse, List.flatMap_reverse, he]
  exact congrArg (Prod.mk _) List.reverse_flatMap.symm

theorem flatMap_emit_ids (c : Cfg) (ts : List Tree) :
    (ts.flatMap (emit c)).map Tree.id = (ts.map Tree.id).filter c.filt := by
  induction ts with
  | nil => rfl
  | cons t ts ih =>
    rw [List.flatMap_cons, List.map_append, ih, emit_ids]
    exact (List.filter_append (p := c.filt) [t.id] _).symm

theorem levelImpl_succ (c : Cfg) (f d : Nat) (ts : List Tree) :
    levelImpl c (f + 1) d ts = (admitted c d ts).flatMap (emit c) ++
      (if (nextLevel c d ts).isEmpty then [] else levelImpl c f (d + 1) (nextLevel c d ts)) := by
  rw [levelImpl, levelStep_eq]

theorem levelGroupImpl_succ (c : Cfg) (f d : Nat) (ts : List Tree) :
    levelGroupImpl c (f + 1) d ts = (admitted c d ts).flatMap (emit c) ::
      (if !(nextLevel c d ts).isEmpty && (c.maxDepth == 0 || !(decide (d + 1 > c.maxDepth)))
       then levelGroupImpl c f (d + 1) (nextLevel c d ts) else []) := by
  rw [levelGroupImpl, levelStep_eq]

/-! ### layers -/

theorem layerL_append (k : Nat) (a b : List Tree) :
    layer.layerL k (a ++ b) = layer.layerL k a ++ layer.layerL k b := by
  induction a with
  | nil => rfl
  | cons t ts ih => simp only [List.cons_append, layer.layerL, ih, List.append_assoc]

theorem layerL_nil (k : Nat) : layer.layerL k [] = [] := rfl

theorem layerL_zero (ts : List Tree) : layer.layerL 0 ts = ts.map Tree.id := by
  induction ts with
  | nil => rfl
  | cons t ts ih => cases t; rw [layer.layerL, ih]; rfl

theorem layerL_succ (k : Nat) (ts : List Tree) :
    layer.layerL (k + 1) ts = layer.layerL k (ts.flatMap Tree.children) := by
  induction ts with
  | nil => rfl
  | cons t ts ih => cases t; rw [layer.layerL, ih, List.flatMap_cons, layerL_append]; rfl

theorem layerL_succ_gateL (c : Cfg) (d k : Nat) (ts : List Tree) :
    layer.layerL (k + 1) (gateL c d ts) = layer.layerL k (gateL c (d + 1) (nextLevel c d ts)) := by
  rw [layerL_succ, children_gateL]

/-- the first `f` layers of a forest -/
def layersUpTo (f : Nat) (ts : List Tree) : List (List Nat) :=
  (List.range f).map fun k => layer.layerL k ts

theorem layersUpTo_succ (f : Nat) (ts : List Tree) :
    layersUpTo (f + 1) ts = ts.map Tree.id :: layersUpTo f (ts.flatMap Tree.children) := by
  simp only [layersUpTo, List.range_succ_eq_map, List.map_cons, List.map_map, layerL_zero]
  congr 1
  exact List.map_congr_left fun k _ => layerL_succ k ts

/-! ### heights and empty layers -/

theorem heightL_append (a b : List Tree) :
    height.heightL (a ++ b) = max (height.heightL a) (height.heightL b) := by
  induction a with
  | nil => exact (Nat.zero_max _).symm
  | cons x xs ih => simp only [List.cons_append, height.heightL, ih, Nat.max_assoc]

theorem heightL_children (ts : List Tree) :
    height.heightL (ts.flatMap Tree.children) = height.heightL ts - 1 := by
  induction ts with
  | nil => rfl
  | cons t ts ih =>
    cases t with
    | node i n a cs =>
      rw [List.flatMap_cons, heightL_append, ih, height.heightL, height, Tree.children_node,
        ← Nat.sub_max_sub_right, Nat.add_sub_cancel_left]

theorem heightL_eq_zero {ts : List Tree} (h : height.heightL ts = 0) : ts = [] := by
  cases ts with
  | nil => rfl
  | cons t ts =>
    cases t
    rw [height.heightL, height, Nat.max_eq_zero_iff, Nat.add_comm] at h
    exact absurd h.1 (Nat.succ_ne_zero _)

theorem heightL_singleton (t : Tree) : height.heightL [t] = height t := Nat.max_zero _

theorem heightL_filter_le (p : Tree → Bool) (ts : List Tree) :
    height.heightL (ts.filter p) ≤ height.heightL ts := by
  induction ts with
  | nil => exact Nat.le_refl _
  | cons t ts ih =>
    rw [List.filter_cons]
    split
    · exact Nat.max_le.2 ⟨Nat.le_max_left _ _, Nat.le_trans ih (Nat.le_max_right _ _)⟩
    · exact Nat.le_trans ih (Nat.le_max_right _ _)

theorem heightL_nextLevel_le (c : Cfg) (d : Nat) (ts : List Tree) :
    height.heightL (nextLevel c d ts) ≤ height.heightL ts - 1 := by
  rw [nextLevel, heightL_children]
  exact Nat.sub_le_sub_right (heightL_filter_le _ ts) 1

theorem layerL_of_height_le (k : Nat) (ts : List Tree) (h : height.heightL ts ≤ k) :
    layer.layerL k ts = [] := by
  induction k generalizing ts with
  | zero => rw [heightL_eq_zero (Nat.le_zero.1 h)]; rfl
  | succ k ih =>
    rw [layerL_succ]
    apply ih
    rw [heightL_children]; exact Nat.sub_le_of_le_add h

mutual
theorem height_gate_le (c : Cfg) : ∀ (d : Nat) (t : Tree), height (gate c d t) ≤ height t
  | d, .node _ _ _ cs => Nat.add_le_add_left (heightL_gateL_le c (d + 1) cs) 1
theorem heightL_gateL_le (c : Cfg) : ∀ (d : Nat) (ts : List Tree),
    height.heightL (gateL c d ts) ≤ height.heightL ts
  | _, [] => Nat.le_refl _
  | d, t :: ts => by
    unfold gateL
    split
    · exact Nat.max_le.2 ⟨Nat.le_trans (height_gate_le c d t) (Nat.le_max_left _ _),
        Nat.le_trans (heightL_gateL_le c d ts) (Nat.le_max_right _ _)⟩
    · exact Nat.le_trans (heightL_gateL_le c d ts) (Nat.le_max_right _ _)
end

theorem layersUpTo_ge (f : Nat) (ts : List Tree) (h : height.heightL ts ≤ f) :
    layersUpTo f ts = layersL ts ++ List.replicate (f - height.heightL ts) [] := by
  obtain ⟨b, rfl⟩ := Nat.exists_eq_add_of_le h
  rw [Nat.add_sub_cancel_left, layersUpTo, List.range_add, List.map_append, List.map_map]
  congr 1
  refine List.eq_replicate_iff.2 ⟨by rw [List.length_map, List.length_range], fun l hl => ?_⟩
  obtain ⟨k, _, rfl⟩ := List.mem_map.1 hl
  exact layerL_of_height_le _ ts (Nat.le_add_right _ k)

theorem flatten_replicate_nil {α} (n : Nat) : (List.replicate n ([] : List α)).flatten = [] :=
  List.flatten_replicate_nil

/-! ### level order: the groups are the filtered layers of the gated forest -/

theorem levelGroup_layers (c : Cfg) (f d : Nat) (ts : List Tree) :
    (levelGroupImpl c f d ts).map (·.map Tree.id)
      = (layersUpTo (levelGroupImpl c f d ts).length (gateL c d ts)).map (·.filter c.filt) := by
  induction f generalizing d ts with
  | zero => rfl
  | succ f ih =>
    simp only [levelGroupImpl_succ, List.map_cons, List.length_cons, layersUpTo_succ, children_gateL,
      flatMap_emit_ids, gateL_ids]
    congr 1
    split
    · exact ih (d + 1) _
    · rfl

/-- number of groups: one per kept layer, plus at most one trailing (empty) group -/
theorem levelGroup_length (c : Cfg) (f d : Nat) (ts : List Tree) (hf : height.heightL ts ≤ f) :
    height.heightL (gateL c d ts) ≤ (levelGroupImpl c f d ts).length ∧
    (levelGroupImpl c f d ts).length ≤ height.heightL (gateL c d ts) + 1 := by
  induction f generalizing d ts with
  | zero => rw [heightL_eq_zero (Nat.le_zero.1 hf)]; exact ⟨Nat.le_refl 0, Nat.zero_le 1⟩
  | succ f ih =>
    have hH : height.heightL (gateL c (d + 1) (nextLevel c d ts)) = height.heightL (gateL c d ts) - 1 := by
      rw [← children_gateL, heightL_children]
    have hnx := heightL_nextLevel_le c d ts
    rw [levelGroupImpl_succ, List.length_cons]
    split
    · next hc =>
      -- the loop goes on, so the next level, and with it the gated forest, is not empty
      have hpos : height.heightL (gateL c d ts) ≠ 0 := fun e => by
        rw [nextLevel_of_gateL_nil (heightL_eq_zero e)] at hc
        exact Bool.false_ne_true hc
      have := ih (d + 1) (nextLevel c d ts) (Nat.le_trans hnx (Nat.sub_le_of_le_add hf))
      rw [hH] at this
      exact ⟨Nat.sub_le_iff_le_add.1 this.1,
        Nat.succ_le_succ (Nat.sub_add_cancel (Nat.pos_of_ne_zero hpos) ▸ this.2)⟩
    · next hc =>
      -- the loop stops: nothing of the next level is admitted
      rw [gateL_eq, admitted_of_not_continue c (d + 1) _ (Bool.not_eq_true _ ▸ hc)] at hH
      exact ⟨Nat.sub_eq_zero_iff_le.1 hH.symm, Nat.succ_le_succ (Nat.zero_le _)⟩

theorem levelImpl_of_admitted_nil (c : Cfg) (f d : Nat) {ts : List Tree} (h : admitted c d ts = []) :
    levelImpl c f d ts = [] := by
  cases f with
  | zero => rfl
  | succ f => rw [levelImpl_succ, nextLevel, show ts.filter (c.admit d) = [] from h, h]; rfl

theorem levelGroup_flatten (c : Cfg) (f d : Nat) (ts : List Tree) :
    (levelGroupImpl c f d ts).flatten = levelImpl c f d ts := by
  induction f generalizing d ts with
  | zero => rfl
  | succ f ih =>
    rw [levelGroupImpl_succ, levelImpl_succ, List.flatten_cons]
    congr 1
    cases hc : (!(nextLevel c d ts).isEmpty && (c.maxDepth == 0 || !(decide (d + 1 > c.maxDepth))))
    · rw [levelImpl_of_admitted_nil c f (d + 1) (admitted_of_not_continue c (d + 1) _ hc), ite_self]; rfl
    · rw [if_pos rfl, ih, if_neg]
      intro he; rw [he] at hc; exact Bool.false_ne_true hc

theorem levelImpl_ids (c : Cfg) (f d : Nat) (ts : List Tree) (hf : height.heightL ts ≤ f) :
    (levelImpl c f d ts).map Tree.id = ((layersL (gateL c d ts)).flatten).filter c.filt := by
  -- the groups beyond the height of the gated forest are empty
  rw [← levelGroup_flatten, List.map_flatten, levelGroup_layers, ← List.filter_flatten,
    layersUpTo_ge _ _ (levelGroup_length c f d ts hf).1, List.flatten_append, List.flatten_replicate_nil,
    List.append_nil]

/-! ### zigzag: level order with every second group reversed -/

theorem alternate_append (rev : Bool) (xs ys : List (List Nat)) :
    alternate rev (xs ++ ys) = alternate rev xs ++ alternate (if xs.length % 2 = 0 then rev else !rev) ys := by
  induction xs generalizing rev with
  | nil => rfl
  | cons x xs ih =>
    rw [List.cons_append, alternate, ih, List.length_cons, alternate, List.cons_append]
    congr 2
    rcases Nat.mod_two_eq_zero_or_one xs.length with h | h
    · rw [if_pos h, if_neg (by rw [Nat.add_mod, h]; exact Nat.one_ne_zero)]
    · rw [if_neg (by rw [h]; exact Nat.one_ne_zero), if_pos (by rw [Nat.add_mod, h]), Bool.not_not]

theorem alternate_replicate_nil (rev : Bool) (n : Nat) :
    (alternate rev (List.replicate n [])).flatten = [] := by
  induction n generalizing rev with
  | zero => rfl
  | succ n ih => rw [List.replicate_succ, alternate, List.flatten_cons, ih]; cases rev <;> rfl

theorem alternate_length (rev : Bool) (ls : List (List Nat)) : (alternate rev ls).length = ls.length := by
  induction ls generalizing rev with
  | nil => rfl
  | cons l ls ih => rw [alternate, List.length_cons, ih, List.length_cons]

theorem filter_reverse' {α} (p : α → Bool) (l : List α) : (l.filter p).reverse = l.reverse.filter p :=
  List.filter_reverse.symm

theorem alternate_map_filter (p : Nat → Bool) (rev : Bool) (ls : List (List Nat)) :
    alternate rev (ls.map (·.filter p)) = (alternate rev ls).map (·.filter p) := by
  induction ls generalizing rev with
  | nil => rfl
  | cons l ls ih =>
    rw [List.map_cons, alternate, ih, alternate, List.map_cons]
    cases rev
    · rfl
    · rw [if_pos rfl, if_pos rfl, List.filter_reverse]

theorem zigGroup_ids (c : Cfg) (f d : Nat) (rev : Bool) (L : List Tree) :
    (zigGroupImpl c f d rev (if rev then L.reverse else L)).map (·.map Tree.id)
      = alternate rev ((levelGroupImpl c f d L).map (·.map Tree.id)) := by
  induction f generalizing d rev L with
  | zero => rfl
  | succ f ih =>
    rw [levelGroupImpl_succ, List.map_cons, alternate]
    cases rev with
    | false =>
      rw [if_neg Bool.false_ne_true, if_neg Bool.false_ne_true, zigGroupImpl, zigStep_false, List.map_cons]
      congr 1
      split
      · exact ih (d + 1) true (nextLevel c d L)
      · rfl
    | true =>
      rw [if_pos rfl, if_pos rfl, zigGroupImpl, zigStep_true, List.map_cons, List.map_reverse,
        List.isEmpty_reverse, List.reverse_reverse]
      congr 1
      split
      · exact ih (d + 1) false (nextLevel c d L)
      · rfl

theorem zigGroup_length (c : Cfg) (f d : Nat) (rev : Bool) (L : List Tree) :
    (zigGroupImpl c f d rev (if rev then L.reverse else L)).length = (levelGroupImpl c f d L).length := by
  have := congrArg List.length (zigGroup_ids c f d rev L)
  rwa [List.length_map, alternate_length, List.length_map] at this

theorem zigImpl_of_admitted_nil (c : Cfg) (f d : Nat) (rev : Bool) {ts : List Tree}
    (h : admitted c d ts = []) : zigImpl c f d rev ts = [] := by
  cases f with
  | zero => rfl
  | succ f => rw [zigImpl, zigStep_eq, h]; rfl

theorem zigGroup_flatten (c : Cfg) (f d : Nat) (rev : Bool) (ts : List Tree) :
    (zigGroupImpl c f d rev ts).flatten = zigImpl c f d rev ts := by
  induction f generalizing d rev ts with
  | zero => rfl
  | succ f ih =>
    rw [zigGroupImpl, zigImpl, List.flatten_cons]
    congr 1
    cases hc : (!(zigStep c d rev ts).2.isEmpty && (c.maxDepth == 0 || !(decide (d + 1 > c.maxDepth))))
    · rw [zigImpl_of_admitted_nil c f (d + 1) _
        (admitted_of_not_continue c (d + 1) _ (by rw [List.isEmpty_reverse]; exact hc)), ite_self]; rfl
    · rw [if_pos rfl, ih, if_neg]
      intro he; rw [he] at hc; exact Bool.false_ne_true hc

theorem zigImpl_ids (c : Cfg) (f d : Nat) (rev : Bool) (L : List Tree) (hf : height.heightL L ≤ f) :
    (zigImpl c f d rev (if rev then L.reverse else L)).map Tree.id
      = ((alternate rev (layersL (gateL c d L))).flatten).filter c.filt := by
  rw [← zigGroup_flatten, List.map_flatten, zigGroup_ids, levelGroup_layers, alternate_map_filter,
    ← List.filter_flatten, layersUpTo_ge _ _ (levelGroup_length c f d L hf).1, alternate_append,
    List.flatten_append, alternate_replicate_nil, List.append_nil]

/-! ### each node once: permutations and Nodup -/

mutual
theorem post_perm_pre : ∀ t : Tree, (post t).Perm (pre t)
  | .node i _ _ cs => List.perm_append_comm.trans ((postL_perm_preL cs).cons i)
theorem postL_perm_preL : ∀ ts : List Tree, (postL ts).Perm (preL ts)
  | [] => .nil
  | t :: ts => (post_perm_pre t).append (postL_perm_preL ts)
end

theorem preL_perm_split (ts : List Tree) :
    (preL ts).Perm (ts.map Tree.id ++ preL (ts.flatMap Tree.children)) := by
  induction ts with
  | nil => exact .nil
  | cons t ts ih =>
    cases t with
    | node i n a cs =>
      simp only [preL, pre, List.map_cons, Tree.id_node, List.flatMap_cons, Tree.children_node, preL_append,
        List.cons_append]
      -- preL cs ++ preL ts ~ ids ts ++ (preL cs ++ preL rest)
      refine List.Perm.cons i ((List.Perm.append_left _ ih).trans ?_)
      rw [← List.append_assoc, ← List.append_assoc]
      exact List.Perm.append_right _ List.perm_append_comm

theorem layersUpTo_perm_preL (f : Nat) (ts : List Tree) (h : height.heightL ts ≤ f) :
    ((layersUpTo f ts).flatten).Perm (preL ts) := by
  induction f generalizing ts with
  | zero => rw [heightL_eq_zero (Nat.le_zero.1 h)]; exact .nil
  | succ f ih =>
    rw [layersUpTo_succ, List.flatten_cons]
    have := ih (ts.flatMap Tree.children) (by rw [heightL_children]; exact Nat.sub_le_of_le_add h)
    exact (List.Perm.append_left _ this).trans (preL_perm_split ts).symm

theorem layers_perm_preL (ts : List Tree) : ((layersL ts).flatten).Perm (preL ts) :=
  layersUpTo_perm_preL (height.heightL ts) ts (Nat.le_refl _)

theorem alternate_flatten_perm (rev : Bool) (ls : List (List Nat)) :
    ((alternate rev ls).flatten).Perm ls.flatten := by
  induction ls generalizing rev with
  | nil => exact .nil
  | cons l ls ih =>
    rw [alternate, List.flatten_cons, List.flatten_cons]
    refine List.Perm.append ?_ (ih _)
    cases rev
    · exact .refl l
    · exact List.reverse_perm l

mutual
theorem pre_gate_sublist (c : Cfg) : ∀ (d : Nat) (t : Tree), (pre (gate c d t)).Sublist (pre t)
  | d, .node i _ _ cs => (preL_gateL_sublist c (d + 1) cs).cons_cons i
theorem preL_gateL_sublist (c : Cfg) : ∀ (d : Nat) (ts : List Tree),
    (preL (gateL c d ts)).Sublist (preL ts)
  | _, [] => .slnil
  | d, t :: ts => by
    unfold gateL
    split
    · exact (pre_gate_sublist c d t).append (preL_gateL_sublist c d ts)
    · exact (preL_gateL_sublist c d ts).trans (List.sublist_append_right _ _)
end

/-! ### which nodes are kept -/

/-- `Kept c d ts i`: node `i` lies in the forest `ts` (whose roots are at depth `d`) and it and all
    its ancestors inside the forest pass the gate. -/
inductive Kept (c : Cfg) : Nat → List Tree → Nat → Prop
  | root {d ts t} : t ∈ ts → c.admit d t = true → Kept c d ts t.id
  | under {d ts t i} : t ∈ ts → c.admit d t = true → Kept c (d + 1) t.children i → Kept c d ts i

theorem Kept_iff {c : Cfg} {d : Nat} {ts : List Tree} {i : Nat} :
    Kept c d ts i ↔ ∃ t ∈ ts, c.admit d t = true ∧ (i = t.id ∨ Kept c (d + 1) t.children i) := by
  constructor
  · intro h
    cases h with
    | root hm ha => exact ⟨_, hm, ha, Or.inl rfl⟩
    | under hm ha hk => exact ⟨_, hm, ha, Or.inr hk⟩
  · rintro ⟨t, hm, ha, rfl | hk⟩
    · exact .root hm ha
    · exact .under hm ha hk

theorem Kept_cons {c : Cfg} {d : Nat} {t : Tree} {ts : List Tree} {i : Nat} :
    Kept c d (t :: ts) i ↔ Kept c d [t] i ∨ Kept c d ts i := by
  simp only [Kept_iff (ts := t :: ts), Kept_iff (ts := [t]), Kept_iff (ts := ts), List.mem_cons,
    List.not_mem_nil, or_false, exists_eq_or_imp, exists_eq_left]

theorem Kept_single {c : Cfg} {d : Nat} {t : Tree} {i : Nat} :
    Kept c d [t] i ↔ c.admit d t = true ∧ (i = t.id ∨ Kept c (d + 1) t.children i) := by
  rw [Kept_iff]; simp only [List.mem_singleton, exists_eq_left]

mutual
theorem mem_pre_gate (c : Cfg) : ∀ (d : Nat) (t : Tree) (i : Nat), c.admit d t = true →
    (i ∈ pre (gate c d t) ↔ Kept c d [t] i)
  | d, .node j n a cs, i, hadm => by
    rw [Kept_single, gate, pre, List.mem_cons, mem_preL_gateL c (d + 1) cs i]
    exact ⟨fun h => ⟨hadm, h⟩, fun h => h.2⟩
theorem mem_preL_gateL (c : Cfg) : ∀ (d : Nat) (ts : List Tree) (i : Nat),
    (i ∈ preL (gateL c d ts) ↔ Kept c d ts i)
  | d, [], i => by rw [Kept_iff]; simp [gateL, preL]
  | d, t :: ts, i => by
    rw [Kept_cons, ← mem_preL_gateL c d ts i, gateL]
    cases hadm : c.admit d t
    · rw [Kept_single, hadm, if_neg Bool.false_ne_true]
      exact (or_iff_right fun h => Bool.false_ne_true h.1).symm
    · rw [if_pos rfl, preL, List.mem_append, mem_pre_gate c d t i hadm]
end

/-! ### in-order on binary trees -/

/-- cut a binary tree at `max_depth` -/
def bgate (maxDepth : Nat) (d : Nat) : BTree → BTree
  | .nil => .nil
  | .node i n a l r =>
    if maxDepth == 0 || !(decide (d > maxDepth)) then
      .node i n a (bgate maxDepth (d + 1) l) (bgate maxDepth (d + 1) r)
    else .nil

/-- left subtree, node, right subtree -/
def inorder : BTree → List Nat
  | .nil => []
  | .node i _ _ l r => inorder l ++ [i] ++ inorder r

theorem inorderImpl_eq (filt : Nat → Bool) (md : Nat) (d : Nat) (t : BTree) :
    inorderImpl filt md d t = (inorder (bgate md d t)).filter filt := by
  induction t generalizing d with
  | nil => rfl
  | node i n a l r ihl ihr =>
    rw [inorderImpl, bgate]
    split
    · rw [inorder, List.filter_append, List.filter_append, ihl, ihr, List.filter_cons, List.filter_nil]
    · rfl

end Iter
