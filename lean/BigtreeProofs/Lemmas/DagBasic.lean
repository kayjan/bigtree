import BigtreeModel.Dag
import Batteries.Data.List.Perm
/-! Basic facts about the DAG model: duplicate-free lists, the edge list, `dedup`, step-counted
reachability, paths as vertex lists, the length bound that acyclicity gives (pigeonhole), and a rank
certificate for acyclicity. -/

namespace Dag
open List

/-! ### lists without repetition -/

theorem nodup_map_of_inj_on {α β} {f : α → β} {l : List α}
    (hf : ∀ a ∈ l, ∀ b ∈ l, f a = f b → a = b) (h : l.Nodup) : (l.map f).Nodup :=
  pairwise_map.2 (h.imp_of_mem fun ha hb hne heq => hne (hf _ ha _ hb heq))

theorem nodup_map_of_inj {α β} {f : α → β} (hf : ∀ a b, f a = f b → a = b) {l : List α}
    (h : l.Nodup) : (l.map f).Nodup :=
  nodup_map_of_inj_on (fun a _ b _ => hf a b) h

theorem nodup_flatMap_of {α β} {f : α → List β} {l : List α} (hl : l.Nodup)
    (hf : ∀ a ∈ l, (f a).Nodup)
    (hd : ∀ a ∈ l, ∀ b ∈ l, a ≠ b → ∀ x ∈ f a, x ∉ f b) : (l.flatMap f).Nodup :=
  pairwise_flatMap.2
    ⟨hf, hl.imp_of_mem fun ha hb hne x hx _ hy hxy => hd _ ha _ hb hne x hx (hxy ▸ hy)⟩

theorem nodup_filterMap_of_inj {α β} {f : α → Option β} {l : List α} (hl : l.Nodup)
    (hf : ∀ a ∈ l, ∀ b ∈ l, ∀ y, f a = some y → f b = some y → a = b) :
    (l.filterMap f).Nodup :=
  pairwise_filterMap.2 <|
    hl.imp_of_mem fun ha hb hne y hy _ hy' hyy => hne (hf _ ha _ hb y hy (hyy ▸ hy'))

theorem nodup_snoc {α} {l : List α} {a : α} : (l ++ [a]).Nodup ↔ l.Nodup ∧ a ∉ l :=
  nodup_append.trans
    ⟨fun h => ⟨h.1, fun ha => h.2.2 a ha a (mem_singleton.2 rfl) rfl⟩,
     fun h => ⟨h.1, nodup_cons.2 ⟨not_mem_nil, nodup_nil⟩,
       fun _ hx _ hb hxb => h.2 (mem_singleton.1 hb ▸ hxb ▸ hx)⟩⟩

/-! ### the edge list -/

theorem mem_edges {g : Dag} {e : Edge} : e ∈ g.edges ↔ e.1 ∈ g.nodes ∧ e.2 ∈ g.children e.1 := by
  simp only [edges, mem_flatMap, mem_map]
  exact ⟨fun ⟨_, hp, _, hc, h⟩ => h ▸ ⟨hp, hc⟩, fun ⟨hp, hc⟩ => ⟨_, hp, _, hc, rfl⟩⟩

theorem nodup_edges {g : Dag} (wf : g.DWF) : g.edges.Nodup := by
  refine nodup_flatMap_of wf.nodup_nodes
    (fun p hp => nodup_map_of_inj (fun _ _ h => (Prod.mk.inj h).2) (wf.nodup_chi p hp))
    fun a _ b _ hab x hxa hxb => ?_
  obtain ⟨_, _, rfl⟩ := mem_map.1 hxa
  obtain ⟨_, _, h⟩ := mem_map.1 hxb
  exact hab (Prod.mk.inj h).1.symm

/-! ### dedup -/

theorem mem_dedup {l : List Nat} {a : Nat} : a ∈ dedup l ↔ a ∈ l := by
  induction l with
  | nil => exact Iff.rfl
  | cons x xs ih =>
    rw [dedup, mem_cons, mem_cons, mem_filter, ih, bne_iff_ne]
    exact ⟨fun h => h.imp_right And.left, fun h => (Decidable.em (a = x)).imp_right fun hne =>
      ⟨h.resolve_left hne, hne⟩⟩

theorem nodup_dedup (l : List Nat) : (dedup l).Nodup := by
  induction l with
  | nil => exact nodup_nil
  | cons x xs ih =>
    exact nodup_cons.2 ⟨fun h => by simpa using (mem_filter.1 h).2, ih.filter _⟩

/-! ### step-counted reachability -/

/-- `ReachN g k a b`: a directed walk with exactly `k` edges from `a` to `b` -/
inductive ReachN (g : Dag) : Nat → Nat → Nat → Prop
  | zero (a) : ReachN g 0 a a
  | succ {k a b c} : b ∈ g.children a → ReachN g k b c → ReachN g (k + 1) a c

theorem reachN_zero {g : Dag} {a b} : ReachN g 0 a b ↔ a = b :=
  ⟨fun h => by cases h; rfl, fun h => h ▸ .zero a⟩

theorem reachN_succ {g : Dag} {k a c} :
    ReachN g (k + 1) a c ↔ ∃ b, b ∈ g.children a ∧ ReachN g k b c :=
  ⟨fun h => by cases h with | succ hb hr => exact ⟨_, hb, hr⟩, fun ⟨_, hb, hr⟩ => .succ hb hr⟩

theorem ReachN.snoc {g : Dag} {k a b c} (h : ReachN g k a b) (hc : c ∈ g.children b) :
    ReachN g (k + 1) a c := by
  induction h with
  | zero a => exact .succ hc (.zero c)
  | succ hb _ ih => exact .succ hb (ih hc)

theorem reachN_succ_last {g : Dag} {k a c} :
    ReachN g (k + 1) a c ↔ ∃ b, ReachN g k a b ∧ c ∈ g.children b := by
  refine ⟨fun h => ?_, fun ⟨_, hr, hc⟩ => hr.snoc hc⟩
  induction k generalizing a with
  | zero =>
    obtain ⟨b, hb, hr⟩ := reachN_succ.1 h
    exact ⟨a, .zero a, reachN_zero.1 hr ▸ hb⟩
  | succ k ih =>
    obtain ⟨b, hb, hr⟩ := reachN_succ.1 h
    obtain ⟨b', hr', hc⟩ := ih hr
    exact ⟨b', .succ hb hr', hc⟩

theorem ReachN.trans {g : Dag} {j k a b c} (h₁ : ReachN g j a b) (h₂ : ReachN g k b c) :
    ReachN g (j + k) a c := by
  induction h₁ with
  | zero a => rwa [Nat.zero_add]
  | @succ j _ _ _ hb _ ih => exact Nat.add_right_comm j 1 k ▸ .succ hb (ih h₂)

theorem reach_iff_reachN {g : Dag} {a b} : g.Reach a b ↔ ∃ k, ReachN g (k + 1) a b := by
  constructor
  · intro h
    induction h with
    | edge h => exact ⟨0, .succ h (.zero _)⟩
    | step h _ ih => exact let ⟨k, hk⟩ := ih; ⟨k + 1, .succ h hk⟩
  · rintro ⟨k, h⟩
    induction k generalizing a with
    | zero =>
      obtain ⟨c, hc, hr⟩ := reachN_succ.1 h
      exact .edge (reachN_zero.1 hr ▸ hc)
    | succ k ih =>
      obtain ⟨c, hc, hr⟩ := reachN_succ.1 h
      exact .step hc (ih hr)

theorem Reach.trans {g : Dag} {a b c} (h₁ : g.Reach a b) (h₂ : g.Reach b c) : g.Reach a c := by
  induction h₁ with
  | edge h => exact .step h h₂
  | step h _ ih => exact .step h (ih h₂)

theorem Reach.snoc {g : Dag} {a b c} (h₁ : g.Reach a b) (h₂ : c ∈ g.children b) : g.Reach a c :=
  h₁.trans (.edge h₂)

theorem Reach.exists_child {g : Dag} {x y : Nat} (h : g.Reach x y) : ∃ b, b ∈ g.children x := by
  cases h with
  | edge hb => exact ⟨_, hb⟩
  | step hb _ => exact ⟨_, hb⟩

theorem reach_mono {g g' : Dag} (h : ∀ a b, b ∈ g.children a → b ∈ g'.children a) {x y : Nat}
    (hr : g.Reach x y) : g'.Reach x y := by
  induction hr with
  | edge he => exact .edge (h _ _ he)
  | step he _ ih => exact .step (h _ _ he) ih

theorem reach_add_edge {g g' : Dag} {p c : Nat}
    (h : ∀ a b, b ∈ g'.children a → b ∈ g.children a ∨ (a = p ∧ b = c)) {x y : Nat}
    (hr : g'.Reach x y) :
    g.Reach x y ∨ ((x = p ∨ g.Reach x p) ∧ (c = y ∨ g.Reach c y)) := by
  induction hr with
  | @edge a b he =>
    rcases h _ _ he with he | ⟨rfl, rfl⟩
    · exact .inl (.edge he)
    · exact .inr ⟨.inl rfl, .inl rfl⟩
  | @step a b d he _ ih =>
    rcases h _ _ he with he | ⟨rfl, rfl⟩
    · rcases ih with ih | ⟨ih1, ih2⟩
      · exact .inl (.step he ih)
      · exact .inr ⟨.inr (ih1.elim (· ▸ .edge he) (.step he)), ih2⟩
    · exact .inr ⟨.inl rfl, ih.elim .inr And.right⟩

theorem ReachN.mem_nodes {g : Dag} (wf : g.DWF) {k a b} (ha : a ∈ g.nodes) (h : ReachN g k a b) :
    b ∈ g.nodes := by
  induction h with
  | zero a => exact ha
  | succ hb _ ih => exact ih (wf.chi_closed _ ha _ hb).1

theorem Reach.mem_nodes {g : Dag} (wf : g.DWF) {a b} (ha : a ∈ g.nodes) (h : g.Reach a b) :
    b ∈ g.nodes :=
  let ⟨_, hk⟩ := reach_iff_reachN.1 h
  hk.mem_nodes wf ha

/-! ### paths as vertex lists -/

theorem isPath_cons_cons {g : Dag} {a b : Nat} {l : List Nat} :
    g.IsPath (a :: b :: l) ↔ b ∈ g.children a ∧ g.IsPath (b :: l) := Iff.rfl

@[simp] theorem isPath_single {g : Dag} {a : Nat} : g.IsPath [a] := trivial

@[simp] theorem not_isPath_nil {g : Dag} : ¬ g.IsPath [] := fun h => h

theorem ReachN.exists_path {g : Dag} {k a b} (h : ReachN g k a b) :
    ∃ l, l.length = k ∧ g.IsPath (a :: l) := by
  induction h with
  | zero a => exact ⟨[], rfl, trivial⟩
  | succ hb _ ih =>
    obtain ⟨l, hl, hp⟩ := ih
    exact ⟨_ :: l, congrArg (· + 1) hl, hb, hp⟩

theorem path_reach {g : Dag} {a : Nat} {l : List Nat} (hp : g.IsPath (a :: l)) {x} (hx : x ∈ l) :
    g.Reach a x := by
  induction l generalizing a with
  | nil => cases hx
  | cons b l ih =>
    rcases mem_cons.1 hx with rfl | hx
    · exact .edge hp.1
    · exact .step hp.1 (ih hp.2 hx)

theorem path_nodup_subset {g : Dag} (wf : g.DWF) {a : Nat} {l : List Nat} (ha : a ∈ g.nodes)
    (hp : g.IsPath (a :: l)) : (a :: l).Nodup ∧ ∀ x ∈ a :: l, x ∈ g.nodes := by
  induction l generalizing a with
  | nil => exact ⟨nodup_cons.2 ⟨not_mem_nil, nodup_nil⟩, fun x hx => mem_singleton.1 hx ▸ ha⟩
  | cons b l ih =>
    obtain ⟨hnd, hsub⟩ := ih (wf.chi_closed _ ha _ hp.1).1 hp.2
    exact ⟨nodup_cons.2 ⟨fun hmem => wf.acyclic a ha (path_reach hp hmem), hnd⟩,
      forall_mem_cons.2 ⟨ha, hsub⟩⟩

/-- pigeonhole -/
theorem path_length_le {g : Dag} (wf : g.DWF) {a : Nat} {l : List Nat} (ha : a ∈ g.nodes)
    (hp : g.IsPath (a :: l)) : (a :: l).length ≤ g.nodes.length :=
  let ⟨hnd, hsub⟩ := path_nodup_subset wf ha hp
  (subperm_of_subset hnd hsub).length_le

theorem reachN_lt {g : Dag} (wf : g.DWF) {k a b} (ha : a ∈ g.nodes) (h : ReachN g k a b) :
    k < g.nodes.length := by
  obtain ⟨l, rfl, hp⟩ := h.exists_path
  exact path_length_le wf ha hp

/-! ### a rank function certifies acyclicity (used by the non-vacuity examples) -/

theorem reach_rank_lt {g : Dag} (rank : Nat → Nat)
    (closed : ∀ v ∈ g.nodes, ∀ c ∈ g.children v, c ∈ g.nodes)
    (hr : ∀ v ∈ g.nodes, ∀ c ∈ g.children v, rank v < rank c) {a b}
    (ha : a ∈ g.nodes) (h : g.Reach a b) : rank a < rank b := by
  induction h with
  | edge h => exact hr _ ha _ h
  | step h _ ih => exact Nat.lt_trans (hr _ ha _ h) (ih (closed _ ha _ h))

theorem acyclic_of_rank {g : Dag} (rank : Nat → Nat)
    (closed : ∀ v ∈ g.nodes, ∀ c ∈ g.children v, c ∈ g.nodes)
    (hr : ∀ v ∈ g.nodes, ∀ c ∈ g.children v, rank v < rank c) :
    ∀ x ∈ g.nodes, ¬ g.Reach x x :=
  fun _ hx h => Nat.lt_irrefl _ (reach_rank_lt rank closed hr hx h)

/-! ### graphs given by an edge list -/

theorem mem_children_ofEdges {n : Nat} {es : List Edge} {attrs : Nat → Attrs} {a b : Nat} :
    b ∈ (ofEdges n es attrs).children a ↔ (a, b) ∈ es := by
  simp only [ofEdges, mem_map, mem_filter, beq_iff_eq]
  exact ⟨fun ⟨⟨_, _⟩, ⟨he, h1⟩, h2⟩ => h1 ▸ h2 ▸ he, fun h => ⟨(a, b), ⟨h, rfl⟩, rfl⟩⟩

theorem mem_parents_ofEdges {n : Nat} {es : List Edge} {attrs : Nat → Attrs} {a b : Nat} :
    a ∈ (ofEdges n es attrs).parents b ↔ (a, b) ∈ es := by
  simp only [ofEdges, mem_map, mem_filter, beq_iff_eq]
  exact ⟨fun ⟨⟨_, _⟩, ⟨he, h1⟩, h2⟩ => h1 ▸ h2 ▸ he, fun h => ⟨(a, b), ⟨h, rfl⟩, rfl⟩⟩

theorem dwf_ofEdges {n : Nat} {es : List Edge} {attrs : Nat → Attrs} (rank : Nat → Nat)
    (hnd : es.Nodup) (h : ∀ e ∈ es, e.1 < n ∧ e.2 < n ∧ rank e.1 < rank e.2) :
    (ofEdges n es attrs).DWF where
  nodup_nodes := nodup_range
  par_closed := fun _ _ _ hp =>
    ⟨mem_range.2 (h _ (mem_parents_ofEdges.1 hp)).1, mem_children_ofEdges.2 (mem_parents_ofEdges.1 hp)⟩
  chi_closed := fun _ _ _ hc =>
    ⟨mem_range.2 (h _ (mem_children_ofEdges.1 hc)).2.1,
      mem_parents_ofEdges.2 (mem_children_ofEdges.1 hc)⟩
  nodup_par := fun _ _ => nodup_map_of_inj_on (fun _ ha _ hb hab =>
    Prod.ext hab ((beq_iff_eq.1 (mem_filter.1 ha).2).trans (beq_iff_eq.1 (mem_filter.1 hb).2).symm))
    (hnd.filter _)
  nodup_chi := fun _ _ => nodup_map_of_inj_on (fun _ ha _ hb hab =>
    Prod.ext ((beq_iff_eq.1 (mem_filter.1 ha).2).trans (beq_iff_eq.1 (mem_filter.1 hb).2).symm) hab)
    (hnd.filter _)
  acyclic := acyclic_of_rank rank
    (fun _ _ _ hc => mem_range.2 (h _ (mem_children_ofEdges.1 hc)).2.1)
    (fun _ _ _ hc => (h _ (mem_children_ofEdges.1 hc)).2.2)

end Dag
