import BigtreeModel.Query
import BigtreeProofs.Lemmas.QueryPre
import BigtreeProofs.Lemmas.BridgeIds
/-!
# Bridge A→B: located nodes (addresses, model B's way of naming a node of a tree) of the
read-back tree versus links of the store
-/

namespace Store
open Query

theorem sub_treeOf_cons {s : Store} (hw : WF s) (f : Nat) (hf : s.n ≤ f) (r k : Nat) (ks : Addr) :
    sub (treeOf s f r) (k :: ks) = (s.children r)[k]?.bind fun c => sub (treeOf s f c) ks := by
  rw [sub_cons, treeOf_children hw r f hf, List.getElem?_map]
  cases (s.children r)[k]? <;> rfl

theorem sub_treeOf {s : Store} (hw : WF s) (f : Nat) (hf : s.n ≤ f) : ∀ (a : Addr) (r : Nat) (u : Tree),
    sub (treeOf s f r) a = some u →
      u = treeOf s f u.id ∧ Reach s r u.id ∧
      (anc s s.n u.id).length = (anc s s.n r).length + a.length := by
  intro a
  induction a with
  | nil =>
    intro r u h
    rw [sub_nil, Option.some.injEq] at h
    subst h
    rw [treeOf_id]
    exact ⟨rfl, Reach.refl r, rfl⟩
  | cons k ks ih =>
    intro r u h
    rw [sub_treeOf_cons hw f hf, Option.bind_eq_some_iff] at h
    obtain ⟨c, hc, h⟩ := h
    have hmem : c ∈ s.children r := List.mem_of_getElem? hc
    obtain ⟨h1, h2, h3⟩ := ih c u h
    refine ⟨h1, (Reach.of_parent (hw.down r c hmem)).trans h2, ?_⟩
    rw [h3, (anc_length_child hw hmem).1, List.length_cons, Nat.add_right_comm, Nat.add_assoc]

theorem child_at {s : Store} (hw : WF s) (f : Nat) (hf : s.n ≤ f) (r : Nat) (a : Addr) (p k x : Nat)
    (ha : sub (treeOf s f r) a = some (treeOf s f p)) (hk : (s.children p)[k]? = some x) :
    sub (treeOf s f r) (a ++ [k]) = some (treeOf s f x) := by
  rw [sub_snoc, ha, Option.bind_some, treeOf_children hw p f hf, List.getElem?_map, hk]
  rfl

theorem addr_of_reach {s : Store} (hw : WF s) (f : Nat) (hf : s.n ≤ f) {r x : Nat} (h : Reach s r x) :
    ∃ a, sub (treeOf s f r) a = some (treeOf s f x) := by
  induction h with
  | refl => exact ⟨[], sub_nil _⟩
  | @step p v _ hp ih =>
    obtain ⟨a, ha⟩ := ih
    obtain ⟨k, hk⟩ := List.getElem?_of_mem (hw.up v p hp)
    exact ⟨a ++ [k], child_at hw f hf r a p k v ha hk⟩

theorem idAt_treeOf {R : Tree} {a : Addr} {s : Store} {f x : Nat} (h : sub R a = some (treeOf s f x)) :
    idAt R a = some x := by
  rw [idAt, h, Option.map_some, treeOf_id]

/-- they start with the same index (different children have no common descendant, and a child list has no
duplicates), and so on down -/
theorem addr_unique {s : Store} (hw : WF s) (f : Nat) (hf : s.n ≤ f) : ∀ (a b : Addr) (r : Nat) (u w : Tree),
    sub (treeOf s f r) a = some u → sub (treeOf s f r) b = some w → u.id = w.id → a = b := by
  intro a
  induction a with
  | nil =>
    intro b r u w ha hb hid
    -- `w` is as deep as `r`
    have h3 := (sub_treeOf hw f hf b r w hb).2.2
    rw [sub_nil, Option.some.injEq] at ha
    rw [← hid, ← ha, treeOf_id] at h3
    exact (List.eq_nil_of_length_eq_zero (Nat.add_left_cancel h3.symm)).symm
  | cons k ks ih =>
    intro b r u w ha hb hid
    cases b with
    | nil =>
      have h3 := (sub_treeOf hw f hf _ r u ha).2.2
      rw [sub_nil, Option.some.injEq] at hb
      rw [hid, ← hb, treeOf_id] at h3
      exact absurd h3 (Nat.ne_of_lt (Nat.lt_add_of_pos_right (Nat.succ_pos ks.length)))
    | cons j js =>
      rw [sub_treeOf_cons hw f hf, Option.bind_eq_some_iff] at ha hb
      obtain ⟨c, hc, ha⟩ := ha
      obtain ⟨d, hd, hb⟩ := hb
      have hcd : c = d := siblings_disjoint hw (List.mem_of_getElem? hc) (List.mem_of_getElem? hd)
        (sub_treeOf hw f hf ks c u ha).2.1 (hid ▸ (sub_treeOf hw f hf js d w hb).2.1)
      subst hcd
      have hkj : k = j :=
        (List.getElem?_inj (List.getElem?_eq_some_iff.1 hc).1 (hw.nodup r)).1 (hc.trans hd.symm)
      rw [hkj, ih js c u w ha hb hid]

end Store
