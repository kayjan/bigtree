import BigtreeProofs.Lemmas.NewickSteps
import BigtreeProofs.Lemmas.ExportBasic
/-! Helper lemmas for C06 (Newick): the stack invariant "reading `write t` from a clean state at
depth `d` leaves `t`'s own node about to be created, with exactly `t`'s children parked at depth
`d+1`", and the round trip, with the length attribute and attribute lists. Core Lean only. -/

namespace Newick
open Export

/-! ### shapes of the parser state -/

/-- nothing pending, nothing parked above the current depth -/
def Ready (s : PState) : Prop :=
  s.st = .str ∧ s.cur = false ∧ s.cum = [] ∧ s.cumVal = [] ∧ ∀ k, k > s.depth → s.dn k = []

/-- a ready state as a literal, with what is used most of it: nothing is parked one level down -/
theorem ready_eq {s : PState} (h : Ready s) :
    ∃ dn n d, dn (d + 1) = [] ∧ s = ⟨dn, n, d, .str, false, [], []⟩ := by
  obtain ⟨dn, n, d, st, cur, cum, cv⟩ := s
  obtain ⟨h1, h2, h3, h4, h5⟩ := h
  simp only at h1 h2 h3 h4
  subst h1 h2 h3 h4
  exact ⟨dn, n, d, h5 _ (Int.lt_succ d), rfl⟩

theorem ready_init : Ready PState.init := by
  simp [Ready, PState.init]

/-- the children parked one level down -/
def kidsAt (s : PState) (kids : List Tree) : PState := { s with dn := upd s.dn (s.depth + 1) kids }

/-- the current node is `N`, the last of `L ++ [N]` at the current depth -/
def stN (s : PState) (L : List Tree) (N : Tree) (st : NState) (cum cumVal : Str) : PState :=
  { s with dn := upd s.dn s.depth (L ++ [N]), st := st, cur := true, cum := cum, cumVal := cumVal }

/-- a finished node appended at the current depth -/
def nodeAt (s : PState) (N : Tree) : PState := { s with dn := upd s.dn s.depth (s.dn s.depth ++ [N]) }

theorem kidsAt_nil (s : PState) (hR : Ready s) : kidsAt s [] = s := by
  unfold kidsAt
  rw [upd_self_eq s.dn (s.depth + 1) [] (hR.2.2.2.2 _ (Int.lt_succ _))]

theorem ready_nodeAt (s : PState) (N : Tree) (hR : Ready s) : Ready (nodeAt s N) := by
  obtain ⟨h1, h2, h3, h4, h5⟩ := hR
  exact ⟨h1, h2, h3, h4, fun k hk => (upd_other _ _ _ _ (Int.ne_of_gt hk)).trans (h5 k hk)⟩

theorem ready_down (s : PState) (hR : Ready s) : Ready { s with depth := s.depth + 1 } := by
  obtain ⟨h1, h2, h3, h4, h5⟩ := hR
  exact ⟨h1, h2, h3, h4, fun k hk => h5 k (Int.lt_trans (Int.lt_succ _) hk)⟩

/-- `(`, a children list that ends up appended one level down, `)`: the children are parked -/
theorem go_parens {c : Chars} (hc : c.OK) {la pre : Str} {s : PState} {kw : Str} {kids : List Tree} (hR : Ready s)
    (h : ∀ rest, go c la pre { s with depth := s.depth + 1 } (kw ++ ')' :: rest)
      = go c la pre { s with depth := s.depth + 1 - 1, dn := upd s.dn (s.depth + 1) (s.dn (s.depth + 1) ++ kids) } rest)
    (rest : Str) : go c la pre s ('(' :: (kw ++ ')' :: rest)) = go c la pre (kidsAt s kids) rest := by
  obtain ⟨h1, h2, h3, h4, h5⟩ := hR
  rw [go_lit hc.openB_eq (step_open h1 h2 h3 h4), h, h5 _ (Int.lt_succ _), Int.add_sub_cancel]
  rfl

/-! ### `_create_node` and `set_attrs` on these shapes -/

theorem setCurAttr_stN (s : PState) (L : List Tree) (N : Tree) (st st' : NState) (k v : Str) :
    setCurAttr { stN s L N st k v with st := st' } = some (stN s L (setAttr N k (.str v)) st' [] []) := by
  unfold setCurAttr stN
  simp [upd_same, upd_upd]

theorem withLength_nil (la : Str) (t : Tree) : withLength la [] t = some t := rfl

theorem attach_none (dn : Int → List Tree) (d : Int) (t : Tree) (h : dn (d + 1) = []) :
    attach dn d t = some (t, dn) := by
  unfold attach; rw [h]

theorem attach_kids (dn : Int → List Tree) (d : Int) (nm : Str) (kids : List Tree) (h0 : dn (d + 1) = [])
    (hd : dupNames kids = false) :
    attach (upd dn (d + 1) kids) d (.node 0 nm [] []) = some (.node 0 nm [] kids, dn) := by
  unfold attach
  rw [upd_same]
  cases kids with
  | nil => rw [upd_self_eq dn _ _ h0]
  | cons k ks => simp only [hd, Bool.false_eq_true, if_false, upd_upd, setChildren]; rw [upd_self_eq dn _ _ h0]

/-- `_create_node(None, name, …)` with the name pending and the children parked -/
theorem createNew_pending {s : PState} {kids : List Tree} {nm : Str} (st' : NState)
    (h0 : s.dn (s.depth + 1) = []) (h4 : s.cumVal = []) (hnm : nm ≠ []) (hd : dupNames kids = false) :
    createNew { kidsAt s kids with cum := nm, st := st' }
      = some (stN s (s.dn s.depth) (.node 0 nm [] kids) st' nm []) := by
  unfold createNew
  dsimp only [kidsAt]
  rw [if_neg hnm, if_neg hnm, attach_kids s.dn s.depth nm kids h0 hd, h4]
  rfl

/-- `_create_node(current_node, …)` with nothing parked below -/
theorem createExisting_stN {la : Str} {s : PState} (L : List Tree) {N N' : Tree} (st : NState) {cum : Str} (cv : Str)
    (h0 : s.dn (s.depth + 1) = []) (hl : withLength la cum N = some N') :
    createExisting la (stN s L N st cum cv) = some (stN s L N' st cum cv) := by
  have h : attach (upd s.dn s.depth (L ++ [N])) s.depth N' = some (N', upd s.dn s.depth (L ++ [N])) :=
    attach_none _ _ _ ((upd_other _ _ _ _ (Int.ne_of_gt (Int.lt_succ _))).trans h0)
  simp only [createExisting, stN, upd_same, List.getLast?_concat, hl, h, List.dropLast_concat, upd_upd]

/-! ### a node's terminator -/

/-- the two shapes of the state after a node's own text and before its terminator: the name
    pending with the children parked, or the node created, with nothing or the digits of its length
    pending; `.node 0 nm A kids` is the node the terminator leaves behind -/
inductive BeforeTerm (la : Str) (s : PState) (nm : Str) (A : Attrs) (kids : List Tree) : PState → Prop
  | pending (h : A = []) (hnm : nm ≠ []) (hd : dupNames kids = false) : BeforeTerm la s nm A kids { kidsAt s kids with cum := nm }
  | cur (cum : Str) (N : Tree) (h : withLength la cum N = some (.node 0 nm A kids)) :
      BeforeTerm la s nm A kids (stN s (s.dn s.depth) N .str cum [])

section
variable {la : Str} {s : PState} {nm : Str} {A : Attrs} {kids : List Tree} {p : PState}

/-- `_create_node` from either shape, as `,` and `)` call it and as `[` does -/
theorem beforeTerm_create (hR : Ready s) (hp : BeforeTerm la s nm A kids p) :
    p.st = .str ∧ ∃ cum, create la p = some (stN s (s.dn s.depth) (.node 0 nm A kids) .str cum []) ∧
      create la { p with st := .attrName } = some (stN s (s.dn s.depth) (.node 0 nm A kids) .attrName cum []) := by
  obtain ⟨dn, n, d, h0, rfl⟩ := ready_eq hR
  cases hp with
  | pending h hnm hd =>
    subst h
    exact ⟨rfl, nm, (create_of_not_cur la _ rfl).trans (createNew_pending .str h0 rfl hnm hd),
      (create_of_not_cur la _ rfl).trans (createNew_pending .attrName h0 rfl hnm hd)⟩
  | cur cum N h =>
    exact ⟨rfl, cum, (create_of_cur la _ rfl).trans (createExisting_stN _ .str [] h0 h),
      (create_of_cur la _ rfl).trans (createExisting_stN _ .attrName [] h0 h)⟩

theorem term_sep {c : Chars} (hc : c.OK) {pre : Str} (rest : Str) (hR : Ready s) (hp : BeforeTerm la s nm A kids p) :
    go c la pre p (',' :: rest) = go c la pre (nodeAt s (.node 0 nm A kids)) rest := by
  obtain ⟨hst, cum, hcr, _⟩ := beforeTerm_create hR hp
  obtain ⟨dn, n, d, -, rfl⟩ := ready_eq hR
  exact go_lit hc.nodeSep_eq (step_nodeSep hc.nodup (by rw [hst]; decide) hcr rfl)

theorem term_close {c : Chars} (hc : c.OK) {pre : Str} (rest : Str) (hR : Ready s) (hp : BeforeTerm la s nm A kids p) :
    go c la pre p (')' :: rest) = go c la pre { nodeAt s (.node 0 nm A kids) with depth := s.depth - 1 } rest := by
  obtain ⟨hst, cum, hcr, _⟩ := beforeTerm_create hR hp
  obtain ⟨dn, n, d, -, rfl⟩ := ready_eq hR
  exact go_lit hc.closeB_eq (step_closeB (s2 := stN _ _ _ .str cum []) hc.nodup (by rw [hst]; decide) hcr rfl)

/-- after the loop, at depth 1 with nothing else there: the final root node (`finish` creates the
    pending node or completes the current one, and returns the last node at depth 1) -/
theorem term_end (hR : Ready s) (hdep : s.depth = 1) (hdn : s.dn 1 = []) (hp : BeforeTerm la s nm A kids p) :
    finish la p = some (.node 0 nm A kids) := by
  obtain ⟨dn, n, d, h2, rfl⟩ := ready_eq hR
  simp only at hdep hdn
  subst hdep
  replace h2 : dn 2 = [] := h2
  cases hp with
  | pending h hnm hd =>
    subst h
    have hcn : createNew ⟨upd dn 2 kids, n, 1, .str, false, nm, []⟩
        = some ⟨upd dn 1 (dn 1 ++ [.node 0 nm [] kids]), n, 1, .str, true, nm, []⟩ :=
      createNew_pending (s := ⟨dn, n, 1, .str, false, [], []⟩) .str h2 rfl hnm hd
    simp [finish, kidsAt, upd, hdn, hcn]
  | cur cum N h =>
    simp [finish, stN, upd, hdn, h, attach, h2]

end

/-! ### digits -/

theorem digit_plain {c : Chars} (hc : c.OK) {x : Char} (hx : x.isDigit = true) : Plain c x := by
  obtain ⟨_, h1, h2, h3, h4, h5, h6, h7, h8⟩ := hc
  intro hmem
  rw [Chars.values, h1, h2, h3, h4, h5, h6, h7, h8] at hmem
  have hnd : (['(', ')', '[', ']', '=', '\'', ':', ','].all fun y => !y.isDigit) = true := by decide
  have := List.all_eq_true.1 hnd x hmem
  rw [hx] at this
  cases this

theorem digitsVal_eq (l : Str) : digitsVal l = Nat.ofDigitChars 10 l 0 := rfl

theorem pyNumber_posInt (i : Int) (hi : 0 < i) :
    pyNumber (valText (.int i)) = some (.int i) ∧ (∀ x ∈ valText (.int i), x.isDigit = true) ∧ valText (.int i) ≠ [] := by
  have hrepr : valText (.int i) = Nat.toDigits 10 i.toNat := by
    rw [valText, Int.toString_eq_repr, Int.repr_eq_if, if_pos (Int.le_of_lt hi), Nat.toList_repr]
  have hdig : ∀ x ∈ Nat.toDigits 10 i.toNat, x.isDigit = true :=
    fun x hx => Nat.isDigit_of_mem_toDigits (by decide) (by decide) hx
  have hne : Nat.toDigits 10 i.toNat ≠ [] := Nat.toDigits_ne_nil
  rw [hrepr]
  refine ⟨?_, hdig, hne⟩
  have : isDigits (Nat.toDigits 10 i.toNat) = true := by
    rw [isDigits, Bool.and_eq_true, bne_iff_ne, List.all_eq_true]
    exact ⟨hne, hdig⟩
  rw [pyNumber, if_pos this, digitsVal_eq, Nat.ofDigitChars_ten_toDigits, Int.toNat_of_nonneg (Int.le_of_lt hi)]

/-! ### the writer: name part, attribute list, node, children list -/

/-- `f"{_serialize(k)}={_serialize(get_attr(k))}"` -/
def item (c : Chars) (a : Attrs) (k : Str) : Str := serialize c k ++ '=' :: serializeVal c (getAttr a k)

section
variable {c : Chars} {la : Str} {al : List Str} {pre : Str} {r : Bool} {n : Str} {a : Attrs} {l : Bool}

theorem nameStr_len {i : Int} (hL : la ≠ [] ∧ r = false) (hv : getAttr a la = .int i) (hi : 0 < i) :
    nameStr c (stdW la al pre) r n a l = some (serialize c n ++ ':' :: valText (.int i)) := by
  have ht : truthy (.int i) = true := bne_iff_ne.2 (Int.ne_of_gt hi)
  rw [nameStr, stdW, if_pos ⟨hL.1, by rw [hL.2]; rfl⟩, hv, if_pos ht]
  simp only [Bool.true_or, if_true, List.append_assoc, List.singleton_append]

theorem nameStr_nolen (hL : ¬(la ≠ [] ∧ r = false)) : nameStr c (stdW la al pre) r n a l = some (serialize c n) := by
  rw [nameStr, stdW, if_neg (fun h => hL ⟨h.1, by simpa using h.2⟩)]
  rfl

end

theorem nameStr_std (c : Chars) (la : Str) (al : List Str) (pre : Str) (r : Bool) (n : Str) (a : Attrs) (l : Bool)
    (h : (la ≠ [] ∧ r = false) → ∃ i : Int, 0 < i ∧ getAttr a la = .int i) :
    ∃ x, nameStr c (stdW la al pre) r n a l = some (serialize c n ++ x) := by
  by_cases hL : la ≠ [] ∧ r = false
  · obtain ⟨i, hi, hv⟩ := h hL
    exact ⟨_, nameStr_len hL hv hi⟩
  · exact ⟨[], by rw [List.append_nil]; exact nameStr_nolen hL⟩

theorem joinS_ne_nil (sep : Str) (x : Str) (xs : List Str) (hx : x ≠ []) : joinS sep (x :: xs) ≠ [] := by
  cases xs with
  | nil => simpa [joinS] using hx
  | cons y ys => simp [joinS, hx]

theorem attrStr_eq (c : Chars) (la : Str) (al : List Str) (pre : Str) (a : Attrs) :
    attrStr c (stdW la al pre) a
      = if listed al a = [] then [] else '[' :: pre ++ joinS [':'] ((listed al a).map (item c a)) ++ [']'] := by
  show (if al ≠ [] ∧ joinS [':'] ((listed al a).map (item c a)) ≠ [] then _ else _) = _
  cases hl : listed al a with
  | nil => rw [if_neg (fun h => h.2 rfl), if_pos rfl]
  | cons k ks =>
    rw [if_pos ⟨fun e => (by rw [listed, e] at hl; cases hl),
      joinS_ne_nil _ _ _ (List.append_ne_nil_of_right_ne_nil _ (List.cons_ne_nil _ _))⟩, if_neg (List.cons_ne_nil _ _), ← hl]
    rfl

theorem write_node (c : Chars) (o : WOpts) (r : Bool) (i : Nat) (n : Str) (a : Attrs) (cs : List Tree) :
    write c o r (.node i n a cs) = (nameStr c o r n a cs.isEmpty).bind fun ns =>
      if cs.isEmpty then some (ns ++ attrStr c o a)
      else (writeL c o cs).map fun kids => '(' :: kids ++ ')' :: ns ++ attrStr c o a := by
  rw [write]
  cases nameStr c o r n a cs.isEmpty with
  | none => rfl
  | some ns =>
    simp only [Option.bind_some]
    split
    · rfl
    · cases writeL c o cs <;> rfl

theorem writeL_cons_cons (c : Chars) (o : WOpts) (t u : Tree) (ts : List Tree) :
    writeL c o (t :: u :: ts) = (write c o false t).bind fun s => (writeL c o (u :: ts)).map fun r => s ++ ',' :: r := by
  rw [writeL]
  cases write c o false t <;> cases writeL c o (u :: ts) <;> rfl

theorem serialize_ne_nil (c : Chars) (n : Str) (h : n ≠ []) : serialize c n ≠ [] := by
  unfold serialize
  split
  · simp
  · exact h

/-! ### the attribute items -/

section
variable {c : Chars} (hc : c.OK) {la pre : Str} (s : PState) (L : List Tree) (a : Attrs)
include hc

/-- one item, up to (not including) its terminator -/
theorem go_item (N : Tree) {k v : Str} (rest : Str) (hk : k ≠ []) (hkq : c.quote ∉ k) (hv : getAttr a k = .str v)
    (hvq : c.quote ∉ v) :
    go c la pre (stN s L N .attrName [] []) (item c a k ++ rest)
      = go c la pre (stN s L N .attrVal k v) rest := by
  rw [item, hv, serializeVal, List.append_assoc, List.cons_append]
  exact (go_text hc k _ _ hkq rfl).trans <|
    (go_lit hc.keyValue_eq (step_keyValue (s := stN s L N .attrName k []) hc.nodup rfl rfl hk rfl)).trans <|
      go_text hc v (stN s L N .attrVal k []) rest hvq rfl

theorem go_items (n : Str) (kids : List Tree) : ∀ (ks : List Str), ks ≠ [] → ∀ (A : Attrs) (rest : Str),
    (∀ k ∈ ks, k ≠ [] ∧ c.quote ∉ k ∧ ∃ v, getAttr a k = .str v ∧ c.quote ∉ v) →
    go c la pre (stN s L (.node 0 n A kids) .attrName [] []) (joinS [':'] (ks.map (item c a)) ++ ']' :: rest)
      = go c la pre (stN s L (.node 0 n (ks.foldl (fun acc k => dset acc k (getAttr a k)) A) kids) .str [] []) rest
  | [] => fun h => absurd rfl h
  | [k] => by
    intro _ A rest hks
    obtain ⟨hk, hkq, v, hv, hvq⟩ := hks k (List.mem_singleton_self k)
    refine (go_item hc s L a _ (']' :: rest) hk hkq hv hvq).trans ?_
    rw [List.foldl_cons, List.foldl_nil, hv]
    exact go_lit hc.attrEnd_eq (step_attrEnd hc.nodup rfl (setCurAttr_stN s L _ .attrVal .str k v))
  | k :: k' :: ks => by
    intro _ A rest hks
    obtain ⟨hk, hkq, v, hv, hvq⟩ := hks k List.mem_cons_self
    refine (?_ : go c la pre _ (item c a k ++ [':'] ++ joinS [':'] ((k' :: ks).map (item c a)) ++ ']' :: rest) = _)
    rw [List.append_assoc, List.append_assoc, List.singleton_append, go_item hc s L a _ _ hk hkq hv hvq, List.foldl_cons, hv,
      go_lit hc.sep_eq (step_sep_val hc.nodup rfl (setCurAttr_stN s L _ .attrVal .attrName k v))]
    exact go_items n kids (k' :: ks) (List.cons_ne_nil _ _) (dset A k (.str v)) rest
      (fun k0 hk0 => hks k0 (List.mem_cons_of_mem _ hk0))

end

/-! ### a node's own text -/

/-- the writer's `la` is the parser's `la'` unless no length is written -/
theorem go_nameStr {c : Chars} (hc : c.OK) {la pre la' pre' : Str} {al : List Str} {s : PState} {n : Str} {a : Attrs}
    {r leaf : Bool} {kids : List Tree} {ns : Str} (hla : la = [] ∨ la' = la)
    (hR : Ready s) (hn : n ≠ []) (hq : c.quote ∉ n) (hd : dupNames kids = false)
    (hlen : (la ≠ [] ∧ r = false) → ∃ i : Int, 0 < i ∧ getAttr a la = .int i)
    (hns : nameStr c (stdW la al pre) r n a leaf = some ns) :
    ∃ p, BeforeTerm la' s n (if la ≠ [] ∧ r = false then [(la, getAttr a la)] else []) kids p ∧
      ∀ rest, go c la' pre' (kidsAt s kids) (ns ++ rest) = go c la' pre' p rest := by
  obtain ⟨dn, m, d, h0, rfl⟩ := ready_eq hR
  have hname := fun rest => go_text hc (la := la') (pre := pre') n (kidsAt ⟨dn, m, d, .str, false, [], []⟩ kids) rest hq rfl
  by_cases hL : la ≠ [] ∧ r = false
  · obtain ⟨i, hi, hv⟩ := hlen hL
    obtain ⟨hnum, hdig, hne⟩ := pyNumber_posInt i hi
    obtain rfl : la' = la := hla.resolve_left hL.1
    obtain rfl := Option.some.inj ((nameStr_len hL hv hi).symm.trans hns)
    rw [if_pos hL, hv]
    generalize valText (.int i) = dg at hnum hdig hne ⊢
    refine ⟨_, .cur dg (.node 0 n [] kids) ?_, fun rest => ?_⟩
    · rw [withLength, if_neg hne, hnum]
      rfl
    · rw [List.append_assoc, hname, List.cons_append]
      exact (go_lit hc.sep_eq (step_sep_str hc.nodup rfl rfl
        (createNew_pending .str h0 rfl hn hd) rfl)).trans
          (go_plain _ _ rest (fun x hx => digit_plain hc (hdig x hx)))
  · obtain rfl := Option.some.inj ((nameStr_nolen hL).symm.trans hns)
    rw [if_neg hL]
    exact ⟨_, .pending rfl hn hd, hname⟩

/-- the attribute list, from either shape; the writer's `pre` is the parser's `pre'` unless no
    attribute is listed -/
theorem go_attrStr {c : Chars} (hc : c.OK) {la pre la' pre' : Str} {al : List Str} {s : PState} {n : Str}
    {a A : Attrs} {kids : List Tree} {p : PState} (hpre : al = [] ∨ pre' = pre) (hR : Ready s)
    (hattr : ∀ k ∈ al, k ≠ [] ∧ c.quote ∉ k ∧ (truthy (getAttr a k) = true → ∃ v, getAttr a k = .str v ∧ c.quote ∉ v))
    (hp : BeforeTerm la' s n A kids p) :
    ∃ p', BeforeTerm la' s n ((listed al a).foldl (fun acc k => dset acc k (getAttr a k)) A) kids p' ∧
      ∀ rest, go c la' pre' p (attrStr c (stdW la al pre) a ++ rest) = go c la' pre' p' rest := by
  rw [attrStr_eq]
  by_cases hk : listed al a = []
  · rw [hk, if_pos rfl]
    exact ⟨p, hp, fun _ => rfl⟩
  · obtain rfl : pre' = pre := hpre.resolve_left (fun e => hk (by rw [listed, e]; rfl))
    obtain ⟨hst, cum, _, hcr⟩ := beforeTerm_create hR hp
    have hks : ∀ k ∈ listed al a, k ≠ [] ∧ c.quote ∉ k ∧ ∃ v, getAttr a k = .str v ∧ c.quote ∉ v := by
      intro k hk
      obtain ⟨hk1, hk2⟩ := List.mem_filter.mp hk
      obtain ⟨x, y, z⟩ := hattr k hk1
      exact ⟨x, y, z hk2⟩
    rw [if_neg hk]
    refine ⟨_, .cur [] _ (withLength_nil la' _), fun rest => ?_⟩
    rw [List.append_assoc, List.append_assoc, List.cons_append, List.singleton_append, ← hc.attrStart_eq,
      go_step (step_attrStart hc.nodup (by rw [hst]; decide) hcr rfl), List.drop_left]
    exact go_items hc s _ a n kids (listed al a) hk A rest hks

/-! ### hypotheses on trees, and the tree read back -/

/-- what the parser needs of a tree -/
def Good (c : Chars) (t : Tree) : Prop := AllNodes NodeOK t ∧ AllNodes (fun u => c.quote ∉ u.name) t
def GoodL (c : Chars) (ts : List Tree) : Prop := AllNodesL NodeOK ts ∧ AllNodesL (fun u => c.quote ∉ u.name) ts

theorem good_node {c : Chars} {i n a cs} (h : Good c (.node i n a cs)) :
    NodeOK (.node i n a cs) ∧ c.quote ∉ n ∧ GoodL c cs := by
  obtain ⟨h1, h2⟩ := h
  rw [allNodes_node] at h1 h2
  exact ⟨h1.1, h2.1, h1.2, h2.2⟩

theorem goodL_cons {c : Chars} {t ts} (h : GoodL c (t :: ts)) : Good c t ∧ GoodL c ts := by
  obtain ⟨h1, h2⟩ := h
  rw [allNodesL_cons] at h1 h2
  exact ⟨⟨h1.1, h2.1⟩, h1.2, h2.2⟩

theorem good_ok {c : Chars} {t : Tree} (h : Good c t) : NodeOK t := by
  cases t with
  | node i n a cs => exact (good_node h).1

/-- hypotheses on lengths: the top node needs one only when it is not the root -/
def LenTop (la : Str) (r : Bool) (t : Tree) : Prop :=
  ((la ≠ [] ∧ r = false) → ∃ i : Int, 0 < i ∧ getAttr t.attrs la = .int i) ∧ AllNodesL (LenNode la) t.children

theorem lenTop_of_all {la : Str} {t : Tree} (h : AllNodes (LenNode la) t) : LenTop la false t := by
  cases t with
  | node i n a cs =>
    rw [allNodes_node] at h
    exact ⟨fun hL => h.1.resolve_left hL.1, h.2⟩

theorem imgL_names (la : Str) (al : List Str) : ∀ (ts : List Tree), (imgL la al ts).map Tree.name = ts.map Tree.name
  | [] => by simp [imgL]
  | .node _ _ _ _ :: ts => by simp [imgL, img, imgL_names la al ts]

theorem img_eq (la : Str) (al : List Str) (r : Bool) (t : Tree) :
    img la al r t = .node 0 t.name (imgAttrs la al r t.attrs) (imgL la al t.children) := by
  cases t; simp [img]

theorem dupNames_imgL (la : Str) (al : List Str) (t : Tree) (h : NodeOK t) :
    dupNames (imgL la al t.children) = false :=
  dupNames_false _ (by rw [imgL_names]; exact h.2.2)

/-! ### the stack invariant -/

/-- The stack invariant for a tree: reading `tree_to_newick(t, length_attr=la, attr_list=al,
    attr_prefix=pre)` with `newick_to_tree(…, length_attr=la', attr_prefix=pre')` from a clean state
    leaves `t`'s own node about to be created, with `t`'s children parked one level down. -/
def ReadsTree (c : Chars) (la pre la' pre' : Str) (al : List Str) (r : Bool) (t : Tree) : Prop :=
  ∀ (w : Str) (s : PState), Ready s → Good c t → LenTop la r t → AllNodes (AttrNode c.quote al) t →
    write c (stdW la al pre) r t = some w →
    ∃ p, BeforeTerm la' s t.name (imgAttrs la al r t.attrs) (imgL la al t.children) p ∧
      ∀ rest, go c la' pre' s (w ++ rest) = go c la' pre' p rest

/-- the same for a children list and the `)` after it: the nodes read back are appended at the
    current depth, which is left -/
def ReadsList (c : Chars) (la pre la' pre' : Str) (al : List Str) (ts : List Tree) : Prop :=
  ∀ (w : Str) (s : PState), Ready s → GoodL c ts → AllNodesL (LenNode la) ts → AllNodesL (AttrNode c.quote al) ts →
    writeL c (stdW la al pre) ts = some w →
    ∀ rest, go c la' pre' s (w ++ ')' :: rest)
      = go c la' pre' { s with depth := s.depth - 1, dn := upd s.dn s.depth (s.dn s.depth ++ imgL la al ts) } rest

section
variable {c : Chars} (hc : c.OK) {la pre la' pre' : Str} {al : List Str}
include hc

/-- a node: its children list in brackets, if any, then its own text -/
theorem readsTree_node (hla : la = [] ∨ la' = la) (hpre : al = [] ∨ pre' = pre) (i : Nat) (n : Str) (a : Attrs)
    (cs : List Tree) (hrec : cs ≠ [] → ReadsList c la pre la' pre' al cs) (r : Bool) :
    ReadsTree c la pre la' pre' al r (.node i n a cs) := by
  intro w s hR hg hlen hattr hw
  obtain ⟨hok, hq, hcs⟩ := good_node hg
  rw [allNodes_node] at hattr
  have hn : n ≠ [] := hok.1
  have hd : dupNames (imgL la al cs) = false := dupNames_imgL la al _ hok
  rw [write_node] at hw
  obtain ⟨ns, hns, hw⟩ := Option.bind_eq_some_iff.1 hw
  obtain ⟨p1, hp1, hgo1⟩ := go_nameStr hc (pre' := pre') (a := a) hla hR hn hq hd hlen.1 hns
  obtain ⟨p, hp, hgo2⟩ := go_attrStr hc (la := la) (a := a) hpre hR hattr.1 hp1
  have hkids : ∃ pfx, w = pfx ++ (ns ++ attrStr c (stdW la al pre) a) ∧
      ∀ rest, go c la' pre' s (pfx ++ rest) = go c la' pre' (kidsAt s (imgL la al cs)) rest := by
    cases cs with
    | nil => exact ⟨[], (Option.some.inj hw).symm, fun _ => by rw [imgL, kidsAt_nil s hR]; rfl⟩
    | cons d ds =>
      obtain ⟨kw, hkw, rfl⟩ := Option.map_eq_some_iff.1 hw
      refine ⟨'(' :: kw ++ [')'], by simp, fun rest => ?_⟩
      rw [List.append_assoc]
      exact go_parens hc hR
        (hrec (List.cons_ne_nil _ _) kw _ (ready_down s hR) hcs hlen.2 hattr.2 hkw) rest
  obtain ⟨pfx, rfl, hgo0⟩ := hkids
  exact ⟨p, hp, fun rest => by rw [List.append_assoc, hgo0, List.append_assoc, hgo1, hgo2]⟩

/-- the last child: `)` creates it -/
theorem readsList_last (t : Tree)
    (ht : ReadsTree c la pre la' pre' al false t) : ReadsList c la pre la' pre' al [t] := by
  intro w s hR hg hlen hattr hw rest
  obtain ⟨hgt, _⟩ := goodL_cons hg
  rw [allNodesL_cons] at hlen hattr
  obtain ⟨p, hp, hgo⟩ := ht w s hR hgt (lenTop_of_all hlen.1) hattr.1 hw
  rw [hgo, term_close hc rest hR hp, ← img_eq]
  rfl

/-- a child with siblings to follow: `,` creates it and the rest is read at the same depth -/
theorem readsList_cons (t u : Tree) (ts : List Tree)
    (ht : ReadsTree c la pre la' pre' al false t) (hts : ReadsList c la pre la' pre' al (u :: ts)) :
    ReadsList c la pre la' pre' al (t :: u :: ts) := by
  intro w s hR hg hlen hattr hw rest
  obtain ⟨hgt, hgts⟩ := goodL_cons hg
  rw [allNodesL_cons] at hlen hattr
  rw [writeL_cons_cons] at hw
  obtain ⟨wt, hwt, hw⟩ := Option.bind_eq_some_iff.1 hw
  obtain ⟨wr, hwr, rfl⟩ := Option.map_eq_some_iff.1 hw
  obtain ⟨p, hp, hgo⟩ := ht wt s hR hgt (lenTop_of_all hlen.1) hattr.1 hwt
  rw [List.append_assoc, hgo, List.cons_append,
    term_sep hc _ hR hp, ← img_eq,
    hts wr (nodeAt s (img la al false t)) (ready_nodeAt s _ hR) hgts hlen.2 hattr.2 hwr rest]
  simp only [nodeAt, upd_same, upd_upd, List.append_assoc, List.singleton_append]
  rfl

mutual
theorem go_write (hla : la = [] ∨ la' = la) (hpre : al = [] ∨ pre' = pre) :
    ∀ (t : Tree) (r : Bool), ReadsTree c la pre la' pre' al r t
  | .node i n a cs => readsTree_node hc hla hpre i n a cs (go_writeL hla hpre cs)
theorem go_writeL (hla : la = [] ∨ la' = la) (hpre : al = [] ∨ pre' = pre) :
    ∀ (ts : List Tree), ts ≠ [] → ReadsList c la pre la' pre' al ts
  | [] => fun h => absurd rfl h
  | [t] => fun _ => readsList_last hc t (go_write hla hpre t false)
  | t :: u :: ts => fun _ => readsList_cons hc t u ts (go_write hla hpre t false)
      (go_writeL hla hpre (u :: ts) (List.cons_ne_nil _ _))
end

end

theorem go_list (c : Chars) (hc : c.OK) (la pre : Str) (al : List Str) : ∀ (ts : List Tree), ts ≠ [] →
    ∀ (w : Str) (s : PState), Ready s → GoodL c ts → AllNodesL (LenNode la) ts → AllNodesL (AttrNode c.quote al) ts →
    writeL c (stdW la al pre) ts = some w →
    ∀ rest, go c la pre s (w ++ ')' :: rest)
      = go c la pre { s with depth := s.depth - 1, dn := upd s.dn s.depth (s.dn s.depth ++ imgL la al ts) } rest :=
  go_writeL hc (.inr rfl) (.inr rfl)

/-! ### the whole string -/

theorem write_ne_nil {c : Chars} {la : Str} {al : List Str} {pre : Str} {r : Bool} {t : Tree} {w : Str}
    (hok : NodeOK t) (hlen : LenTop la r t) (h : write c (stdW la al pre) r t = some w) : w ≠ [] := by
  cases t with
  | node i n a cs =>
    obtain ⟨x, hns⟩ := nameStr_std c la al pre r n a cs.isEmpty hlen.1
    have hne : serialize c n ++ x ≠ [] := fun e => serialize_ne_nil c n hok.1 (List.append_eq_nil_iff.1 e).1
    rw [write_node, hns, Option.bind_some] at h
    split at h
    · cases h
      exact fun e => hne (List.append_eq_nil_iff.1 e).1
    · obtain ⟨kw, _, rfl⟩ := Option.map_eq_some_iff.1 h
      exact List.cons_ne_nil _ _

/-- `newick_to_tree(tree_to_newick(t, length_attr, attr_list, attr_prefix), length_attr', attr_prefix')` -/
theorem parse_write_gen {c : Chars} (hc : c.OK) {la pre la' pre' : Str} {al : List Str} (hla : la = [] ∨ la' = la)
    (hpre : al = [] ∨ pre' = pre) {t : Tree} {r : Bool} {w : Str}
    (hg : Good c t) (hlen : LenTop la r t) (hattr : AllNodes (AttrNode c.quote al) t)
    (hw : write c (stdW la al pre) r t = some w) :
    parse c la' pre' w = some (img la al r t) := by
  have hok := good_ok hg
  obtain ⟨p, hp, hgo⟩ := go_write hc hla hpre t r w PState.init ready_init hg hlen hattr hw
  have hrun : run c la' pre' w.length PState.init w = some p := by
    have := hgo []
    rwa [List.append_nil, go_nil] at this
  rw [parse, if_neg (write_ne_nil hok hlen hw), hrun, img_eq]
  exact term_end ready_init rfl rfl hp

theorem parse_write (c : Chars) (hc : c.OK) (la pre : Str) (al : List Str) (t : Tree) (r : Bool) (w : Str)
    (hg : Good c t) (hlen : LenTop la r t) (hattr : AllNodes (AttrNode c.quote al) t)
    (hw : write c (stdW la al pre) r t = some w) :
    parse c la pre w = some (img la al r t) :=
  parse_write_gen hc (.inr rfl) (.inr rfl) hg hlen hattr hw

/-! ### the writer is defined on such trees -/

mutual
theorem write_some (c : Chars) (la pre : Str) (al : List Str) : ∀ (t : Tree) (r : Bool), LenTop la r t →
    ∃ w, write c (stdW la al pre) r t = some w
  | .node i n a cs => by
    intro r h
    obtain ⟨x, hns⟩ := nameStr_std c la al pre r n a cs.isEmpty h.1
    obtain ⟨kw, hkw⟩ := writeL_some c la pre al cs h.2
    rw [write_node, hns, hkw]
    simp only [Option.bind_some, Option.map_some]
    split <;> exact ⟨_, rfl⟩
theorem writeL_some (c : Chars) (la pre : Str) (al : List Str) : ∀ (ts : List Tree), AllNodesL (LenNode la) ts →
    ∃ w, writeL c (stdW la al pre) ts = some w
  | [] => fun _ => ⟨[], rfl⟩
  | [t] => fun h => write_some c la pre al t false (lenTop_of_all ((allNodesL_cons _ _ _).1 h).1)
  | t :: u :: ts => by
    intro h
    rw [allNodesL_cons] at h
    obtain ⟨w1, h1⟩ := write_some c la pre al t false (lenTop_of_all h.1)
    obtain ⟨w2, h2⟩ := writeL_some c la pre al (u :: ts) h.2
    rw [writeL_cons_cons, h1, h2]
    exact ⟨_, rfl⟩
end

/-! ### a decidable sufficient check for `AttrNode` (used by the non-vacuity examples) -/

def valOK (q : Char) : Val → Bool
  | .str v => !v.contains q
  | v => !truthy v

theorem attrNode_of_check (q : Char) (al : List Str) (u : Tree)
    (h : al.all (fun k => k != [] && !k.contains q && valOK q (getAttr u.attrs k)) = true) : AttrNode q al u := by
  intro k hk
  have := List.all_eq_true.mp h k hk
  simp only [Bool.and_eq_true, bne_iff_ne, ne_eq, Bool.not_eq_true', List.contains_eq_mem, decide_eq_false_iff_not] at this
  obtain ⟨⟨h1, h2⟩, h3⟩ := this
  refine ⟨h1, h2, fun ht => ?_⟩
  generalize getAttr u.attrs k = v at h3 ht
  cases v with
  | str v => exact ⟨v, rfl, by simpa [valOK] using h3⟩
  | _ => simp [valOK, ht] at h3

end Newick
