import BigtreeProofs.Lemmas.DagAttrs
/-! What the exporters write as attributes: `selAttrs`, `sortByKey`, `Row.align`, `columnsOf`. -/

namespace Dag
open List

/-- the attribute part of an exported entry / row of node `x` (before column alignment) -/
def expAttrs (g : Dag) (sel : AttrSel) (x : Nat) : Attrs := attrUpdate [] (selAttrs sel (g.attrs x))

theorem nodup_keysOf_expAttrs (g : Dag) (sel : AttrSel) (x : Nat) :
    (keysOf (expAttrs g sel x)).Nodup :=
  nodup_keysOf_attrUpdate (a := []) nodup_nil _

/-! ### sortByKey -/

theorem insertByKey_perm (kv : Str × Val) (l : Attrs) : (insertByKey kv l).Perm (kv :: l) := by
  induction l with
  | nil => exact Perm.refl _
  | cons x xs ih =>
    simp only [insertByKey]
    split
    · exact Perm.refl _
    · exact (Perm.cons x ih).trans (Perm.swap kv x xs)

theorem sortByKey_perm (a : Attrs) : (sortByKey a).Perm a := by
  unfold sortByKey
  induction a with
  | nil => exact Perm.refl _
  | cons x xs ih =>
    rw [foldr_cons]
    exact (insertByKey_perm x _).trans (Perm.cons x ih)

theorem nodup_keysOf_sortByKey {a : Attrs} (h : (keysOf a).Nodup) : (keysOf (sortByKey a)).Nodup :=
  (((sortByKey_perm a).map _).nodup_iff).2 h

theorem lookup_sortByKey {a : Attrs} (h : (keysOf a).Nodup) (k : Str) :
    (sortByKey a).lookup k = a.lookup k :=
  lookup_congr (nodup_keysOf_sortByKey h) h (fun _ => (sortByKey_perm a).mem_iff) k

/-- `all_attrs=True` writes exactly the public attributes (not `name`, not `_…`) -/
theorem lookup_expAttrs_all {g : Dag} {x : Nat} (h : (keysOf (g.attrs x)).Nodup) (k : Str) :
    (expAttrs g .all x).lookup k =
      if k != "name".toList && k.head? != some '_' then (g.attrs x).lookup k else none := by
  have hf := nodup_keysOf_filter h fun kv => kv.1 != "name".toList && kv.1.head? != some '_'
  rw [expAttrs, selAttrs, lookup_attrUpdate_nodup [] (nodup_keysOf_sortByKey hf), lookup_sortByKey hf,
    lookup_nil, Option.or_none]
  exact lookup_filter_key (g.attrs x) (fun k => k != "name".toList && k.head? != some '_') k

/-! ### DataFrame columns -/

/-- one row's contribution to the column list -/
def addKeys (cols : List Str) (a : Attrs) : List Str :=
  a.foldl (fun cs kv => if kv.1 ∈ cs then cs else cs ++ [kv.1]) cols

theorem addKeys_spec (a : Attrs) : ∀ (cols : List Str), cols.Nodup →
    (addKeys cols a).Nodup ∧ (∀ k ∈ cols, k ∈ addKeys cols a) ∧ ∀ k ∈ keysOf a, k ∈ addKeys cols a := by
  induction a with
  | nil => exact fun cols h => ⟨h, fun _ hk => hk, fun _ hk => nomatch hk⟩
  | cons kv a ih =>
    intro cols h
    have step : (if kv.1 ∈ cols then cols else cols ++ [kv.1]).Nodup ∧
        (∀ k ∈ cols, k ∈ (if kv.1 ∈ cols then cols else cols ++ [kv.1])) ∧
        kv.1 ∈ (if kv.1 ∈ cols then cols else cols ++ [kv.1]) := by
      split
      · exact ⟨h, fun _ hk => hk, ‹_›⟩
      · exact ⟨nodup_snoc.2 ⟨h, ‹_›⟩, fun _ hk => mem_append_left _ hk,
          mem_append_right _ (mem_singleton.2 rfl)⟩
    obtain ⟨h1, h2, h3⟩ := ih _ step.1
    exact ⟨h1, fun k hk => h2 k (step.2.1 k hk), forall_mem_cons.2 ⟨h2 _ step.2.2, h3⟩⟩

theorem columnsOf_eq (rows : List Row) :
    columnsOf rows = rows.foldl (fun cols r => addKeys cols r.attrs) [] := rfl

theorem columnsOf_spec_aux : ∀ (rows : List Row) (cols : List Str), cols.Nodup →
    (rows.foldl (fun cols r => addKeys cols r.attrs) cols).Nodup ∧
    (∀ k ∈ cols, k ∈ rows.foldl (fun cols r => addKeys cols r.attrs) cols) ∧
    ∀ r ∈ rows, ∀ k ∈ keysOf r.attrs, k ∈ rows.foldl (fun cols r => addKeys cols r.attrs) cols := by
  intro rows
  induction rows with
  | nil => exact fun cols h => ⟨h, fun _ hk => hk, fun _ hr => nomatch hr⟩
  | cons r rows ih =>
    intro cols h
    obtain ⟨a1, a2, a3⟩ := addKeys_spec r.attrs cols h
    obtain ⟨h1, h2, h3⟩ := ih _ a1
    exact ⟨h1, fun k hk => h2 k (a2 k hk), forall_mem_cons.2 ⟨fun k hk => h2 k (a3 k hk), h3⟩⟩

theorem nodup_columnsOf (rows : List Row) : (columnsOf rows).Nodup :=
  (columnsOf_spec_aux rows [] nodup_nil).1

theorem mem_columnsOf {rows : List Row} {r : Row} (hr : r ∈ rows) {k : Str}
    (hk : k ∈ keysOf r.attrs) : k ∈ columnsOf rows :=
  (columnsOf_spec_aux rows [] nodup_nil).2.2 r hr k hk

/-! ### aligned rows read back (nulls dropped) -/

theorem keysOf_map_cols (cols : List Str) (f : Str → Val) :
    keysOf (cols.map fun c => (c, f c)) = cols :=
  (map_map ..).trans (map_id cols)

theorem lookup_map_cols (cols : List Str) (f : Str → Val) (k : Str) :
    (cols.map fun c => (c, f c)).lookup k = if k ∈ cols then some (f k) else none := by
  induction cols with
  | nil => rfl
  | cons c cols ih =>
    rw [map_cons, lookup_cons', ih]
    by_cases h : k = c
    · subst h
      rw [if_pos rfl, if_pos mem_cons_self]
    · rw [if_neg h]
      by_cases hm : k ∈ cols
      · rw [if_pos hm, if_pos (mem_cons_of_mem _ hm)]
      · rw [if_neg hm, if_neg fun h' => (mem_cons.1 h').elim h hm]

/-- what `dataframe_to_dag` reads from an aligned row: the non-null values of the original -/
theorem lookup_nonNull_align {cols : List Str} (hc : cols.Nodup) {a : Attrs}
    (hsub : ∀ k ∈ keysOf a, k ∈ cols) (k : Str) :
    (nonNull (cols.map fun c => (c, (a.lookup c).getD .null))).lookup k =
      match a.lookup k with
      | some .null => none
      | o => o := by
  rw [lookup_nonNull ((keysOf_map_cols ..).symm ▸ hc), lookup_map_cols]
  cases hl : a.lookup k with
  | none => by_cases hk : k ∈ cols <;> simp [hk]
  | some v => rw [if_pos (hsub k (mem_map_of_mem (f := (·.1)) (mem_of_lookup_eq_some hl)))]; rfl

end Dag
