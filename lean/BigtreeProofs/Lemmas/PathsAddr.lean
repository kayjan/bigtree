import BigtreeModel.Paths
/-!
# Addresses into a tree (C05)

`nodeAt`, `modifyAt`, `namesAlong`, and what a modification that keeps id and name of the modified
node and only appends children (`Grows`) does to the nodes of a tree: where the old nodes are
(`nodeAt_modifyAt_grows`) and where new ones can be (`nodeAt_modifyAt_new`).
-/

namespace Paths

@[simp] theorem nodeAt_nil (t : Tree) : nodeAt [] t = some t := rfl

theorem nodeAt_cons (k : Nat) (ks : Addr) (t : Tree) :
    nodeAt (k :: ks) t = (t.children[k]?).bind (nodeAt ks) := by
  simp only [nodeAt]
  cases t.children[k]? <;> rfl

theorem nodeAt_cons_eq_some {k : Nat} {ks : Addr} {t n : Tree} :
    nodeAt (k :: ks) t = some n ↔ ∃ c, t.children[k]? = some c ∧ nodeAt ks c = some n := by
  rw [nodeAt_cons, Option.bind_eq_some_iff]

theorem nodeAt_append (a b : Addr) : ∀ (t : Tree), nodeAt (a ++ b) t = (nodeAt a t).bind (nodeAt b) := by
  induction a with
  | nil => intro t; rfl
  | cons k ks ih =>
    intro t
    simp only [List.cons_append, nodeAt_cons]
    cases t.children[k]? with
    | none => rfl
    | some c => exact ih c

theorem nodeAt_snoc_eq_some {a : Addr} {k : Nat} {t n : Tree} :
    nodeAt (a ++ [k]) t = some n ↔ ∃ p, nodeAt a t = some p ∧ p.children[k]? = some n := by
  simp only [nodeAt_append, Option.bind_eq_some_iff, nodeAt_cons_eq_some, nodeAt_nil, Option.some.injEq,
    exists_eq_right]

@[simp] theorem namesAlong_nil (t : Tree) : namesAlong [] t = [t.name] := rfl

theorem namesAlong_cons (k : Nat) (ks : Addr) (t c : Tree) (h : t.children[k]? = some c) :
    namesAlong (k :: ks) t = t.name :: namesAlong ks c := by
  simp only [namesAlong, h]

theorem namesAlong_head (a : Addr) (t : Tree) : (namesAlong a t).head? = some t.name := by
  cases a <;> rfl

theorem namesAlong_ne_nil (a : Addr) (t : Tree) : namesAlong a t ≠ [] := by
  cases a <;> exact List.cons_ne_nil _ _

theorem namesAlong_snoc (a : Addr) : ∀ (t p c : Tree) (k : Nat), nodeAt a t = some p →
    p.children[k]? = some c → namesAlong (a ++ [k]) t = namesAlong a t ++ [c.name] := by
  induction a with
  | nil =>
    intro t p c k hp hc
    cases hp
    simp only [List.nil_append, namesAlong, hc, List.cons_append]
  | cons j js ih =>
    intro t p c k hp hc
    obtain ⟨d, hj, hp⟩ := nodeAt_cons_eq_some.mp hp
    rw [List.cons_append, namesAlong_cons _ _ _ _ hj, namesAlong_cons _ _ _ _ hj, ih d p c k hp hc,
      List.cons_append]

theorem namesAlong_length (a : Addr) : ∀ (t p : Tree), nodeAt a t = some p →
    (namesAlong a t).length = a.length + 1 := by
  induction a with
  | nil => intro t p _; rfl
  | cons j js ih =>
    intro t p hp
    obtain ⟨d, hj, hp⟩ := nodeAt_cons_eq_some.mp hp
    rw [namesAlong_cons _ _ _ _ hj, List.length_cons, ih d p hp, List.length_cons]

theorem namesAlong_getLast (a : Addr) : ∀ (t p : Tree), nodeAt a t = some p →
    (namesAlong a t).getLast? = some p.name := by
  induction a with
  | nil => intro t p hp; cases hp; rfl
  | cons j js ih =>
    intro t p hp
    obtain ⟨d, hj, hp⟩ := nodeAt_cons_eq_some.mp hp
    rw [namesAlong_cons _ _ _ _ hj, List.getLast?_cons, ih d p hp]
    rfl

theorem modifyAt_nil (f : Tree → Tree) (t : Tree) : modifyAt f [] t = f t := by
  cases t; rfl

theorem modifyAt_cons (f : Tree → Tree) (k : Nat) (ks : Addr) (i n a cs) :
    modifyAt f (k :: ks) (.node i n a cs) = .node i n a (cs.modify k (modifyAt f ks)) := rfl

@[simp] theorem modifyAt_cons_name (f : Tree → Tree) (k : Nat) (ks : Addr) (t : Tree) :
    (modifyAt f (k :: ks) t).name = t.name := by cases t; rfl

@[simp] theorem modifyAt_cons_id (f : Tree → Tree) (k : Nat) (ks : Addr) (t : Tree) :
    (modifyAt f (k :: ks) t).id = t.id := by cases t; rfl

@[simp] theorem modifyAt_cons_attrs (f : Tree → Tree) (k : Nat) (ks : Addr) (t : Tree) :
    (modifyAt f (k :: ks) t).attrs = t.attrs := by cases t; rfl

@[simp] theorem modifyAt_cons_children (f : Tree → Tree) (k : Nat) (ks : Addr) (t : Tree) :
    (modifyAt f (k :: ks) t).children = t.children.modify k (modifyAt f ks) := by cases t; rfl

theorem modifyAt_name (f : Tree → Tree) (hn : ∀ t, (f t).name = t.name) (a : Addr) (t : Tree) :
    (modifyAt f a t).name = t.name := by
  cases a with
  | nil => rw [modifyAt_nil, hn]
  | cons => exact modifyAt_cons_name ..

theorem map_name_modify (cs : List Tree) (k : Nat) (g : Tree → Tree) (h : ∀ d, (g d).name = d.name) :
    (cs.modify k g).map Tree.name = cs.map Tree.name := by
  induction cs generalizing k with
  | nil => rw [List.modify_nil]
  | cons c cs ih =>
    cases k with
    | zero => simp only [List.modify_zero_cons, List.map_cons, h]
    | succ k => simp only [List.modify_succ_cons, List.map_cons, ih]

theorem nodeAt_modifyAt_self (f : Tree → Tree) (a : Addr) : ∀ (t : Tree),
    nodeAt a (modifyAt f a t) = (nodeAt a t).map f := by
  induction a with
  | nil => intro t; rw [modifyAt_nil]; rfl
  | cons k ks ih =>
    intro t
    rw [nodeAt_cons, nodeAt_cons, modifyAt_cons_children, List.getElem?_modify_eq]
    cases t.children[k]? with
    | none => rfl
    | some c => exact ih c

/-! ## modifications that only grow the tree -/

/-- A modification that keeps id and name and only appends children. -/
structure Grows (f : Tree → Tree) : Prop where
  id : ∀ t, (f t).id = t.id
  name : ∀ t, (f t).name = t.name
  children : ∀ t, ∃ ext, (f t).children = t.children ++ ext

theorem Grows.getElem? {f : Tree → Tree} (hf : Grows f) (t c : Tree) (k : Nat)
    (h : t.children[k]? = some c) : (f t).children[k]? = some c := by
  obtain ⟨ext, he⟩ := hf.children t
  rw [he, List.getElem?_append_left (List.getElem?_eq_some_iff.mp h).1]
  exact h

theorem nodeAt_modifyAt_grows {f : Tree → Tree} (hf : Grows f) (a : Addr) :
    ∀ (b : Addr) (t n : Tree), nodeAt b t = some n →
      ∃ n', nodeAt b (modifyAt f a t) = some n' ∧ n'.id = n.id ∧ n'.name = n.name ∧
        namesAlong b (modifyAt f a t) = namesAlong b t ∧
        (b ≠ a → n'.attrs = n.attrs ∧ n'.children.map Tree.name = n.children.map Tree.name) ∧
        (b = a → n' = f n) := by
  induction a with
  | nil =>
    intro b t n hn
    rw [modifyAt_nil]
    cases b with
    | nil =>
      cases hn
      exact ⟨f t, rfl, hf.id t, hf.name t, congrArg (· :: []) (hf.name t), fun h => absurd rfl h, fun _ => rfl⟩
    | cons k ks =>
      obtain ⟨c, hk, hn⟩ := nodeAt_cons_eq_some.mp hn
      have hk' := hf.getElem? t c k hk
      refine ⟨n, nodeAt_cons_eq_some.mpr ⟨c, hk', hn⟩, rfl, rfl, ?_, fun _ => ⟨rfl, rfl⟩, fun h => by cases h⟩
      rw [namesAlong_cons _ _ _ _ hk', namesAlong_cons _ _ _ _ hk, hf.name]
  | cons j js ih =>
    intro b t n hn
    cases b with
    | nil =>
      cases hn
      refine ⟨_, rfl, modifyAt_cons_id .., modifyAt_cons_name .., congrArg (· :: []) (modifyAt_cons_name ..),
        fun _ => ⟨modifyAt_cons_attrs .., ?_⟩, fun h => by cases h⟩
      rw [modifyAt_cons_children]
      exact map_name_modify _ _ _ (modifyAt_name _ hf.name js)
    | cons k ks =>
      obtain ⟨c, hk, hc⟩ := nodeAt_cons_eq_some.mp hn
      by_cases hjk : j = k
      · subst hjk
        have hk' : (modifyAt f (j :: js) t).children[j]? = some (modifyAt f js c) := by
          rw [modifyAt_cons_children, List.getElem?_modify_eq, hk]; rfl
        obtain ⟨n', h1, h2, h3, h4, h5, h6⟩ := ih ks c n hc
        refine ⟨n', nodeAt_cons_eq_some.mpr ⟨_, hk', h1⟩, h2, h3, ?_,
          fun hne => h5 (fun e => hne (by rw [e])), fun he => h6 (List.cons.inj he).2⟩
        rw [namesAlong_cons _ _ _ _ hk', namesAlong_cons _ _ _ _ hk, h4, modifyAt_cons_name]
      · have hk' : (modifyAt f (j :: js) t).children[k]? = some c := by
          rw [modifyAt_cons_children, List.getElem?_modify_ne _ _ hjk, hk]
        refine ⟨n, nodeAt_cons_eq_some.mpr ⟨c, hk', hc⟩, rfl, rfl, ?_, fun _ => ⟨rfl, rfl⟩,
          fun he => absurd (List.cons.inj he).1.symm hjk⟩
        rw [namesAlong_cons _ _ _ _ hk', namesAlong_cons _ _ _ _ hk, modifyAt_cons_name]

theorem namesAlong_modifyAt_grows {f : Tree → Tree} (hf : Grows f) (a b : Addr) (t n : Tree)
    (hn : nodeAt b t = some n) : namesAlong b (modifyAt f a t) = namesAlong b t := by
  obtain ⟨_, _, _, _, h, _⟩ := nodeAt_modifyAt_grows hf a b t n hn
  exact h

theorem nodeAt_modifyAt_new {f : Tree → Tree} (hf : Grows f) (a : Addr) :
    ∀ (b : Addr) (t p n' : Tree), nodeAt a t = some p → nodeAt b t = none →
      nodeAt b (modifyAt f a t) = some n' →
      ∃ k ks, b = a ++ k :: ks ∧ p.children.length ≤ k ∧ nodeAt (k :: ks) (f p) = some n' := by
  induction a with
  | nil =>
    intro b t p n' hp hb hn'
    cases hp
    rw [modifyAt_nil] at hn'
    cases b with
    | nil => cases hb
    | cons k ks =>
      refine ⟨k, ks, rfl, Nat.le_of_not_lt fun hlt => ?_, hn'⟩
      have hk := List.getElem?_eq_getElem hlt
      rw [nodeAt_cons, hf.getElem? t _ k hk] at hn'
      rw [nodeAt_cons, hk, hn'] at hb
      cases hb
  | cons j js ih =>
    intro b t p n' hp hb hn'
    obtain ⟨d, hj, hp⟩ := nodeAt_cons_eq_some.mp hp
    cases b with
    | nil => cases hb
    | cons k ks =>
      rw [nodeAt_cons] at hb
      rw [nodeAt_cons, modifyAt_cons_children] at hn'
      by_cases hjk : j = k
      · subst hjk
        rw [List.getElem?_modify_eq, hj] at hn'
        rw [hj] at hb
        obtain ⟨k', ks', rfl, h1, h2⟩ := ih ks d p n' hp hb hn'
        exact ⟨k', ks', rfl, h1, h2⟩
      · rw [List.getElem?_modify_ne _ _ hjk, hb] at hn'
        cases hn'

/-! ## the two modifications of `add_path_to_tree` -/

@[simp] theorem appendChild_children (new t : Tree) : (appendChild new t).children = t.children ++ [new] := by
  cases t; rfl
@[simp] theorem appendChild_attrs (new t : Tree) : (appendChild new t).attrs = t.attrs := by
  cases t; rfl
@[simp] theorem appendChild_name (new t : Tree) : (appendChild new t).name = t.name := by
  cases t; rfl
@[simp] theorem appendChild_id (new t : Tree) : (appendChild new t).id = t.id := by
  cases t; rfl
@[simp] theorem setAttrs_children (a : Attrs) (t : Tree) : (setAttrs a t).children = t.children := by
  cases t; rfl
@[simp] theorem setAttrs_attrs (a : Attrs) (t : Tree) : (setAttrs a t).attrs = updateAttrs t.attrs a := by
  cases t; rfl
@[simp] theorem setAttrs_name (a : Attrs) (t : Tree) : (setAttrs a t).name = t.name := by
  cases t; rfl
@[simp] theorem setAttrs_id (a : Attrs) (t : Tree) : (setAttrs a t).id = t.id := by
  cases t; rfl

theorem grows_appendChild (new : Tree) : Grows (appendChild new) :=
  ⟨appendChild_id new, appendChild_name new, fun t => ⟨[new], appendChild_children new t⟩⟩

theorem grows_setAttrs (a : Attrs) : Grows (setAttrs a) :=
  ⟨setAttrs_id a, setAttrs_name a, fun t => ⟨[], by rw [setAttrs_children, List.append_nil]⟩⟩

end Paths
