import BigtreeModel.Modify
import BigtreeProofs.Lemmas.ModifyFold
/-!
# C08 helper lemmas: the pre-order entry list (`flat`) of a tree under the primitive edits

What an edit at an address (`modifyAt`, `removeAt`, appending a child, `grow`) does to the entry list comes from
`flat_zip`: the entries below an address form one block, and the edit replaces that block.  A deep copy
(`relabel`) has the entry list of its origin with fresh ids (`RelabelOK`).
-/
namespace Modify

/-! ### equations for `nodesRel`, `flat` -/

theorem nodesRel_node (i n a cs) :
    nodesRel (.node i n a cs) = ([], .node i n a cs) :: nodesRelL cs := by
  simp [nodesRel]

@[simp] theorem nodesRelL_nil : nodesRelL [] = [] := by simp [nodesRelL]
theorem nodesRelL_cons (c cs) :
    nodesRelL (c :: cs) = (nodesRel c).map (fun pr => (c.name :: pr.1, pr.2)) ++ nodesRelL cs := by
  simp [nodesRelL]

theorem nodesRelL_append (l r : List Tree) : nodesRelL (l ++ r) = nodesRelL l ++ nodesRelL r := by
  induction l with
  | nil => simp
  | cons c l ih => simp [nodesRelL_cons, ih]

/-- push an entry of a child below the child's name -/
def pre (n : Str) (e : Entry) : Entry := (n :: e.1, e.2)

theorem flat_node (i n a cs) : flat (.node i n a cs) = ([], i, a) :: flatL cs := by
  simp [flat, flatL, nodesRel_node]

@[simp] theorem flatL_nil : flatL [] = [] := by simp [flatL]
theorem flatL_cons (c cs) : flatL (c :: cs) = (flat c).map (pre c.name) ++ flatL cs := by
  simp [flatL, flat, nodesRelL_cons, pre, Function.comp_def]
theorem flatL_append (l r : List Tree) : flatL (l ++ r) = flatL l ++ flatL r := by
  simp [flatL, nodesRelL_append]

theorem flat_eq (t : Tree) : flat t = ([], t.id, t.attrs) :: flatL t.children := by
  cases t; simp [flat_node]

theorem mem_nodesRelL {cs : List Tree} {pr : List Str × Tree} :
    pr ∈ nodesRelL cs ↔ ∃ c ∈ cs, ∃ q ∈ nodesRel c, pr = (c.name :: q.1, q.2) := by
  induction cs with
  | nil => simp
  | cons d cs ih =>
    simp only [nodesRelL_cons, List.mem_append, List.mem_map, ih, List.mem_cons, exists_eq_or_imp]
    exact or_congr_left ⟨fun ⟨q, hq, h⟩ => ⟨q, hq, h.symm⟩, fun ⟨q, hq, h⟩ => ⟨q, hq, h.symm⟩⟩

theorem mem_flatL {cs : List Tree} {e : Entry} :
    e ∈ flatL cs ↔ ∃ c ∈ cs, ∃ e' ∈ flat c, e = pre c.name e' := by
  simp only [flatL, flat, List.mem_map, mem_nodesRelL]
  constructor
  · rintro ⟨_, ⟨c, hc, q, hq, rfl⟩, rfl⟩; exact ⟨c, hc, _, ⟨q, hq, rfl⟩, rfl⟩
  · rintro ⟨c, hc, _, ⟨q, hq, rfl⟩, rfl⟩; exact ⟨_, ⟨c, hc, q, hq, rfl⟩, rfl⟩

/-! ### sibling uniqueness -/

theorem sibUnique_node {i n a cs} :
    SibUnique (.node i n a cs) ↔ (cs.map Tree.name).Nodup ∧ ∀ c ∈ cs, SibUnique c := by
  unfold SibUnique
  rw [nodesRel_node]
  constructor
  · intro h
    refine ⟨by simpa using h _ (List.mem_cons_self ..), fun c hc pr hpr => ?_⟩
    exact h (c.name :: pr.1, pr.2) (List.mem_cons_of_mem _ (mem_nodesRelL.2 ⟨c, hc, pr, hpr, rfl⟩))
  · rintro ⟨h1, h2⟩ pr hpr
    rcases List.mem_cons.1 hpr with rfl | hpr
    · simpa using h1
    · obtain ⟨c, hc, q, hq, rfl⟩ := mem_nodesRelL.1 hpr
      exact h2 c hc q hq

theorem SibUnique.kids {t : Tree} (h : SibUnique t) : (t.children.map Tree.name).Nodup := by
  cases t; exact (sibUnique_node.1 h).1
theorem SibUnique.child {t : Tree} (h : SibUnique t) {c} (hc : c ∈ t.children) : SibUnique c := by
  cases t; exact (sibUnique_node.1 h).2 c hc

/-! ### children addressed by name -/

theorem findChild_split {n : Str} {cs : List Tree} {x : Tree} (h : findChild n cs = some x) :
    ∃ l r, cs = l ++ x :: r ∧ (∀ y ∈ l, y.name ≠ n) ∧ x.name = n := by
  obtain ⟨hx, l, r, rfl, hl⟩ := List.find?_eq_some_iff_append.1 h
  exact ⟨l, r, rfl, fun y hy => by simpa using hl y hy, by simpa using hx⟩

theorem findChild_none {n : Str} {cs : List Tree} (h : findChild n cs = none) :
    ∀ y ∈ cs, y.name ≠ n := by
  unfold findChild at h
  intro y hy
  have := List.find?_eq_none.1 h y hy
  simpa using this

theorem findChild_of_split {n : Str} {l r : List Tree} {x : Tree} (hl : ∀ y ∈ l, y.name ≠ n)
    (hx : x.name = n) : findChild n (l ++ x :: r) = some x :=
  List.find?_eq_some_iff_append.2 ⟨by simpa using hx, l, r, rfl, fun y hy => by simpa using hl y hy⟩

theorem findChild_of_mem {cs : List Tree} {c : Tree} (hc : c ∈ cs) (hnd : (cs.map Tree.name).Nodup) :
    findChild c.name cs = some c := by
  obtain ⟨l, r, rfl⟩ := List.append_of_mem hc
  refine findChild_of_split (fun y hy h => ?_) rfl
  rw [List.map_append, List.map_cons, List.nodup_append] at hnd
  exact hnd.2.2 _ (List.mem_map.2 ⟨y, hy, h⟩) _ List.mem_cons_self rfl

theorem names_ne_of_nodup {n : Str} {l r : List Tree} {x : Tree} (hx : x.name = n)
    (h : ((l ++ x :: r).map Tree.name).Nodup) : ∀ y ∈ r, y.name ≠ n := by
  intro y hy hyn
  rw [List.map_append, List.map_cons, List.nodup_append] at h
  have := (List.nodup_cons.1 h.2.1).1
  exact this (by rw [hx, ← hyn]; exact List.mem_map.2 ⟨y, hy, rfl⟩)

theorem mapChild_split {n : Str} {l r : List Tree} {x : Tree} (f : Tree → Tree)
    (hl : ∀ y ∈ l, y.name ≠ n) (hx : x.name = n) : mapChild n f (l ++ x :: r) = l ++ f x :: r := by
  induction l with
  | nil => simp [mapChild, hx]
  | cons c l ih =>
    have hc : c.name ≠ n := hl c (by simp)
    simp [mapChild, hc, ih (fun y hy => hl y (by simp [hy]))]

theorem eraseChild_split {n : Str} {l r : List Tree} {x : Tree}
    (hl : ∀ y ∈ l, y.name ≠ n) (hx : x.name = n) : eraseChild n (l ++ x :: r) = l ++ r := by
  induction l with
  | nil => simp [eraseChild, hx]
  | cons c l ih =>
    have hc : c.name ≠ n := hl c (by simp)
    simp [eraseChild, hc, ih (fun y hy => hl y (by simp [hy]))]

theorem mapChild_none {n : Str} {cs : List Tree} (f : Tree → Tree) (h : ∀ y ∈ cs, y.name ≠ n) :
    mapChild n f cs = cs := by
  induction cs with
  | nil => rfl
  | cons c cs ih =>
    have hc : c.name ≠ n := h c (by simp)
    simp [mapChild, hc, ih (fun y hy => h y (by simp [hy]))]

theorem eraseChild_none {n : Str} {cs : List Tree} (h : ∀ y ∈ cs, y.name ≠ n) :
    eraseChild n cs = cs := by
  induction cs with
  | nil => rfl
  | cons c cs ih =>
    have hc : c.name ≠ n := h c (by simp)
    simp [eraseChild, hc, ih (fun y hy => h y (by simp [hy]))]

theorem eraseChild_sublist (n : Str) : ∀ cs : List Tree, (eraseChild n cs).Sublist cs
  | [] => .slnil
  | c :: cs => by
    unfold eraseChild
    split
    · exact List.sublist_cons_self c cs
    · exact (eraseChild_sublist n cs).cons_cons c

theorem findChild_skip {m : Str} {x : Tree} (hx : x.name ≠ m) (l r : List Tree) :
    findChild m (l ++ x :: r) = findChild m (l ++ r) := by
  unfold findChild
  rw [List.find?_append, List.find?_append, List.find?_cons_of_neg (by simpa using hx)]

theorem findChild_eraseChild_ne {n m : Str} (hnm : m ≠ n) (cs : List Tree) :
    findChild m (eraseChild n cs) = findChild m cs := by
  cases hc : findChild n cs with
  | none => rw [eraseChild_none (findChild_none hc)]
  | some x =>
    obtain ⟨l, r, rfl, hl, hx⟩ := findChild_split hc
    rw [eraseChild_split hl hx, findChild_skip fun h => hnm (h.symm.trans hx)]

theorem findChild_mapChild_ne {n m : Str} (hnm : m ≠ n) (g : Tree → Tree)
    (hg : ∀ x, (g x).name = x.name) (cs : List Tree) :
    findChild m (mapChild n g cs) = findChild m cs := by
  cases hc : findChild n cs with
  | none => rw [mapChild_none g (findChild_none hc)]
  | some x =>
    obtain ⟨l, r, rfl, hl, hx⟩ := findChild_split hc
    rw [mapChild_split g hl hx, findChild_skip fun h => hnm (h.symm.trans hx),
      findChild_skip fun h => hnm (h.symm.trans ((hg x).trans hx))]

theorem findChild_mapChild_eq {n : Str} (g : Tree → Tree) (hg : ∀ x, (g x).name = x.name)
    (cs : List Tree) : findChild n (mapChild n g cs) = (findChild n cs).map g := by
  cases hc : findChild n cs with
  | none => rw [mapChild_none g (findChild_none hc), hc]; rfl
  | some x =>
    obtain ⟨l, r, rfl, hl, hx⟩ := findChild_split hc
    rw [mapChild_split g hl hx, findChild_of_split hl ((hg x).trans hx)]
    rfl

theorem mapChild_mapChild (n : Str) (f g : Tree → Tree) (hg : ∀ x, (g x).name = x.name) (cs : List Tree) :
    mapChild n f (mapChild n g cs) = mapChild n (f ∘ g) cs := by
  cases hc : findChild n cs with
  | none =>
    have h := findChild_none hc
    rw [mapChild_none g h, mapChild_none f h, mapChild_none _ h]
  | some x =>
    obtain ⟨l, r, rfl, hl, hx⟩ := findChild_split hc
    rw [mapChild_split g hl hx, mapChild_split f hl ((hg x).trans hx), mapChild_split _ hl hx]
    rfl

/-! ### `under`, `rebase` and filters on entry lists -/

theorem under_nil (e : Entry) : under [] e = true := by simp [under]
theorem under_pre_cons (n m : Str) (q : List Str) (e : Entry) :
    under (m :: q) (pre n e) = (m == n && under q e) := by
  simp [under, pre, List.isPrefixOf]
theorem under_cons_root (m : Str) (q : List Str) (x : Nat × Attrs) : under (m :: q) ([], x) = false := by
  simp [under, List.isPrefixOf]

theorem rebase_nil (e : Entry) : rebase [] e = e := rfl
theorem pre_rebase (n : Str) (q : List Str) (e : Entry) : pre n (rebase q e) = rebase (n :: q) e := rfl

theorem isPrefixOf_iff {p q : List Str} : p.isPrefixOf q = true ↔ ∃ r, q = p ++ r := by
  rw [List.isPrefixOf_iff_prefix]
  exact ⟨fun ⟨r, h⟩ => ⟨r, h.symm⟩, fun ⟨r, h⟩ => ⟨r, h.symm⟩⟩

theorem under_of_under_prefix {p r : List Str} {e : Entry} (h : under (p ++ r) e = true) :
    under p e = true := by
  obtain ⟨s, hs⟩ := isPrefixOf_iff.1 h
  exact isPrefixOf_iff.2 ⟨r ++ s, by rw [hs, List.append_assoc]⟩

theorem under_append_rebase (p q : List Str) (e : Entry) : under (p ++ q) (rebase p e) = under q e := by
  induction p with
  | nil => rfl
  | cons n p ih => simpa [under, rebase, List.isPrefixOf] using ih

theorem under_rebase_self (p : List Str) (e : Entry) : under p (rebase p e) = true := by
  have := under_append_rebase p [] e
  rwa [List.append_nil, under_nil] at this

theorem not_under_flatL {n : Str} {q : List Str} {l : List Tree} (hl : ∀ y ∈ l, y.name ≠ n) :
    ∀ e ∈ flatL l, under (n :: q) e = false := by
  intro e he
  obtain ⟨c, hc, e', _, rfl⟩ := mem_flatL.1 he
  rw [under_pre_cons, beq_false_of_ne (Ne.symm (hl c hc)), Bool.false_and]

theorem filter_not_under_flatL_none {n : Str} {q : List Str} {l : List Tree} (hl : ∀ y ∈ l, y.name ≠ n) :
    (flatL l).filter (fun e => !under (n :: q) e) = flatL l :=
  List.filter_eq_self.2 fun e he => by rw [not_under_flatL hl e he]; rfl

theorem filter_not_under_pre (n : Str) (l : List Entry) :
    (l.map (pre n)).filter (fun e => !under [n] e) = [] := by
  rw [List.filter_eq_nil_iff]
  intro e he
  obtain ⟨e', _, rfl⟩ := List.mem_map.1 he
  simp [under_pre_cons, under_nil]

theorem mem_filter_split {α} (p : α → Bool) (l : List α) (x : α) :
    x ∈ l ↔ x ∈ l.filter p ∨ x ∈ l.filter (fun y => !p y) := by
  simp only [List.mem_filter]
  constructor
  · intro h; cases hp : p x <;> simp [h]
  · rintro (h | h) <;> exact h.1

theorem filter_and_of_imp {α} {l : List α} {a b : α → Bool} (h : ∀ e ∈ l, a e = true → b e = true) :
    l.filter (fun e => a e && b e) = l.filter a := by
  apply List.filter_congr
  intro e he
  cases ha : a e with
  | false => rfl
  | true => exact h e he ha

theorem filter_comm {α} (p q : α → Bool) (l : List α) : (l.filter p).filter q = (l.filter q).filter p := by
  rw [List.filter_filter, List.filter_filter]
  exact List.filter_congr fun _ _ => Bool.and_comm _ _

/-! ### `getRel` -/

@[simp] theorem getRel_nil (t : Tree) : getRel [] t = some t := rfl
theorem getRel_cons (n : Str) (ns : List Str) (t : Tree) :
    getRel (n :: ns) t = (findChild n t.children).bind (getRel ns) := rfl

theorem getRel_append (p r : List Str) (t : Tree) :
    getRel (p ++ r) t = (getRel p t).bind (getRel r) := by
  induction p generalizing t with
  | nil => simp
  | cons n p ih =>
    simp only [List.cons_append, getRel_cons]
    cases findChild n t.children with
    | none => simp
    | some x => simp [ih]

/-- the step of an induction along an address that exists -/
theorem getRel_cons_some {n : Str} {ns : List Str} {i nm a cs} {X : Tree}
    (h : getRel (n :: ns) (.node i nm a cs) = some X) :
    ∃ l x r, cs = l ++ x :: r ∧ (∀ y ∈ l, y.name ≠ n) ∧ x.name = n ∧ getRel ns x = some X := by
  obtain ⟨x, hc, hX⟩ := Option.bind_eq_some_iff.1 h
  obtain ⟨l, r, rfl, hl, hx⟩ := findChild_split hc
  exact ⟨l, x, r, rfl, hl, hx, hX⟩

theorem getRel_name {p : List Str} {n : Str} {t X : Tree} (h : getRel (p ++ [n]) t = some X) :
    X.name = n := by
  rw [getRel_append] at h
  obtain ⟨Y, -, h⟩ := Option.bind_eq_some_iff.1 h
  obtain ⟨x, hx, h⟩ := Option.bind_eq_some_iff.1 h
  cases h
  exact beq_iff_eq.1 (List.find?_some (p := fun c : Tree => c.name == n) hx)

theorem modifyAt_name_of {q : List Str} {f : Tree → Tree} {t X : Tree} (hX : getRel q t = some X)
    (hf : (f X).name = X.name) : (modifyAt q f t).name = t.name := by
  cases q with
  | nil => cases hX; exact hf
  | cons n ns => cases t; rfl

theorem modifyAt_none {p : List Str} {f : Tree → Tree} {t : Tree} (h : getRel p t = none) :
    modifyAt p f t = t := by
  induction p generalizing t with
  | nil => simp at h
  | cons m p ih =>
    cases t with
    | node i nm a cs =>
      rw [getRel_cons] at h
      cases hc : findChild m cs with
      | none => simp [modifyAt, mapChild_none _ (findChild_none hc)]
      | some x =>
        simp [hc] at h
        obtain ⟨l, r, rfl, hl, hx⟩ := findChild_split hc
        simp [modifyAt, mapChild_split _ hl hx, ih h]

theorem getRel_modifyAt_self {q : List Str} {f : Tree → Tree} {t X : Tree} (hX : getRel q t = some X)
    (hf : (f X).name = X.name) : getRel q (modifyAt q f t) = some (f X) := by
  induction q generalizing t with
  | nil => cases hX; rfl
  | cons n ns ih =>
    cases t with
    | node i nm a cs =>
      obtain ⟨l, x, r, rfl, hl, hx, hX⟩ := getRel_cons_some hX
      have hn : (modifyAt ns f x).name = n := by rw [modifyAt_name_of hX hf, hx]
      rw [modifyAt, mapChild_split _ hl hx, getRel_cons, Tree.children_node, findChild_of_split hl hn]
      exact ih hX

theorem modifyAt_modifyAt (p : List Str) (f g : Tree → Tree) (hg : ∀ x, (g x).name = x.name) (t : Tree) :
    modifyAt p f (modifyAt p g t) = modifyAt p (f ∘ g) t := by
  induction p generalizing t with
  | nil => rfl
  | cons n p ih =>
    cases t with
    | node i nm a cs =>
      simp only [modifyAt]
      rw [mapChild_mapChild n _ _ (modifyAt_name _ _ hg)]
      congr 1
      have : (modifyAt p f ∘ modifyAt p g) = modifyAt p (f ∘ g) := funext ih
      rw [this]

theorem modifyAt_id (p : List Str) (t : Tree) : modifyAt p id t = t := by
  induction p generalizing t with
  | nil => rfl
  | cons n p ih =>
    cases t with
    | node i nm a cs =>
      have : modifyAt p id = id := funext ih
      simp only [modifyAt, this]
      congr 1
      induction cs with
      | nil => rfl
      | cons x cs ihc => simp only [mapChild]; split <;> simp [ihc]

theorem getRel_modifyAt_incomparable {p q : List Str} {g : Tree → Tree} (hg : ∀ x, (g x).name = x.name)
    {t : Tree} (h1 : ¬ p <+: q) (h2 : ¬ q <+: p) :
    getRel q (modifyAt p g t) = getRel q t := by
  induction p generalizing q t with
  | nil => exact absurd List.nil_prefix h1
  | cons n p ih =>
    cases q with
    | nil => exact absurd List.nil_prefix h2
    | cons m q =>
      cases t with
      | node i nm a cs =>
        simp only [modifyAt, getRel_cons, Tree.children_node]
        by_cases hnm : m = n
        · subst hnm
          rw [findChild_mapChild_eq _ (modifyAt_name _ _ hg)]
          cases findChild m cs with
          | none => rfl
          | some x =>
            exact ih (fun h => h1 (List.cons_prefix_cons.2 ⟨rfl, h⟩))
              (fun h => h2 (List.cons_prefix_cons.2 ⟨rfl, h⟩))
        · rw [findChild_mapChild_ne hnm _ (modifyAt_name _ _ hg)]

/-! ### the entry list around an address -/

/-- In pre-order the entries below an address `q` form one block: the entry list is `A ++ block ++ B`, an edit
of the node at `q` replaces the block, and with unique sibling names nothing in `A`, `B` lies below `q`. -/
theorem flat_zip {q : List Str} {t X : Tree} (hX : getRel q t = some X) :
    ∃ A B, flat t = A ++ (flat X).map (rebase q) ++ B ∧
      (∀ f : Tree → Tree, (f X).name = X.name →
        flat (modifyAt q f t) = A ++ (flat (f X)).map (rebase q) ++ B) ∧
      (SibUnique t → ∀ e ∈ A ++ B, under q e = false) := by
  induction q generalizing t with
  | nil =>
    cases hX
    have hid : ∀ L : List Entry, [] ++ L.map (rebase []) ++ [] = L := fun L => by
      rw [List.nil_append, List.append_nil]; exact List.map_id L
    exact ⟨[], [], (hid _).symm, fun f _ => (hid _).symm, fun _ e he => nomatch he⟩
  | cons n ns ih =>
    cases t with
    | node i nm a cs =>
      obtain ⟨l, x, r, rfl, hl, hx, hX⟩ := getRel_cons_some hX
      obtain ⟨A, B, h1, h2, h3⟩ := ih hX
      have hmid : ∀ L : List Entry, (L.map (rebase ns)).map (pre n) = L.map (rebase (n :: ns)) :=
        fun L => by rw [List.map_map]; rfl
      refine ⟨([], i, a) :: (flatL l ++ A.map (pre n)), B.map (pre n) ++ flatL r, ?_, fun f hf => ?_,
        fun hu e he => ?_⟩
      · rw [flat_node, flatL_append, flatL_cons, hx, h1, List.map_append, List.map_append, hmid]
        simp only [List.cons_append, List.append_assoc]
      · rw [modifyAt, mapChild_split _ hl hx, flat_node, flatL_append, flatL_cons, modifyAt_name_of hX hf, hx,
          h2 f hf, List.map_append, List.map_append, hmid]
        simp only [List.cons_append, List.append_assoc]
      · obtain ⟨hnd, hch⟩ := sibUnique_node.1 hu
        have h3 := h3 (hch x (by simp))
        have hpre : ∀ e' ∈ A ++ B, under (n :: ns) (pre n e') = false := fun e' he' => by
          rw [under_pre_cons, h3 e' he', Bool.and_false]
        simp only [List.cons_append, List.mem_cons, List.mem_append, List.mem_map] at he
        rcases he with rfl | (he | ⟨e', he', rfl⟩) | ⟨e', he', rfl⟩ | he
        · exact under_cons_root ..
        · exact not_under_flatL hl e he
        · exact hpre e' (List.mem_append_left _ he')
        · exact hpre e' (List.mem_append_right _ he')
        · exact not_under_flatL (names_ne_of_nodup hx hnd) e he

theorem filter_not_under_zip {q r : List Str} {A M B : List Entry} (h : ∀ e ∈ A ++ B, under q e = false) :
    (A ++ M ++ B).filter (fun e => !under (q ++ r) e) = A ++ M.filter (fun e => !under (q ++ r) e) ++ B := by
  have keep : ∀ L : List Entry, (∀ e ∈ L, e ∈ A ++ B) → L.filter (fun e => !under (q ++ r) e) = L := fun L hL =>
    List.filter_eq_self.2 fun e he => by
      cases hu : under (q ++ r) e
      · rfl
      · have := under_of_under_prefix hu
        rw [h e (hL e he)] at this; cases this
  rw [List.filter_append, List.filter_append, keep A fun e he => List.mem_append_left _ he,
    keep B fun e he => List.mem_append_right _ he]

theorem filter_not_under_rebase (q r : List Str) (L : List Entry) :
    (L.map (rebase q)).filter (fun e => !under (q ++ r) e) = (L.filter (fun e => !under r e)).map (rebase q) := by
  rw [List.filter_map]
  congr 1
  exact List.filter_congr fun e _ => by rw [Function.comp_apply, under_append_rebase]

theorem flat_modifyAt_not_under {q : List Str} {f : Tree → Tree} {t X : Tree}
    (hX : getRel q t = some X) (hf : (f X).name = X.name) :
    (flat (modifyAt q f t)).filter (fun e => !under q e) = (flat t).filter (fun e => !under q e) := by
  obtain ⟨A, B, h1, h2, -⟩ := flat_zip hX
  have hM : ∀ M : List Entry, (M.map (rebase q)).filter (fun e => !under q e) = [] := fun M =>
    List.filter_eq_nil_iff.2 fun e he => by
      obtain ⟨e', -, rfl⟩ := List.mem_map.1 he
      rw [under_rebase_self]; decide
  rw [h1, h2 f hf]
  simp only [List.filter_append, hM]

theorem flat_filter_under {q : List Str} {t X : Tree} (hX : getRel q t = some X) (hu : SibUnique t) :
    (flat t).filter (under q) = (flat X).map (rebase q) := by
  obtain ⟨A, B, h1, -, h3⟩ := flat_zip hX
  have out : ∀ L : List Entry, (∀ e ∈ L, e ∈ A ++ B) → L.filter (under q) = [] := fun L hL =>
    List.filter_eq_nil_iff.2 fun e he => by rw [h3 hu e (hL e he)]; decide
  rw [h1, List.filter_append, List.filter_append, out A fun e he => List.mem_append_left _ he,
    out B fun e he => List.mem_append_right _ he, List.nil_append, List.append_nil, List.filter_eq_self]
  intro e he
  obtain ⟨e', -, rfl⟩ := List.mem_map.1 he
  exact under_rebase_self q e'

/-! ### sibling uniqueness along an address -/

theorem SibUnique.sub {q : List Str} {t X : Tree} (hu : SibUnique t) (hX : getRel q t = some X) :
    SibUnique X := by
  induction q generalizing t with
  | nil => cases hX; exact hu
  | cons n ns ih =>
    cases t with
    | node i nm a cs =>
      obtain ⟨l, x, r, rfl, -, -, hX⟩ := getRel_cons_some hX
      exact ih ((sibUnique_node.1 hu).2 x (by simp)) hX

theorem SibUnique.modifyAt {q : List Str} {f : Tree → Tree} {t X : Tree} (hu : SibUnique t)
    (hX : getRel q t = some X) (hf : (f X).name = X.name) (hfu : SibUnique (f X)) :
    SibUnique (Modify.modifyAt q f t) := by
  induction q generalizing t with
  | nil => cases hX; exact hfu
  | cons n ns ih =>
    cases t with
    | node i nm a cs =>
      obtain ⟨l, x, r, rfl, hl, hx, hX⟩ := getRel_cons_some hX
      obtain ⟨hnd, hch⟩ := sibUnique_node.1 hu
      have hn : (Modify.modifyAt ns f x).name = x.name := modifyAt_name_of hX hf
      rw [Modify.modifyAt, mapChild_split _ hl hx, sibUnique_node]
      refine ⟨by simpa [hn] using hnd, fun c hc => ?_⟩
      rcases List.mem_append.1 hc with hc | hc
      · exact hch c (by simp [hc])
      · rcases List.mem_cons.1 hc with rfl | hc
        · exact ih (hch x (by simp)) hX
        · exact hch c (by simp [hc])

/-! ### paths and `getRel` -/

theorem mem_flat_of_getRel {q : List Str} {t X : Tree} (hX : getRel q t = some X) :
    (q, X.id, X.attrs) ∈ flat t := by
  obtain ⟨A, B, h1, -, -⟩ := flat_zip hX
  rw [h1, flat_eq X]
  exact List.mem_append_left _ (List.mem_append_right _
    (List.mem_map.2 ⟨_, List.mem_cons_self, by rw [rebase, List.append_nil]⟩))

theorem getRel_of_mem_flat {q : List Str} {t : Tree} {x : Nat × Attrs} (h : (q, x) ∈ flat t)
    (hu : SibUnique t) : ∃ X, getRel q t = some X ∧ X.id = x.1 ∧ X.attrs = x.2 := by
  induction q generalizing t x with
  | nil =>
    rw [flat_eq] at h
    rcases List.mem_cons.1 h with h | h
    · cases h; exact ⟨t, rfl, rfl, rfl⟩
    · obtain ⟨c, _, e', _, he⟩ := mem_flatL.1 h
      simp [pre] at he
  | cons n ns ih =>
    rw [flat_eq] at h
    rcases List.mem_cons.1 h with h | h
    · cases h
    · obtain ⟨c, hc, e', he', he⟩ := mem_flatL.1 h
      simp only [pre, Prod.mk.injEq, List.cons.injEq] at he
      obtain ⟨⟨rfl, rfl⟩, rfl⟩ := he
      obtain ⟨X, hX, h1, h2⟩ := ih (t := c) (x := e'.2) he' (hu.child hc)
      exact ⟨X, by rw [getRel_cons, findChild_of_mem hc hu.kids]; simpa using hX, h1, h2⟩

theorem mem_paths_iff {q : List Str} {t : Tree} (hu : SibUnique t) :
    q ∈ paths t ↔ (getRel q t).isSome := by
  constructor
  · intro h
    obtain ⟨e, he, rfl⟩ := List.mem_map.1 h
    obtain ⟨X, hX, _⟩ := getRel_of_mem_flat (q := e.1) (x := e.2) he hu
    simp [hX]
  · intro h
    obtain ⟨X, hX⟩ := Option.isSome_iff_exists.1 h
    exact List.mem_map.2 ⟨_, mem_flat_of_getRel hX, rfl⟩

theorem prefix_mem_paths {q r : List Str} {t : Tree} (hu : SibUnique t) (h : q ++ r ∈ paths t) :
    q ∈ paths t := by
  rw [mem_paths_iff hu] at h ⊢
  rw [getRel_append] at h
  cases hq : getRel q t with
  | none => simp [hq] at h
  | some _ => rfl

theorem mem_paths_sub {q r : List Str} {t X : Tree} (hX : getRel q t = some X) (hu : SibUnique t) :
    r ∈ paths X ↔ q ++ r ∈ paths t := by
  rw [mem_paths_iff hu, mem_paths_iff (hu.sub hX), getRel_append, hX]; rfl

theorem mem_paths_of_mem_nodesRel {t : Tree} {pr : List Str × Tree} (h : pr ∈ nodesRel t) :
    pr.1 ∈ paths t := by
  unfold paths flat
  rw [List.map_map]
  exact List.mem_map.2 ⟨pr, h, rfl⟩

theorem nodesRelL_filter_none {p : List Str} {l : List Tree} (hl : ∀ y ∈ l, [y.name] <+: p → False) :
    (nodesRelL l).filter (fun pr => pr.1 == p) = [] := by
  rw [List.filter_eq_nil_iff]
  intro pr hpr hp
  obtain ⟨x, hx, r, _, rfl⟩ := mem_nodesRelL.1 hpr
  exact hl x hx ⟨r.1, beq_iff_eq.1 hp⟩

theorem nodesRel_filter_path {fp : List Str} {t F : Tree} (hu : SibUnique t) (hF : getRel fp t = some F) :
    (nodesRel t).filter (fun pr => pr.1 == fp) = [(fp, F)] := by
  induction fp generalizing t with
  | nil =>
    cases hF
    cases F with
    | node i n a cs =>
      rw [nodesRel_node, List.filter_cons, if_pos (beq_self_eq_true _),
        nodesRelL_filter_none fun _ _ h => List.cons_ne_nil _ _ (List.prefix_nil.1 h)]
  | cons n ns ih =>
    cases t with
    | node i nm a cs =>
      obtain ⟨l, x, r, rfl, hl, hx, hF⟩ := getRel_cons_some hF
      obtain ⟨hnd, hch⟩ := sibUnique_node.1 hu
      -- only the entries that come from the child `x` can have a path starting with `n`
      have hne : ∀ y : Tree, y.name ≠ n → [y.name] <+: n :: ns → False := fun y hy h =>
        hy (List.cons_prefix_cons.1 h).1
      have hx' : ((fun pr : List Str × Tree => pr.1 == n :: ns) ∘ fun pr : List Str × Tree => (x.name :: pr.1, pr.2))
          = fun pr => pr.1 == ns := funext fun pr => by
        rw [Function.comp_apply, hx, Bool.eq_iff_iff, beq_iff_eq, beq_iff_eq, List.cons_inj_right]
      rw [nodesRel_node, List.filter_cons, if_neg (by simp), nodesRelL_append, nodesRelL_cons,
        List.filter_append, List.filter_append, nodesRelL_filter_none fun y hy => hne y (hl y hy),
        nodesRelL_filter_none fun y hy => hne y (names_ne_of_nodup hx hnd y hy), List.filter_map, hx',
        ih (hch x (by simp)) hF, hx]
      rfl

/-! ### removing a child -/

/-- `child.parent = None` seen from the parent -/
def eraseKid (n : Str) (X : Tree) : Tree := setKids (eraseChild n X.children) X

@[simp] theorem eraseKid_name (n X) : (eraseKid n X).name = X.name := by cases X; rfl

theorem removeAt_snoc (p : List Str) (n : Str) (t : Tree) :
    removeAt (p ++ [n]) t = modifyAt p (eraseKid n) t := by
  induction p generalizing t with
  | nil => cases t; simp [removeAt, modifyAt, eraseKid, setKids]
  | cons m p ih =>
    cases t with
    | node i nm a cs =>
      have hf : removeAt (p ++ [n]) = modifyAt p (eraseKid n) := funext ih
      cases p with
      | nil => simp only [List.nil_append] at hf ⊢; simp [removeAt, modifyAt, hf]
      | cons m' p' => simp only [List.cons_append] at hf ⊢; simp [removeAt, modifyAt, hf]

theorem flat_eraseKid {n : Str} {X : Tree} (hnd : (X.children.map Tree.name).Nodup) :
    flat (eraseKid n X) = (flat X).filter (fun e => !under [n] e) := by
  cases X with
  | node i nm a cs =>
    simp only [eraseKid, setKids, Tree.children_node, flat_node, List.filter_cons, under_cons_root]
    simp only [Tree.children_node] at hnd
    cases hc : findChild n cs with
    | none =>
      have h := findChild_none hc
      simp [eraseChild_none h, filter_not_under_flatL_none h]
    | some x =>
      obtain ⟨l, r, rfl, hl, hx⟩ := findChild_split hc
      have hr := names_ne_of_nodup hx hnd
      simp [eraseChild_split hl hx, flatL_append, flatL_cons, filter_not_under_flatL_none hl,
        filter_not_under_flatL_none hr, hx, filter_not_under_pre]

/-- `removeAt` changes nothing (root address, or no such parent), or is `eraseKid` at the parent's address -/
theorem removeAt_eq (p : List Str) (t : Tree) :
    removeAt p t = t ∨
      ∃ q n X, p = q ++ [n] ∧ getRel q t = some X ∧ removeAt p t = modifyAt q (eraseKid n) t := by
  rcases List.eq_nil_or_concat p with rfl | ⟨q, n, rfl⟩
  · exact .inl rfl
  · rw [List.concat_eq_append, removeAt_snoc]
    cases hX : getRel q t with
    | none => exact .inl (modifyAt_none hX)
    | some X => exact .inr ⟨q, n, X, rfl, hX, rfl⟩

theorem getRel_removeAt_incomparable {p q : List Str} {t : Tree} (h1 : ¬ p <+: q) (h2 : ¬ q <+: p) :
    getRel q (removeAt p t) = getRel q t := by
  obtain ⟨p', n, rfl⟩ : ∃ p' n, p = p' ++ [n] :=
    ⟨p.dropLast, p.getLast (fun h => h1 (h ▸ List.nil_prefix)),
      (List.dropLast_concat_getLast _).symm⟩
  rw [removeAt_snoc]
  by_cases hq : p' <+: q
  · -- `q` passes through the parent of the detached node, by another child
    obtain ⟨r, rfl⟩ := hq
    cases r with
    | nil => exact absurd (by rw [List.append_nil]; exact List.prefix_append p' [n]) h2
    | cons m r =>
      have hmn : m ≠ n := fun h => h1 (h ▸ (List.prefix_append_right_inj p').2
        (List.cons_prefix_cons.2 ⟨rfl, List.nil_prefix⟩))
      rw [getRel_append, getRel_append]
      cases hP : getRel p' t with
      | none => rw [modifyAt_none hP, hP]
      | some P =>
        rw [getRel_modifyAt_self hP (eraseKid_name n P)]
        cases P with
        | node i nm a cs =>
          simp only [Option.bind_some, getRel_cons, eraseKid, setKids, Tree.children_node,
            findChild_eraseChild_ne hmn]
  · exact getRel_modifyAt_incomparable (eraseKid_name n) hq
      (fun h => h2 (h.trans (List.prefix_append p' [n])))

theorem flat_removeAt {p : List Str} {t : Tree} (hp : p ≠ []) (hu : SibUnique t) :
    flat (removeAt p t) = (flat t).filter (fun e => !under p e) := by
  obtain ⟨p', n, rfl⟩ : ∃ p' n, p = p' ++ [n] := ⟨p.dropLast, p.getLast hp, (List.dropLast_concat_getLast hp).symm⟩
  rw [removeAt_snoc]
  cases hX : getRel p' t with
  | some X =>
    obtain ⟨A, B, h1, h2, h3⟩ := flat_zip hX
    rw [h2 _ (eraseKid_name n X), h1, filter_not_under_zip (h3 hu), filter_not_under_rebase,
      flat_eraseKid (hu.sub hX).kids]
  | none =>
    -- no entry lies below an address whose parent does not exist
    rw [modifyAt_none hX, eq_comm, List.filter_eq_self]
    intro e he
    cases h : under (p' ++ [n]) e with
    | false => rfl
    | true =>
      obtain ⟨r, hr⟩ := isPrefixOf_iff.1 h
      have : p' ++ ([n] ++ r) ∈ paths t := by
        rw [← List.append_assoc, ← hr]; exact List.mem_map.2 ⟨e, he, rfl⟩
      have := prefix_mem_paths hu this
      rw [mem_paths_iff hu, hX] at this; cases this

theorem sibUnique_eraseKid {n : Str} {X : Tree} (hu : SibUnique X) : SibUnique (eraseKid n X) := by
  cases X with
  | node i nm a cs =>
    obtain ⟨hnd, hch⟩ := sibUnique_node.1 hu
    exact sibUnique_node.2 ⟨hnd.sublist ((eraseChild_sublist n cs).map _),
      fun c hc => hch c ((eraseChild_sublist n cs).subset hc)⟩

theorem SibUnique.removeAt {p : List Str} {t : Tree} (hu : SibUnique t) : SibUnique (Modify.removeAt p t) := by
  rcases removeAt_eq p t with h | ⟨q, n, X, -, hX, h⟩ <;> rw [h]
  · exact hu
  · exact hu.modifyAt hX (eraseKid_name _ _) (sibUnique_eraseKid (hu.sub hX))

/-! ### appending a child -/

theorem sibUnique_appendKid {c P : Tree} (hP : SibUnique P) (hc : SibUnique c)
    (hnew : ∀ y ∈ P.children, y.name ≠ c.name) : SibUnique (appendKid c P) := by
  cases P with
  | node i nm a cs =>
    obtain ⟨hnd, hch⟩ := sibUnique_node.1 hP
    rw [appendKid, sibUnique_node, List.map_append, List.nodup_append]
    refine ⟨⟨hnd, List.pairwise_singleton _ _, fun a ha b hb => ?_⟩, fun y hy => ?_⟩
    · obtain ⟨y, hy, rfl⟩ := List.mem_map.1 ha
      cases List.mem_singleton.1 hb
      exact hnew y hy
    · rcases List.mem_append.1 hy with h | h
      · exact hch y h
      · cases List.mem_singleton.1 h; exact hc

theorem flat_appendKid (c P : Tree) : flat (appendKid c P) = flat P ++ (flat c).map (pre c.name) := by
  cases P
  simp only [appendKid, flat_node, flatL_append, flatL_cons, flatL_nil, List.append_nil, List.cons_append]

theorem flat_appendAt {pp : List Str} {c t P : Tree} (hP : getRel pp t = some P) :
    ∃ L R, flat t = L ++ R ∧
      flat (modifyAt pp (appendKid c) t) = L ++ (flat c).map (rebase (pp ++ [c.name])) ++ R := by
  obtain ⟨A, B, h1, h2, -⟩ := flat_zip hP
  refine ⟨A ++ (flat P).map (rebase pp), B, h1, ?_⟩
  have : ((flat c).map (pre c.name)).map (rebase pp) = (flat c).map (rebase (pp ++ [c.name])) := by
    rw [List.map_map]
    exact List.map_congr_left fun x _ => by simp [rebase, pre]
  rw [h2 _ (appendKid_name c P), flat_appendKid, List.map_append, this]
  simp only [List.append_assoc]

theorem flat_appendAt_old {pp : List Str} {c t P : Tree} (hP : getRel pp t = some P)
    (hnew : ∀ y ∈ P.children, y.name ≠ c.name) (hu : SibUnique t) :
    (flat (modifyAt pp (appendKid c) t)).filter (fun e => !under (pp ++ [c.name]) e) = flat t := by
  obtain ⟨A, B, h1, h2, h3⟩ := flat_zip hP
  have hold : (flat P).filter (fun e => !under [c.name] e) = flat P := by
    rw [flat_eq P, List.filter_cons, under_cons_root, filter_not_under_flatL_none hnew]; rfl
  rw [h2 _ (appendKid_name c P), filter_not_under_zip (h3 hu), filter_not_under_rebase, flat_appendKid,
    List.filter_append, hold, filter_not_under_pre, List.append_nil, h1]

theorem SibUnique.appendAt {pp : List Str} {c t P : Tree} (hu : SibUnique t) (hP : getRel pp t = some P)
    (hc : SibUnique c) (hnew : ∀ y ∈ P.children, y.name ≠ c.name) :
    SibUnique (Modify.modifyAt pp (appendKid c) t) :=
  hu.modifyAt hP (appendKid_name _ _) (sibUnique_appendKid (hu.sub hP) hc hnew)

theorem getRel_appendAt_new {pp : List Str} {c t P : Tree} (hP : getRel pp t = some P)
    (hnew : ∀ y ∈ P.children, y.name ≠ c.name) :
    getRel (pp ++ [c.name]) (modifyAt pp (appendKid c) t) = some c := by
  rw [getRel_append, getRel_modifyAt_self hP (appendKid_name _ _)]
  cases P with
  | node i nm a cs =>
    rw [Option.bind_some, appendKid, getRel_cons, Tree.children_node,
      findChild_of_split (l := cs) (r := []) hnew rfl]
    rfl

theorem flat_appendAt_new {pp : List Str} {c t P : Tree} (hP : getRel pp t = some P)
    (hnew : ∀ y ∈ P.children, y.name ≠ c.name) (hu : SibUnique t) (hc : SibUnique c) :
    (flat (modifyAt pp (appendKid c) t)).filter (under (pp ++ [c.name]))
      = (flat c).map (rebase (pp ++ [c.name])) :=
  flat_filter_under (getRel_appendAt_new hP hnew) (hu.appendAt hP hc hnew)

/-! ### `grow`: creating the missing part of a path -/

/-- a fresh path `a / m₁ / m₂ / …` with ids `k, k+1, …` and no attributes -/
def chain : Str → List Str → Nat → Tree
  | a, [], k => .node k a [] []
  | a, b :: m, k => .node k a [] [chain b m (k + 1)]

@[simp] theorem chain_name (a m k) : (chain a m k).name = a := by cases m <;> rfl

/-- what a successful `grow` returns: it follows the existing part `e` of the path and appends one fresh
chain for the rest -/
theorem grow_inv {ns : List Str} {k : Nat} {t : Tree} {r : Tree × Nat} (h : grow ns k t = .ok r) :
    ∃ e m X, ns = e ++ m ∧ getRel e t = some X ∧
      ((m = [] ∧ r = (t, k)) ∨
       (∃ a m', m = a :: m' ∧ findChild a X.children = none ∧
          r = (modifyAt e (appendKid (chain a m' k)) t, k + m.length))) := by
  induction ns generalizing k t r with
  | nil => cases h; exact ⟨[], [], t, rfl, rfl, .inl ⟨rfl, rfl⟩⟩
  | cons n ns ih =>
    cases t with
    | node i nm a cs =>
      unfold grow at h
      cases hc : findChild n cs with
      | none =>
        simp only [hc] at h
        refine ok_of_ite of_error_eq_ok (fun h => ?_) h
        generalize hg : grow ns (k + 1) _ = g at h
        cases g with
        | error e => cases h
        | ok r' =>
          cases h
          refine ⟨[], n :: ns, _, rfl, rfl, .inr ⟨n, ns, rfl, hc, ?_⟩⟩
          -- the fresh node has no children, so all that `grow` did below it was to append the rest
          obtain ⟨e, m, X, rfl, hX, hr⟩ := ih hg
          cases e with
          | cons x e' => cases hX
          | nil =>
            cases hX
            rcases hr with ⟨rfl, rfl⟩ | ⟨b, m', rfl, -, rfl⟩
            · rfl
            · exact Prod.ext rfl (by simp only [List.nil_append, List.length_cons]; omega)
      | some c =>
        simp only [hc] at h
        generalize hg : grow ns k c = g at h
        cases g with
        | error e => cases h
        | ok r' =>
          cases h
          obtain ⟨e, m, X, rfl, hX, hr⟩ := ih hg
          obtain ⟨l, rr, rfl, hl, hx⟩ := findChild_split hc
          refine ⟨n :: e, m, X, rfl, by rw [getRel_cons, Tree.children_node, hc]; exact hX, ?_⟩
          rw [mapChild_split _ hl hx]
          rcases hr with ⟨rfl, rfl⟩ | ⟨a', m', rfl, hfa, rfl⟩
          · exact .inl ⟨rfl, rfl⟩
          · exact .inr ⟨a', m', rfl, hfa, by simp only [modifyAt, mapChild_split _ hl hx]⟩

/-- `grow` only refuses an empty name -/
theorem grow_ok {ns : List Str} (hne : ∀ n ∈ ns, n ≠ []) : ∀ (k : Nat) (t : Tree), ∃ r, grow ns k t = .ok r := by
  induction ns with
  | nil => exact fun k t => ⟨_, rfl⟩
  | cons n ns ih =>
    intro k t
    cases t with
    | node i nm a cs =>
      have ih := ih fun x hx => hne x (List.mem_cons_of_mem _ hx)
      unfold grow
      cases findChild n cs with
      | none =>
        obtain ⟨r, hr⟩ := ih (k + 1) (.node k n [] [])
        simp only [if_neg (hne n List.mem_cons_self), hr]; exact ⟨_, rfl⟩
      | some c =>
        obtain ⟨r, hr⟩ := ih k c
        simp only [hr]; exact ⟨_, rfl⟩

theorem mem_flat_chain {a : Str} {m : List Str} {k : Nat} {e : Entry} :
    e ∈ flat (chain a m k) ↔ ∃ r s, m = r ++ s ∧ e = (r, k + r.length, []) := by
  induction m generalizing a k e with
  | nil =>
    simp only [chain, flat_node, flatL_nil, List.mem_singleton]
    exact ⟨fun h => ⟨[], [], rfl, h⟩, fun ⟨r, s, h, he⟩ => by
      obtain ⟨rfl, rfl⟩ := List.append_eq_nil_iff.1 h.symm; exact he⟩
  | cons b m ih =>
    simp only [chain, flat_node, flatL_cons, flatL_nil, List.append_nil, chain_name, List.mem_cons,
      List.mem_map, ih]
    constructor
    · rintro (rfl | ⟨_, ⟨r, s, rfl, rfl⟩, rfl⟩)
      · exact ⟨[], _, rfl, rfl⟩
      · exact ⟨b :: r, s, rfl, by simp only [pre, List.length_cons]; congr 2; omega⟩
    · rintro ⟨r, s, h, rfl⟩
      cases r with
      | nil => exact .inl rfl
      | cons c r =>
        obtain ⟨rfl, rfl⟩ := List.cons.inj h
        exact .inr ⟨_, ⟨r, s, rfl, rfl⟩, by simp only [pre, List.length_cons]; congr 2; omega⟩

theorem sibUnique_chain (a : Str) (m : List Str) (k : Nat) : SibUnique (chain a m k) := by
  induction m generalizing a k with
  | nil => simp [chain, sibUnique_node]
  | cons b m ih => simp [chain, sibUnique_node, ih]

/-- `t1`, with counter `k1`, is `t` (all ids below `k`) after `add_path_to_tree` has created the missing
nodes of the path `ns` -/
structure Grown (t : Tree) (k : Nat) (ns : List Str) (t1 : Tree) (k1 : Nat) : Prop where
  su : SibUnique t1
  le : k ≤ k1
  /-- the old objects are the old entries, in the old order -/
  old : (flat t1).filter (fun e => decide (e.2.1 < k)) = flat t
  /-- a new object is an attribute-less node on the path -/
  new : ∀ e ∈ flat t1, ¬ e.2.1 < k → e.1.isPrefixOf ns = true ∧ e.2.1 < k1 ∧ e.2.2 = []
  mem_paths : ∀ q, q ∈ paths t1 ↔ q ∈ paths t ∨ q.isPrefixOf ns = true

theorem grow_facts {ns : List Str} {k : Nat} {t : Tree} (hne : ∀ n ∈ ns, n ≠ []) (hu : SibUnique t)
    (hk : ∀ e ∈ flat t, e.2.1 < k) :
    ∃ t1 k1, grow ns k t = .ok (t1, k1) ∧ Grown t k ns t1 k1 := by
  obtain ⟨r, hg⟩ := grow_ok hne k t
  obtain ⟨e, m, X, hns, hX, h⟩ := grow_inv hg
  have hpre : ∀ q, q.isPrefixOf e = true → q ∈ paths t := by
    intro q hq
    obtain ⟨r, rfl⟩ := isPrefixOf_iff.1 hq
    exact prefix_mem_paths hu ((mem_paths_iff hu).2 (by rw [hX]; rfl))
  rcases h with ⟨rfl, rfl⟩ | ⟨a, m', rfl, hfa, rfl⟩
  · simp only [List.append_nil] at hns; subst hns
    refine ⟨t, k, hg, hu, Nat.le_refl _, ?_, ?_, ?_⟩
    · rw [List.filter_eq_self]; intro e he; simpa using hk e he
    · intro e he hlt; exact absurd (hk e he) hlt
    · exact fun q => ⟨Or.inl, fun h => h.elim id (hpre q)⟩
  · have hnew : ∀ y ∈ X.children, y.name ≠ (chain a m' k).name := fun y hy => by
      rw [chain_name]; exact findChild_none hfa y hy
    have hsu := hu.appendAt hX (sibUnique_chain a m' k) hnew
    -- the new tree is the old one with the entries `C` of the fresh chain inserted as one block
    obtain ⟨L, R, hLR, hLCR⟩ := flat_appendAt (c := chain a m' k) hX
    rw [chain_name] at hLCR
    generalize modifyAt e (appendKid (chain a m' k)) t = t1 at hg hLCR hsu
    generalize hC : (flat (chain a m' k)).map (rebase (e ++ [a])) = C at hLCR
    have hold : ∀ x ∈ L ++ R, x.2.1 < k := fun x hx => hk x (hLR ▸ hx)
    have hCx : ∀ x ∈ C, ∃ r s, m' = r ++ s ∧ x.1 = e ++ a :: r ∧ k ≤ x.2.1 ∧ x.2.1 < k + (a :: m').length ∧
        x.2.2 = [] := by
      intro x hx
      obtain ⟨c, hc, rfl⟩ := List.mem_map.1 (hC ▸ hx)
      obtain ⟨r, s, rfl, rfl⟩ := mem_flat_chain.1 hc
      exact ⟨r, s, rfl, by simp [rebase], Nat.le_add_right _ _,
        by simp only [rebase, List.length_cons, List.length_append]; omega, rfl⟩
    -- a prefix of `e ++ a :: m'` is a prefix of `e`, or `e ++ a :: r` with `r` a prefix of `m'`
    have hin : ∀ q s, ns = q ++ s → q ∈ paths t ∨ ∃ x ∈ C, x.1 = q := by
      intro q s hq
      rcases List.append_eq_append_iff.1 (hq.symm.trans hns) with ⟨a', rfl, -⟩ | ⟨c', rfl, hc'⟩
      · exact .inl (hpre q (isPrefixOf_iff.2 ⟨a', rfl⟩))
      · cases c' with
        | nil => exact .inl (hpre _ (isPrefixOf_iff.2 ⟨[], by simp⟩))
        | cons b r =>
          obtain ⟨rfl, hm⟩ := List.cons.inj hc'
          exact .inr ⟨_, hC ▸ List.mem_map.2 ⟨_, mem_flat_chain.2 ⟨r, s, hm, rfl⟩, rfl⟩, by simp [rebase]⟩
    refine ⟨t1, _, hg, hsu, Nat.le_add_right _ _, ?_, ?_, ?_⟩
    · rw [hLCR, hLR, List.filter_append, List.filter_append,
        List.filter_eq_self.2 fun x hx => decide_eq_true (hold x (List.mem_append_left _ hx)),
        List.filter_eq_nil_iff.2 fun x hx => by
          obtain ⟨_, _, _, _, h, _⟩ := hCx x hx
          simpa using h,
        List.filter_eq_self.2 fun x hx => decide_eq_true (hold x (List.mem_append_right _ hx)),
        List.append_nil]
    · intro x hx hlt
      rw [hLCR] at hx
      rcases List.mem_append.1 hx with hx | hx
      · rcases List.mem_append.1 hx with hx | hx
        · exact absurd (hold x (List.mem_append_left _ hx)) hlt
        · obtain ⟨r, s, hm, hp, _, h3, h4⟩ := hCx x hx
          exact ⟨isPrefixOf_iff.2 ⟨s, by rw [hns, hp, hm]; simp⟩, h3, h4⟩
      · exact absurd (hold x (List.mem_append_right _ hx)) hlt
    · intro q
      have hq : q ∈ paths t1 ↔ q ∈ paths t ∨ ∃ x ∈ C, x.1 = q := by
        simp only [paths, hLCR, hLR, List.map_append, List.mem_append, List.mem_map]
        rw [or_right_comm]
      rw [hq]
      constructor
      · rintro (h | ⟨x, hx, rfl⟩)
        · exact .inl h
        · obtain ⟨r, s, hm, hp, -⟩ := hCx x hx
          exact .inr (isPrefixOf_iff.2 ⟨s, by rw [hns, hp, hm]; simp⟩)
      · rintro (h | h)
        · exact .inl h
        · obtain ⟨s, hs⟩ := isPrefixOf_iff.1 h
          exact hin q s hs

/-! ### `relabel`: deep copy with fresh ids -/

theorem relabel_node (k i n a cs) :
    relabel k (.node i n a cs) = (.node k n a (relabelL (k + 1) cs).1, (relabelL (k + 1) cs).2) := by
  simp [relabel]
theorem relabelL_cons (k c cs) :
    relabelL k (c :: cs) = ((relabel k c).1 :: (relabelL (relabel k c).2 cs).1,
      (relabelL (relabel k c).2 cs).2) := by
  simp [relabelL]

/-- the facts about one copied tree -/
def RelabelOK (t : Tree) : Prop := ∀ k,
  (relabel k t).1.name = t.name ∧ k < (relabel k t).2 ∧
  shape (flat (relabel k t).1) = shape (flat t) ∧
  (∀ e ∈ flat (relabel k t).1, k ≤ e.2.1 ∧ e.2.1 < (relabel k t).2) ∧
  (SibUnique t → SibUnique (relabel k t).1)

theorem shape_append (a b : List Entry) : shape (a ++ b) = shape a ++ shape b := by simp [shape]
theorem shape_map_pre (n : Str) (l : List Entry) :
    shape (l.map (pre n)) = (shape l).map (fun x => (n :: x.1, x.2)) := by
  simp [shape, pre, Function.comp_def]

theorem relabelL_ok (cs : List Tree) (ih : ∀ c ∈ cs, RelabelOK c) : ∀ k,
    (relabelL k cs).1.map Tree.name = cs.map Tree.name ∧ k ≤ (relabelL k cs).2 ∧
    shape (flatL (relabelL k cs).1) = shape (flatL cs) ∧
    (∀ e ∈ flatL (relabelL k cs).1, k ≤ e.2.1 ∧ e.2.1 < (relabelL k cs).2) ∧
    ((∀ c ∈ cs, SibUnique c) → ∀ c ∈ (relabelL k cs).1, SibUnique c) := by
  induction cs with
  | nil => exact fun k => ⟨rfl, Nat.le_refl _, rfl, fun _ he => (List.not_mem_nil he).elim,
      fun _ _ hc => (List.not_mem_nil hc).elim⟩
  | cons c cs ihl =>
    intro k
    obtain ⟨h1, h2, h3, h4, h5⟩ := ih c (by simp) k
    obtain ⟨g1, g2, g3, g4, g5⟩ := ihl (fun d hd => ih d (by simp [hd])) (relabel k c).2
    rw [relabelL_cons]
    refine ⟨by rw [List.map_cons, List.map_cons, h1, g1], Nat.le_trans (Nat.le_of_lt h2) g2, ?_, ?_, ?_⟩
    · simp only [flatL_cons, shape_append, shape_map_pre, h1, h3, g3]
    · intro e he
      rcases List.mem_append.1 (flatL_cons .. ▸ he) with he | he
      · obtain ⟨e', he', rfl⟩ := List.mem_map.1 he
        exact ⟨(h4 e' he').1, Nat.lt_of_lt_of_le (h4 e' he').2 g2⟩
      · exact ⟨Nat.le_trans (Nat.le_of_lt h2) (g4 e he).1, (g4 e he).2⟩
    · intro hs d hd
      simp only [List.mem_cons] at hd
      rcases hd with rfl | hd
      · exact h5 (hs c (by simp))
      · exact g5 (fun x hx => hs x (by simp [hx])) d hd

theorem relabel_ok (t : Tree) : RelabelOK t := by
  induction t using Tree.ind with
  | h i n a cs ih =>
    intro k
    obtain ⟨g1, g2, g3, g4, g5⟩ := relabelL_ok cs ih (k + 1)
    rw [relabel_node]
    refine ⟨rfl, Nat.lt_of_lt_of_le (Nat.lt_succ_self k) g2, ?_, ?_, ?_⟩
    · simp only [flat_node, shape, List.map_cons] at g3 ⊢
      rw [g3]
    · intro e he
      rcases List.mem_cons.1 (flat_node .. ▸ he) with rfl | he
      · exact ⟨Nat.le_refl _, Nat.lt_of_lt_of_le (Nat.lt_succ_self k) g2⟩
      · exact ⟨Nat.le_of_succ_le (g4 e he).1, (g4 e he).2⟩
    · intro hs
      obtain ⟨hnd, hch⟩ := sibUnique_node.1 hs
      rw [sibUnique_node]
      exact ⟨by rw [g1]; exact hnd, g5 hch⟩

end Modify
