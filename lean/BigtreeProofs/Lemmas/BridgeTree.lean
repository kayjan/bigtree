import BigtreeModel.Bridge
import BigtreeModel.Iter
import BigtreeProofs.Lemmas.Iter
/-!
# Bridge A→B: the tree-level edit functions (no stores here; `Store.sortKey`, the sort that
`Tree.sortList` shares with the store, is a list function that lives in that namespace)
-/

namespace Store

theorem insertKey_map {α β : Type} (f : α → β) (key : β → Nat) (x : α) (l : List α) :
    insertKey key (f x) (l.map f) = (insertKey (fun a => key (f a)) x l).map f := by
  induction l with
  | nil => rfl
  | cons y ys ih =>
    rw [List.map_cons, insertKey, insertKey, ih, apply_ite (List.map f)]
    rfl

theorem sortKey_map {α β : Type} (f : α → β) (key : β → Nat) (l : List α) :
    sortKey key (l.map f) = (sortKey (fun a => key (f a)) l).map f := by
  induction l with
  | nil => rfl
  | cons x xs ih =>
    simp only [sortKey, List.map_cons, List.foldr_cons] at ih ⊢
    rw [ih, insertKey_map]

end Store

namespace Tree
open Iter

theorem pre_eq (t : Tree) : pre t = t.id :: preL t.children := by
  cases t; rfl

theorem preL_eq_flatten (ts : List Tree) : preL ts = (ts.map pre).flatten := by
  induction ts with
  | nil => rfl
  | cons t ts ih => rw [preL, ih, List.map_cons, List.flatten_cons]

theorem mem_preL {x : Nat} {ts : List Tree} : x ∈ preL ts ↔ ∃ t ∈ ts, x ∈ pre t := by
  rw [preL_eq_flatten, ← List.flatMap_def, List.mem_flatMap]

theorem mem_preL_map {x : Nat} {l : List Nat} {g : Nat → Tree} : x ∈ preL (l.map g) ↔ ∃ c ∈ l, x ∈ pre (g c) := by
  rw [preL_eq_flatten, List.map_map, ← List.flatMap_def, List.mem_flatMap]
  rfl

theorem id_mem_pre (t : Tree) : t.id ∈ pre t := by
  rw [pre_eq]; exact List.mem_cons_self

theorem preL_perm {F G : List Tree} (h : F.Perm G) : (preL F).Perm (preL G) := by
  rw [preL_eq_flatten, preL_eq_flatten]
  exact (h.map pre).flatten

theorem nodup_preL_map {l : List Nat} {g : Nat → Tree} (hl : l.Nodup) (h1 : ∀ c ∈ l, (pre (g c)).Nodup)
    (h2 : ∀ a ∈ l, ∀ b ∈ l, ∀ x, x ∈ pre (g a) → x ∈ pre (g b) → a = b) : (preL (l.map g)).Nodup := by
  rw [preL_eq_flatten, List.map_map, List.Nodup, List.pairwise_flatten, List.pairwise_map]
  refine ⟨List.forall_mem_map.2 h1, hl.imp_of_mem ?_⟩
  intro a b ha hb hab x hx y hy e
  exact hab (h2 a ha b hb x hx (e ▸ hy))

theorem edit_of_not_mem {F : Tree → Tree} {v : Nat}
    (hF : ∀ i n a cs, i ≠ v → F (.node i n a cs) = .node i n a (cs.map F)) : ∀ t, v ∉ pre t → F t = t := by
  intro t
  induction t using Tree.ind with
  | h i n a cs ih =>
    intro hv
    rw [pre, List.mem_cons, not_or, mem_preL] at hv
    rw [hF i n a cs (Ne.symm hv.1)]
    congr 1
    exact (List.map_congr_left fun c hc => ih c hc fun hm => hv.2 ⟨c, hc, hm⟩).trans (List.map_id cs)

theorem map_edit_of_not_mem {F : Tree → Tree} {v : Nat} (hF : ∀ t, v ∉ pre t → F t = t) {ts : List Tree}
    (h : v ∉ preL ts) : ts.map F = ts :=
  (List.map_congr_left fun t ht => hF t fun hm => h (mem_preL.2 ⟨t, ht, hm⟩)).trans (List.map_id ts)

theorem subtreeL_eq (v : Nat) (ts : List Tree) : subtreeL v ts = ts.findSome? (subtree v) := by
  induction ts with
  | nil => rfl
  | cons t ts ih =>
    rw [subtreeL, List.findSome?_cons, ih]
    cases subtree v t <;> rfl

theorem subtree_self (t : Tree) : subtree t.id t = some t := by
  cases t; simp [subtree]

theorem subtree_none (v : Nat) (t : Tree) : v ∉ pre t → subtree v t = none := by
  induction t using Tree.ind with
  | h i n a cs ih =>
    intro hv
    rw [pre, List.mem_cons, not_or, mem_preL] at hv
    rw [subtree, if_neg (Ne.symm hv.1), subtreeL_eq]
    exact List.findSome?_eq_none_iff.2 fun c hc => ih c hc fun hm => hv.2 ⟨c, hc, hm⟩

theorem subtreeL_none (v : Nat) (ts : List Tree) (h : v ∉ preL ts) : subtreeL v ts = none := by
  rw [subtreeL_eq]
  exact List.findSome?_eq_none_iff.2 fun t ht => subtree_none v t fun hm => h (mem_preL.2 ⟨t, ht, hm⟩)

theorem mem_pre_of_subtree {v : Nat} {t u : Tree} (h : subtree v t = some u) : v ∈ pre t :=
  Decidable.byContradiction fun hm => by rw [subtree_none v t hm] at h; cases h

theorem subtreeL_eq_some_iff {v : Nat} {u : Tree} {ts : List Tree} (hn : (preL ts).Nodup) :
    subtreeL v ts = some u ↔ ∃ t ∈ ts, subtree v t = some u := by
  rw [subtreeL_eq]
  refine ⟨List.exists_of_findSome?_eq_some, ?_⟩
  rintro ⟨t, ht, h⟩
  induction ts with
  | nil => cases ht
  | cons t0 ts ih =>
    rw [List.findSome?_cons]
    rw [preL, List.nodup_append] at hn
    rcases List.mem_cons.1 ht with rfl | ht
    · rw [h]
    · have : v ∉ pre t0 := fun hm =>
        hn.2.2 v hm v (mem_preL.2 ⟨t, ht, mem_pre_of_subtree h⟩) rfl
      rw [subtree_none v t0 this]
      exact ih hn.2.1 ht

theorem subtreeL_perm {F G : List Tree} (h : F.Perm G) (v : Nat) (hn : (preL F).Nodup) :
    subtreeL v F = subtreeL v G :=
  Option.ext fun u => by
    rw [subtreeL_eq_some_iff hn, subtreeL_eq_some_iff ((preL_perm h).nodup_iff.1 hn)]
    simp only [h.mem_iff]

theorem detachL_eq (v : Nat) (ts : List Tree) :
    detachL v ts = (ts.filter (·.id != v)).map (detach v) := by
  induction ts with
  | nil => rfl
  | cons t ts ih =>
    rw [detachL, ih, List.filter_cons]
    by_cases h : t.id = v
    · rw [if_pos h, if_neg fun hb => bne_iff_ne.1 hb h]
    · rw [if_neg h, if_pos (bne_iff_ne.2 h), List.map_cons]

theorem detachL_map (v : Nat) (g : Nat → Tree) (hg : ∀ x, (g x).id = x) (l : List Nat) :
    detachL v (l.map g) = (l.filter (· != v)).map fun c => detach v (g c) := by
  rw [detachL_eq, List.filter_map, List.map_map]
  simp only [Function.comp_def, hg]

/-- a tree whose identities are distinct does not contain its root identity further down -/
theorem detach_root_id (t : Tree) : (pre t).Nodup → detach t.id t = t := by
  suffices h : ∀ (v : Nat) (t : Tree), v ∉ preL t.children → detach v t = t by
    intro hn
    rw [pre_eq] at hn
    exact h t.id t (List.nodup_cons.1 hn).1
  intro v t
  induction t using Tree.ind with
  | h i n a cs ih =>
    intro hv
    rw [children_node, mem_preL] at hv
    rw [detach, detachL_eq, List.filter_eq_self.2]
    · congr 1
      refine (List.map_congr_left fun c hc => ih c hc fun hm => hv ⟨c, hc, ?_⟩).trans (List.map_id cs)
      rw [pre_eq]
      exact List.mem_cons_of_mem _ hm
    · intro c hc
      exact bne_iff_ne.2 fun e => hv ⟨c, hc, e ▸ id_mem_pre c⟩

theorem appendChildL_eq (p : Nat) (c : Tree) (ts : List Tree) :
    appendChildL p c ts = ts.map (appendChild p c) := by
  induction ts with
  | nil => rfl
  | cons t ts ih => rw [appendChildL, ih, List.map_cons]

theorem clearChildrenL_eq (v : Nat) (ts : List Tree) :
    clearChildrenL v ts = ts.map (clearChildren v) := by
  induction ts with
  | nil => rfl
  | cons t ts ih => rw [clearChildrenL, ih, List.map_cons]

theorem sortChildrenL_eq (v : Nat) (key : Nat → Nat) (rev : Bool) (ts : List Tree) :
    sortChildrenL v key rev ts = ts.map (sortChildren v key rev) := by
  induction ts with
  | nil => rfl
  | cons t ts ih => rw [sortChildrenL, ih, List.map_cons]

theorem appendChild_of_not_mem (p : Nat) (c : Tree) : ∀ t : Tree, p ∉ pre t → appendChild p c t = t :=
  edit_of_not_mem fun i n a cs hi => by rw [appendChild, if_neg hi, appendChildL_eq]

theorem appendChildL_of_not_mem (p : Nat) (c : Tree) : ∀ ts : List Tree, p ∉ preL ts → appendChildL p c ts = ts :=
  fun ts h => (appendChildL_eq p c ts).trans (map_edit_of_not_mem (appendChild_of_not_mem p c) h)

theorem clearChildren_of_not_mem (v : Nat) : ∀ t : Tree, v ∉ pre t → clearChildren v t = t :=
  edit_of_not_mem fun i n a cs hi => by rw [clearChildren, if_neg hi, clearChildrenL_eq]

theorem clearChildrenL_of_not_mem (v : Nat) : ∀ ts : List Tree, v ∉ preL ts → clearChildrenL v ts = ts :=
  fun ts h => (clearChildrenL_eq v ts).trans (map_edit_of_not_mem (clearChildren_of_not_mem v) h)

theorem sortChildren_of_not_mem (v : Nat) (key : Nat → Nat) (rev : Bool) :
    ∀ t : Tree, v ∉ pre t → sortChildren v key rev t = t :=
  edit_of_not_mem fun i n a cs hi => by rw [sortChildren, if_neg hi, sortChildrenL_eq]

theorem sortChildrenL_of_not_mem (v : Nat) (key : Nat → Nat) (rev : Bool) :
    ∀ ts : List Tree, v ∉ preL ts → sortChildrenL v key rev ts = ts :=
  fun ts h => (sortChildrenL_eq v key rev ts).trans (map_edit_of_not_mem (sortChildren_of_not_mem v key rev) h)

theorem sortList_map (key : Nat → Nat) (rev : Bool) (g : Nat → Tree) (hg : ∀ x, (g x).id = x) (l : List Nat) :
    sortList key rev (l.map g) =
      (if rev then (Store.sortKey key l.reverse).reverse else Store.sortKey key l).map g := by
  have hk : (fun a => key (g a).id) = key := funext fun a => by rw [hg]
  cases rev with
  | false =>
    show Store.sortKey (fun t => key t.id) (l.map g) = (Store.sortKey key l).map g
    rw [Store.sortKey_map g (fun t => key t.id), hk]
  | true =>
    show (Store.sortKey (fun t => key t.id) (l.map g).reverse).reverse = (Store.sortKey key l.reverse).reverse.map g
    rw [← List.map_reverse, Store.sortKey_map g (fun t => key t.id), hk, List.map_reverse]

theorem snoc_induction {α : Type} {P : List α → Prop} (h0 : P [])
    (h1 : ∀ l a, P l → P (l ++ [a])) (l : List α) : P l := by
  rw [← l.reverse_reverse]
  induction l.reverse with
  | nil => exact h0
  | cons a l ih => rw [List.reverse_cons]; exact h1 _ a ih

end Tree

/-! The forest edits respect the order of the trees: permuted forests (without repeated identities) go to
permuted forests. -/

namespace Forest
open Iter Tree

theorem move_perm {F G : Forest} (h : F.Perm G) (hn : (preL F).Nodup) (v p : Nat) :
    (move F v p).Perm (move G v p) := by
  unfold move
  rw [← subtreeL_perm h v hn]
  cases subtreeL v F with
  | none => exact h
  | some t =>
    simp only [appendChildL_eq, detachL_eq]
    exact ((h.filter _).map _).map _

theorem toRoot_perm {F G : Forest} (h : F.Perm G) (hn : (preL F).Nodup) (v : Nat) :
    (toRoot F v).Perm (toRoot G v) := by
  unfold toRoot
  rw [← subtreeL_perm h v hn]
  cases subtreeL v F with
  | none => exact h
  | some t =>
    simp only [detachL_eq]
    exact ((h.filter _).map _).cons t

theorem delChildren_perm {F G : Forest} (h : F.Perm G) (hn : (preL F).Nodup) (v : Nat) :
    (delChildren F v).Perm (delChildren G v) := by
  unfold delChildren
  rw [← subtreeL_perm h v hn]
  cases subtreeL v F with
  | none => exact h
  | some t =>
    simp only [clearChildrenL_eq]
    exact (h.map _).append_left _

theorem sortChildren_perm {F G : Forest} (h : F.Perm G) (v : Nat) (ranks : List Nat) (rev : Bool) :
    (sortChildren F v ranks rev).Perm (sortChildren G v ranks rev) := by
  unfold sortChildren
  rw [sortChildrenL_eq, sortChildrenL_eq]
  exact h.map _

theorem delItem_perm {F G : Forest} (h : F.Perm G) (hn : (preL F).Nodup) (p : Nat) (nm : Str) :
    (delItem F p nm).Perm (delItem G p nm) := by
  unfold delItem
  rw [← subtreeL_perm h p hn]
  cases subtreeL p F with
  | none => exact h
  | some t =>
    simp only
    split
    · exact toRoot_perm h hn _
    · exact h

end Forest
