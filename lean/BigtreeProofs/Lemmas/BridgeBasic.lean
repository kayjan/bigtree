import BigtreeModel.Bridge
import BigtreeModel.Iter
import BigtreeProofs.Lemmas.StorePathA
import BigtreeProofs.Lemmas.Iter
/-!
# Bridge A→B: downward induction on a well-formed store; the read-back is the unique fixed
point of "read the node, then read its children", whatever the fuel `≥ n`
-/

namespace Store

theorem not_reach_parent {s : Store} (hw : WF s) {c p : Nat} (hp : s.parent c = some p) : ¬ Reach s c p :=
  fun h => not_properAncestor_self hw.acyc c ⟨p, hp, h⟩

theorem Reach.comparable {s : Store} {a b x : Nat} (h1 : Reach s a x) (h2 : Reach s b x) :
    Reach s a b ∨ Reach s b a := by
  induction h1 with
  | refl => exact Or.inr h2
  | step hr hp ih =>
    cases h2 with
    | refl => exact Or.inl (Reach.step hr hp)
    | step hr2 hp2 =>
      rw [hp] at hp2
      cases hp2
      exact ih hr2

theorem reach_top_iff {s : Store} (hw : WF s) (r x : Nat) :
    Reach s r x ↔ x = r ∨ ∃ c ∈ s.children r, Reach s c x := by
  constructor
  · intro h
    induction h with
    | refl => exact Or.inl rfl
    | @step p v _ hp ih =>
      rcases ih with rfl | ⟨c, hc, hcr⟩
      · exact Or.inr ⟨v, hw.up v p hp, Reach.refl v⟩
      · exact Or.inr ⟨c, hc, Reach.step hcr hp⟩
  · rintro (rfl | ⟨c, hc, hcr⟩)
    · exact Reach.refl _
    · exact (Reach.of_parent (hw.down r c hc)).trans hcr

theorem reach_root {s : Store} {a r : Nat} (h : Reach s a r) (hr : s.parent r = none) : a = r := by
  cases h with
  | refl => rfl
  | step _ hp => rw [hr] at hp; cases hp

theorem anc_length_child {s : Store} (hw : WF s) {v c : Nat} (hc : c ∈ s.children v) :
    (anc s s.n c).length = (anc s s.n v).length + 1 ∧ (anc s s.n c).length < s.n := by
  have hp := hw.down v c hc
  exact ⟨by rw [anc_step hw c v hp]; rfl, anc_length_lt hw c (hw.range c v hp).1⟩

theorem children_nil_of_ge {s : Store} (hw : WF s) (v : Nat) (hv : s.n ≤ v) : s.children v = [] :=
  List.eq_nil_iff_forall_not_mem.2 fun c hc => by
    have := (hw.range c v (hw.down v c hc)).2
    omega

theorem children_induction {s : Store} (hw : WF s) {P : Nat → Prop}
    (h : ∀ v, (∀ c ∈ s.children v, P c) → P v) (v : Nat) : P v :=
  ParentFn.down_induction hw.acyc hw.range (fun v ih => h v fun c hc => ih c (hw.down v c hc)) v

@[simp] theorem treeOf_id (s : Store) (f v : Nat) : (treeOf s f v).id = v := by
  cases f <;> rfl

@[simp] theorem treeOf_name (s : Store) (f v : Nat) : (treeOf s f v).name = s.name v := by
  cases f <;> rfl

@[simp] theorem treeOf_attrs (s : Store) (f v : Nat) : (treeOf s f v).attrs = [] := by
  cases f <;> rfl

theorem treeOf_succ (s : Store) (f v : Nat) :
    treeOf s (f + 1) v = .node v (s.name v) [] ((s.children v).map (treeOf s f)) := rfl

/-- one more unit of fuel changes nothing once the fuel covers the levels that are left below `v` -/
theorem treeOf_fuel_succ {s : Store} (hw : WF s) (f v : Nat) (h : s.n ≤ f + (anc s s.n v).length + 1) :
    treeOf s (f + 1) v = treeOf s f v := by
  induction f generalizing v with
  | zero =>
    have : s.children v = [] := List.eq_nil_iff_forall_not_mem.2 fun c hc => by
      obtain ⟨h1, h2⟩ := anc_length_child hw hc
      rw [h1] at h2
      rw [Nat.zero_add] at h
      exact Nat.lt_irrefl _ (Nat.lt_of_lt_of_le h2 h)
    rw [treeOf_succ, this]
    rfl
  | succ f ih =>
    rw [treeOf_succ, treeOf_succ s f]
    congr 1
    exact List.map_congr_left fun c hc => ih c (by
      rw [(anc_length_child hw hc).1, ← Nat.add_assoc, Nat.add_right_comm f]
      exact h)

theorem treeOf_unfold {s : Store} (hw : WF s) (v f : Nat) (hf : s.n ≤ f) :
    treeOf s f v = .node v (s.name v) [] ((s.children v).map (treeOf s f)) :=
  (treeOf_fuel_succ hw f v (Nat.le_trans hf (Nat.le_add_right_of_le (Nat.le_add_right f _)))).symm

theorem treeOf_children {s : Store} (hw : WF s) (v f : Nat) (hf : s.n ≤ f) :
    (treeOf s f v).children = (s.children v).map (treeOf s f) := by
  rw [treeOf_unfold hw v f hf]; rfl

/-- this is how every edit of the store is read back, and why the fuel does not matter -/
theorem treeOf_unique {s : Store} (hw : WF s) {f : Nat} (hf : s.n ≤ f) {g : Nat → Tree}
    (hg : ∀ x, g x = .node x (s.name x) [] ((s.children x).map g)) : ∀ x, g x = treeOf s f x := by
  intro x
  induction x using children_induction hw with
  | h x ih =>
    rw [hg, treeOf_unfold hw x f hf]
    congr 1
    exact List.map_congr_left ih

theorem treeOf_fuel {s : Store} (hw : WF s) (v f g : Nat) (hf : s.n ≤ f) (hg : s.n ≤ g) :
    treeOf s f v = treeOf s g v :=
  treeOf_unique hw hg (fun x => treeOf_unfold hw x f hf) v

/-- an edit `E` of trees that turns one unfolding step of the read-back of `s` into one of `t` turns the read-backs
of `s` into those of `t` -/
theorem treeOf_edit {s t : Store} (hs : WF s) (ht : WF t) {f : Nat} (hf : s.n ≤ f) (hf' : t.n ≤ f) (E : Tree → Tree)
    (hE : ∀ x, E (.node x (s.name x) [] ((s.children x).map (treeOf s f)))
      = .node x (t.name x) [] ((t.children x).map fun c => E (treeOf s f c))) (x : Nat) :
    E (treeOf s f x) = treeOf t f x :=
  treeOf_unique ht hf' (g := fun x => E (treeOf s f x)) (fun x => by rw [treeOf_unfold hs x f hf]; exact hE x) x

theorem treeOf_congr {s t : Store} (h1 : t.children = s.children) (h2 : t.name = s.name) (f v : Nat) :
    treeOf t f v = treeOf s f v := by
  induction f generalizing v with
  | zero =>
    show Tree.node v (t.name v) [] [] = Tree.node v (s.name v) [] []
    rw [h2]
  | succ f ih =>
    rw [treeOf_succ, treeOf_succ, h1, h2]
    congr 1
    exact List.map_congr_left fun c _ => ih c

end Store
