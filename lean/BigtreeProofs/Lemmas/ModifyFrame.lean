import BigtreeProofs.Lemmas.ModifyObjs
/-!
# C08 helper lemmas: what one `copy_or_shift_logic` pair leaves alone, for EVERY flag combination

Each primitive edit of the model either only *inserts* entries (`appendKid` below some node, `grow`)
or only touches entries *below one address* (`removeAt p`, `modifyAt p f`).  `Framed tch S t u` collects what
then holds of the tree `u` obtained from `t`: the root keeps its name; the pre-order entry list (path, object
identity, attributes) of `t`, restricted to the entries outside `tch`, is a **sublist** of the entry list of
`u` (those nodes keep identity, path, attributes and relative order); and every object of `u` is an object
of `t` or one admitted by `S`.  Every function of the model gets one lemma `f … = .ok r → Framed …`.

No hypothesis on the tree (sibling names may even repeat) and none on the strings.
-/
namespace Modify

theorem filter_true_eq {α} (l : List α) : l.filter (fun _ => true) = l := by simp

theorem filter_not_mono {α} {p q : α → Bool} (h : ∀ e, p e = true → q e = true) (l : List α) :
    (l.filter fun e => !q e).Sublist (l.filter fun e => !p e) := by
  have : (l.filter fun e => !q e) = (l.filter fun e => !p e).filter fun e => !q e := by
    rw [List.filter_filter]
    exact List.filter_congr fun a _ => by cases hp : p a <;> simp [h a, hp]
  rw [this]; exact List.filter_sublist

theorem flat_sub_eraseKid (n : Str) (X : Tree) :
    ((flat X).filter (fun e => !under [n] e)).Sublist (flat (eraseKid n X)) := by
  cases X with
  | node i nm a cs =>
    simp only [eraseKid, setKids, Tree.children_node, flat_node, List.filter_cons, under_cons_root,
      Bool.not_false, if_true]
    refine List.Sublist.cons_cons _ ?_
    induction cs with
    | nil => simp [eraseChild]
    | cons c cs ih =>
      unfold eraseChild
      split
      next hc =>
        rw [flatL_cons, List.filter_append, beq_iff_eq.1 hc, filter_not_under_pre, List.nil_append]
        exact List.filter_sublist
      next hc =>
        rw [flatL_cons, flatL_cons, List.filter_append]
        exact List.filter_sublist.append ih

/-! ### the frame relation -/

/-- `u` arises from `t` by edits that touch only entries in `tch` and bring in only objects in `S` -/
structure Framed (tch : Entry → Bool) (S : Nat × Attrs → Prop) (t u : Tree) : Prop where
  name : u.name = t.name
  sub : ((flat t).filter (fun e => !tch e)).Sublist (flat u)
  objs : ∀ x ∈ objs u, x ∈ objs t ∨ S x

namespace Framed
variable {tch tch' : Entry → Bool} {S S' : Nat × Attrs → Prop} {t u v : Tree}

theorem refl : Framed tch S t t := ⟨rfl, List.filter_sublist, fun _ h => .inl h⟩

theorem trans (h1 : Framed tch S t u) (h2 : Framed tch S u v) : Framed tch S t v where
  name := h2.name.trans h1.name
  sub := by
    have := h1.sub.filter (fun e => !tch e)
    rw [List.filter_filter] at this
    simp only [Bool.and_self] at this
    exact this.trans h2.sub
  objs x hx := (h2.objs x hx).elim (h1.objs x) .inr

theorem mono (h : Framed tch S t u) (ht : ∀ e, tch e = true → tch' e = true) (hS : ∀ x, S x → S' x) :
    Framed tch' S' t u where
  name := h.name
  sub := (filter_not_mono ht _).trans h.sub
  objs x hx := (h.objs x hx).imp_right (hS x)

theorem absorb (h : Framed tch (fun x => x ∈ Modify.objs t ∨ S x) t u) : Framed tch S t u :=
  ⟨h.name, h.sub, fun x hx => (h.objs x hx).elim .inl id⟩

theorem modifyAt {g : Tree → Tree} {p : List Str} (hname : ∀ x, (g x).name = x.name)
    (hsub : ∀ x, ((flat x).filter (fun e => !tch (rebase p e))).Sublist (flat (g x)))
    (hobjs : ∀ X, ∀ x ∈ Modify.objs (g X), x ∈ Modify.objs X ∨ S x) :
    Framed tch S t (Modify.modifyAt p g t) where
  name := modifyAt_name p g hname t
  sub := by
    cases hX : getRel p t with
    | none => rw [modifyAt_none hX]; exact List.filter_sublist
    | some X =>
      obtain ⟨A, B, h1, h2, -⟩ := flat_zip hX
      rw [h1, h2 g (hname X), List.filter_append, List.filter_append, List.filter_map]
      exact (List.filter_sublist.append ((hsub X).map _)).append List.filter_sublist
  objs x hx := (objs_modifyAt hname p t hx).elim .inl fun ⟨X, hX, h⟩ =>
    (hobjs X x h).imp_left (objs_getRel p t X hX x)

/-- an edit of a touched node that brings nothing in: `del node.children`, removals below it -/
theorem shrink {g : Tree → Tree} {p : List Str} (hp : ∀ e, under p e = true → tch e = true)
    (hname : ∀ x, (g x).name = x.name) (hg : ∀ X, ∀ x ∈ Modify.objs (g X), x ∈ Modify.objs X) :
    Framed tch S t (Modify.modifyAt p g t) :=
  modifyAt hname
    (fun x => by
      rw [List.filter_eq_nil_iff.2]; · exact List.nil_sublist _
      intro e _
      rw [hp _ (under_rebase_self p e)]; decide)
    (fun X x hx => .inl (hg X x hx))

theorem removeAt {p : List Str} (hp : ∀ e, under p e = true → tch e = true) :
    Framed tch S t (Modify.removeAt p t) := by
  rcases removeAt_eq p t with h | ⟨q, n, X, rfl, -, h⟩ <;> rw [h]
  · exact refl
  · refine modifyAt (eraseKid_name n) (fun x => ?_) (fun X x hx => .inl (objs_eraseKid n X x hx))
    exact (filter_not_mono (fun e he => hp _ (by rw [under_append_rebase]; exact he)) _).trans
      (flat_sub_eraseKid n x)

/-- `node.parent = None` when the node still sits in the tree -/
theorem removeIf {live : Bool} {p : List Str} (hp : live = true → ∀ e, under p e = true → tch e = true) :
    Framed tch S t (if live then Modify.removeAt p t else t) := by
  cases live
  · exact refl
  · exact removeAt (hp rfl)

/-- `del node.children` when the node still sits in the tree -/
theorem delKidsIf {b : Bool} {p : List Str} (hp : b = true → ∀ e, under p e = true → tch e = true) :
    Framed tch S t (if b then Modify.modifyAt p (setKids []) t else t) := by
  cases b
  · exact refl
  · exact shrink (hp rfl) (setKids_name []) objs_setKids_nil

theorem appendAt {pp : List Str} {c : Tree} (hc : ∀ x ∈ Modify.objs c, S x) :
    Framed tch S t (Modify.modifyAt pp (appendKid c) t) :=
  modifyAt (appendKid_name c)
    (fun x => List.filter_sublist.trans (flat_appendKid c x ▸ List.sublist_append_left _ _))
    (fun X x hx => (objs_appendKid c X x hx).imp_right (hc x))

end Framed

/-! ### the functions of one pair

Each lemma assumes that `tch` covers what the function may touch and that `S` admits what it may bring in. -/

section
variable {tch : Entry → Bool} {S : Nat × Attrs → Prop}

theorem grow_framed {ns : List Str} {k : Nat} {t : Tree} {r : Tree × Nat} (h : grow ns k t = .ok r)
    (hnew : ∀ x : Nat × Attrs, k ≤ x.1 → x.1 < r.2 → S x) : k ≤ r.2 ∧ Framed tch S t r.1 := by
  obtain ⟨e, m, X, -, -, ⟨-, rfl⟩ | ⟨a, m', rfl, -, rfl⟩⟩ := grow_inv h
  · exact ⟨Nat.le_refl _, .refl⟩
  · refine ⟨Nat.le_add_right _ _, .appendAt fun x hx => ?_⟩
    obtain ⟨e', he', rfl⟩ := List.mem_map.1 hx
    obtain ⟨r, s, rfl, rfl⟩ := mem_flat_chain.1 he'
    exact hnew _ (Nat.le_add_right _ _) (by simp only [List.length_cons, List.length_append]; omega)

theorem decideMissing_framed {cfg : Cfg} {st : St} {tp : Str} {d : Dest}
    (h : decideMissing cfg st tp = .ok d) (hnew : ∀ x : Nat × Attrs, st.next ≤ x.1 → x.1 < d.next → S x) :
    st.next ≤ d.next ∧ Framed tch S st.dst d.dst := by
  unfold decideMissing at h
  generalize hx : addPath _ _ _ _ = x at h
  cases x with
  | error e => cases h
  | ok x =>
    cases h
    unfold addPath at hx
    refine ok_of_ite of_error_eq_ok (fun hx => ?_) hx
    generalize splitOn _ _ = l at hx
    cases l with
    | nil => cases hx
    | cons r rest =>
      refine ok_of_ite of_error_eq_ok (fun hx => ?_) hx
      generalize hy : grow rest st.next st.dst = y at hx
      cases y with
      | error e => cases hx
      | ok y => cases hx; exact grow_framed hy hnew

theorem decideExisting_framed {cfg : Cfg} {st : St} {fp dp : List Str} {d : Dest}
    (h : decideExisting cfg st fp dp = .ok d) (hdp : ∀ e, under dp e = true → tch e = true) :
    st.next ≤ d.next ∧ Framed tch S st.dst d.dst := by
  have keep : Framed tch S st.dst st.dst := .refl
  have rem : Framed tch S st.dst (removeAt dp st.dst) := .removeAt hdp
  have strip : Framed tch S st.dst (modifyAt dp (setKids []) st.dst) :=
    .shrink hdp (setKids_name []) objs_setKids_nil
  have ok : ∀ {T par mc}, Framed tch S st.dst T → (Except.ok ⟨T, st.next, par, mc⟩ : Except Err Dest) = .ok d →
      st.next ≤ d.next ∧ Framed tch S st.dst d.dst := fun hT h => by cases h; exact ⟨Nat.le_refl _, hT⟩
  -- the decision tree of `decideExisting`, leaf by leaf
  exact ok_of_ite (ok_of_ite (ok rem) (ok_of_ite (ok keep) of_error_eq_ok))
    (ok_of_ite (ok_of_ite (ok keep) (ok rem))
      (ok_of_ite (ok_of_ite (ok keep) (ok strip)) (ok_of_ite of_error_eq_ok (ok rem)))) h

theorem decideTo_framed {cfg : Cfg} {st : St} {fp : List Str} {tp : Option Str} {d : Dest}
    (h : decideTo cfg st fp tp = .ok d)
    (hdp : ∀ dp, destHandle cfg st tp = some dp → ∀ e, under dp e = true → tch e = true)
    (hnew : ∀ x : Nat × Attrs, st.next ≤ x.1 → x.1 < d.next → S x) :
    st.next ≤ d.next ∧ Framed tch S st.dst d.dst := by
  unfold decideTo at h
  cases tp with
  | none => cases h; exact ⟨Nat.le_refl _, .refl⟩
  | some tp =>
    simp only at h
    by_cases htp : tp = []
    · rw [if_pos htp] at h; cases h; exact ⟨Nat.le_refl _, .refl⟩
    · rw [if_neg htp] at h
      cases hf : findFullPath cfg.tsep st.dst tp with
      | error e => rw [hf] at h; cases h
      | ok o =>
        rw [hf] at h
        rcases o with _ | ⟨dp, X⟩
        · exact decideMissing_framed h hnew
        · exact decideExisting_framed h (hdp dp (by simp only [destHandle, if_neg htp, hf]))

theorem attachOne_framed {pp : List Str} {c t t' : Tree} (h : attachOne pp c t = .ok t')
    (hc : ∀ x ∈ objs c, S x) : Framed tch S t t' := by
  unfold attachOne at h
  cases hP : getRel pp t with
  | none => rw [hP] at h; cases h
  | some P =>
    simp only [hP] at h
    exact ok_of_ite of_error_eq_ok (fun h => by cases h; exact .appendAt hc) h

theorem attachAll_framed {pp : List Str} : ∀ {cs : List Tree} {t t' : Tree}, attachAll pp cs t = .ok t' →
    (∀ c ∈ cs, ∀ x ∈ objs c, S x) → Framed tch S t t'
  | [], t, t', h, _ => by cases h; exact .refl
  | c :: cs, t, t', h, hS => by
    unfold attachAll at h
    cases h1 : attachOne pp c t with
    | error e => rw [h1] at h; cases h
    | ok t1 =>
      rw [h1] at h
      exact (attachOne_framed h1 (hS c List.mem_cons_self)).trans
        (attachAll_framed h fun d hd => hS d (List.mem_cons_of_mem _ hd))

theorem attachChildren_framed {cfg : Cfg} {live : Bool} {fp : List Str} {Fc : Tree} {d : Dest} {t : Tree}
    (h : attachChildren cfg live fp Fc d = .ok t)
    (hfp : live = true → ∀ e, under fp e = true → tch e = true) (hS : ∀ x ∈ objs Fc, S x) :
    Framed tch S d.dst t := by
  unfold attachChildren at h
  cases hp : d.parent with
  | none => rw [hp] at h; cases h
  | some pp =>
    simp only [hp] at h
    refine ok_of_ite of_error_eq_ok (fun h => ?_) h
    generalize h1 : attachAll pp _ d.dst = r at h
    cases r with
    | error e => cases h
    | ok t1 =>
      cases h
      refine (attachAll_framed h1 fun c hc x hx => hS x ?_).trans (.removeIf hfp)
      obtain ⟨c0, hc0, rfl⟩ := List.mem_map.1 hc
      apply objs_child hc0
      split at hx
      · exact objs_setKids_nil c0 x hx
      · exact hx

theorem attachLeaves_framed {live : Bool} {fp : List Str} {Fc : Tree} {d : Dest} {t : Tree}
    (h : attachLeaves live fp Fc d = .ok t)
    (hfp : live = true → ∀ e, under fp e = true → tch e = true) (hS : ∀ x ∈ objs Fc, S x) :
    Framed tch S d.dst t := by
  unfold attachLeaves at h
  cases hp : d.parent with
  | none => rw [hp] at h; cases h
  | some pp =>
    simp only [hp] at h
    refine ok_of_ite of_error_eq_ok (ok_of_ite (fun h => ?_) (fun h => ?_)) h
    · exact (Framed.removeIf hfp).trans (attachOne_framed h hS)
    · generalize h1 : attachAll pp _ d.dst = r at h
      cases r with
      | error e => cases h
      | ok t1 =>
        cases h
        refine (attachAll_framed h1 fun c hc x hx => ?_).trans ?_
        · obtain ⟨pr, hpr, rfl⟩ := List.mem_map.1 hc
          exact hS x (objs_nodesRel Fc pr (List.mem_filter.1 hpr).1 x hx)
        · cases live
          · exact .refl
          · exact .shrink (hfp rfl) (removeAll_name _) (fun X => objs_removeAll_sub _ X)

theorem attachNode_framed {live : Bool} {fp : List Str} {Fm t0 : Tree} {parent : Option (List Str)} {t : Tree}
    (h : attachNode live fp Fm t0 parent = .ok t)
    (hfp : live = true → ∀ e, under fp e = true → tch e = true) (hS : ∀ x ∈ objs Fm, S x) :
    Framed tch S t0 t := by
  unfold attachNode at h
  cases parent with
  | none => cases h; exact .removeIf hfp
  | some pp =>
    simp only at h
    exact ok_of_ite of_error_eq_ok (fun h => (Framed.removeIf hfp).trans (attachOne_framed h hS)) h

/-- the node that gets attached: a deep copy with fresh ids, or the node itself -/
theorem copy_objs (copy : Bool) (k : Nat) (F : Tree) :
    k ≤ (if copy then relabel k F else (F, k)).2 ∧
    ∀ x ∈ objs (if copy then relabel k F else (F, k)).1,
      (copy = false ∧ x ∈ objs F) ∨ (k ≤ x.1 ∧ x.1 < (if copy then relabel k F else (F, k)).2) := by
  cases copy
  · exact ⟨Nat.le_refl _, fun x hx => .inl ⟨rfl, hx⟩⟩
  · obtain ⟨-, h2, -, h4, -⟩ := relabel_ok F k
    refine ⟨Nat.le_of_lt h2, fun x hx => ?_⟩
    obtain ⟨e, he, rfl⟩ := List.mem_map.1 hx
    exact .inr (h4 e he)

theorem attach_framed {cfg : Cfg} {sn : Bool} {d : Dest} {fp : List Str} {F0 : Tree} {r : Tree × Nat}
    (h : attach cfg sn d fp F0 = .ok r)
    (hfp : (sn && !cfg.copy) = true → ∀ e, under fp e = true → tch e = true)
    (hF0 : cfg.copy = false → ∀ x ∈ objs F0, S x)
    (hnew : ∀ x : Nat × Attrs, d.next ≤ x.1 → x.1 < r.2 → S x) :
    d.next ≤ r.2 ∧ Framed tch S d.dst r.1 := by
  unfold attach at h
  extract_lets cur F live Fc core at h
  cases hcore : core with
  | error e => rw [hcore] at h; cases h
  | ok t =>
    rw [hcore] at h
    injection h with h; subst h
    obtain ⟨hk, hFc⟩ := copy_objs cfg.copy d.next F
    refine ⟨hk, .absorb ?_⟩
    -- `live` implies a same-tree shift
    have hlive : live = true → ∀ e, under fp e = true → tch e = true := fun hl => by
      cases sn
      · exact absurd hl Bool.false_ne_true
      · exact hfp (Bool.and_eq_true _ _ ▸ hl).2
    -- the node to attach: the live one (objects of `d.dst`) or the one looked up
    have hS : ∀ x ∈ objs Fc.1, x ∈ objs d.dst ∨ S x := by
      intro x hx
      rcases hFc x hx with ⟨hcp, hx⟩ | ⟨h1, h2⟩
      · cases sn
        · exact .inr (hF0 hcp x hx)
        · cases hg : getRel fp d.dst with
          | none => exact .inr (hF0 hcp x (by simpa [F, cur, hg] using hx))
          | some X => exact .inl (objs_getRel fp d.dst X hg x (by simpa [F, cur, hg] using hx))
      · exact .inr (hnew x h1 h2)
    have hstrip : ∀ x ∈ objs (if cfg.deleteChildren then setKids [] Fc.1 else Fc.1), x ∈ objs d.dst ∨ S x := by
      intro x hx
      split at hx
      · exact hS x (objs_setKids_nil _ x hx)
      · exact hS x hx
    refine ok_of_ite (fun h => attachChildren_framed h hlive hS)
      (ok_of_ite (fun h => attachLeaves_framed h hlive hS) fun h => ?_) hcore
    -- plain shift / copy; `del from_node.children` touches only entries below `fp`
    exact (Framed.delKidsIf fun hb => hlive (Bool.and_eq_true _ _ ▸ hb).1).trans
      (attachNode_framed h hlive hstrip)

end

/-- **One pair, every flag combination.**  `F` is the from-node as looked up.  The root keeps its name; the
entries of the old destination tree that are neither below the from-node (same-tree shift) nor below the
existing destination form a sublist of the entries of the new tree; every node of the new tree is an object
that existed before (same identity, same attributes) or a copy with an identity from `[st.next, st'.next)`. -/
theorem step_framed {cfg : Cfg} {st st' : St} {pr : Str × Option Str} {fp : List Str} {F : Tree}
    (hres : resolveFrom cfg st pr.1 = .ok (some (fp, F))) (h : step cfg st pr = .ok st') :
    st.next ≤ st'.next ∧ st'.src = st.src ∧
    Framed (touched (if st.src.isNone && !cfg.copy then some fp else none) (destHandle cfg st pr.2))
      (fun x => (cfg.copy = false ∧ x ∈ objs F) ∨ (st.next ≤ x.1 ∧ x.1 < st'.next)) st.dst st'.dst := by
  unfold step at h
  rw [hres] at h
  cases hd : decideTo cfg st fp pr.2 with
  | error e => simp only [hd] at h; cases h
  | ok d =>
    cases ha : attach cfg st.src.isNone d fp F with
    | error e => simp only [hd, ha] at h; cases h
    | ok r =>
      simp only [hd, ha] at h; cases h
      have hdp : ∀ dp, destHandle cfg st pr.2 = some dp → ∀ e, under dp e = true →
          touched (if st.src.isNone && !cfg.copy then some fp else none) (destHandle cfg st pr.2) e = true :=
        fun dp hdp e he => by rw [hdp]; simp only [touched, he, Bool.or_true]
      have hfp : (st.src.isNone && !cfg.copy) = true → ∀ e, under fp e = true →
          touched (if st.src.isNone && !cfg.copy then some fp else none) (destHandle cfg st pr.2) e = true :=
        fun hl e he => by rw [if_pos hl]; simp only [touched, he, Bool.true_or]
      obtain ⟨h1, f1⟩ := decideTo_framed (S := fun x => st.next ≤ x.1 ∧ x.1 < d.next) hd hdp
        (fun _ a b => ⟨a, b⟩)
      obtain ⟨h2, f2⟩ := attach_framed (S := fun x => (cfg.copy = false ∧ x ∈ objs F) ∨
        (st.next ≤ x.1 ∧ x.1 < r.2)) ha hfp (fun hc x hx => .inl ⟨hc, hx⟩)
        (fun x a b => .inr ⟨Nat.le_trans h1 a, b⟩)
      exact ⟨Nat.le_trans h1 h2, rfl,
        (f1.mono (fun _ he => he) fun x hx => .inr ⟨hx.1, Nat.lt_of_lt_of_le hx.2 h2⟩).trans f2⟩

/-- **Frame of one pair, every flag combination.** -/
theorem step_sub {cfg : Cfg} {st st' : St} {pr : Str × Option Str} {fp : List Str} {F : Tree}
    (hres : resolveFrom cfg st pr.1 = .ok (some (fp, F))) (h : step cfg st pr = .ok st') :
    ((flat st.dst).filter (fun e =>
      !touched (if st.src.isNone && !cfg.copy then some fp else none) (destHandle cfg st pr.2) e)).Sublist
      (flat st'.dst) :=
  (step_framed hres h).2.2.sub

/-- **Nothing is invented by one pair, every flag combination.**  `F` is the from-node as looked up. -/
theorem step_objs {cfg : Cfg} {st st' : St} {pr : Str × Option Str} {fp : List Str} {F : Tree}
    (hres : resolveFrom cfg st pr.1 = .ok (some (fp, F))) (h : step cfg st pr = .ok st') :
    st.next ≤ st'.next ∧
    ∀ x ∈ objs st'.dst, Known (objs st.dst ++ (if cfg.copy then [] else objs F)) st.next st'.next x := by
  obtain ⟨hn, -, hf⟩ := step_framed hres h
  refine ⟨hn, fun x hx => ?_⟩
  rcases hf.objs x hx with h | ⟨hc, h⟩ | h
  · exact .inl (List.mem_append_left _ h)
  · exact .inl (List.mem_append_right _ (by rw [hc]; exact h))
  · exact .inr h

/-! ### root name and source tree along the loop, read off `step_framed` -/

theorem step_name {cfg st pr st'} (h : step cfg st pr = .ok st') :
    st'.dst.name = st.dst.name ∧ st'.src = st.src := by
  cases hres : resolveFrom cfg st pr.1 with
  | error e => simp only [step, hres] at h; cases h
  | ok o =>
    rcases o with _ | ⟨fp, F⟩
    · simp only [step, hres] at h
      split at h
      · cases h; exact ⟨rfl, rfl⟩
      · cases h
    · exact ⟨(step_framed hres h).2.2.name, (step_framed hres h).2.1⟩

theorem step_tree_name {cfg st pr st'} (h : step cfg st pr = .ok st') :
    st'.tree.name = st.tree.name :=
  tree_name_of (step_name h)

theorem loop_src {cfg st ps st'} (h : loop cfg st ps = .ok st') : st'.src = st.src := by
  induction ps generalizing st with
  | nil => simp [loop] at h; rw [h]
  | cons p ps ih =>
    simp only [loop] at h
    cases hs : step cfg st p with
    | error e => rw [hs] at h; simp at h
    | ok st1 => rw [hs] at h; rw [ih h, (step_name hs).2]

end Modify
