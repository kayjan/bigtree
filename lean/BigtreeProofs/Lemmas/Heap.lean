import BigtreeModel.Relation
/-!
# Lemmas for `list_to_binarytree` (C13)

The loop of `Heap.listToStore` maintains: after `k` elements the store is `specStore (first k)`,
the store in which slot `p` points to `2p+1` / `2p+2` exactly when these are `< k`.
-/
open Paths

namespace Heap

/-- slot `p` of the heap-shaped store over `n` elements -/
def slotOf (n p : Nat) (v : Int) : Slot :=
  Slot.mk v (if 2 * p + 1 < n then some (2 * p + 1) else none) (if 2 * p + 2 < n then some (2 * p + 2) else none)

/-- the heap-shaped store: specification of `node_list` -/
def specStore (vs : List Int) : List Slot := vs.mapIdx fun p v => slotOf vs.length p v

theorem specStore_length (vs) : (specStore vs).length = vs.length := by simp [specStore]

theorem specStore_get (vs : List Int) (p : Nat) :
    (specStore vs)[p]? = (vs[p]?).map (slotOf vs.length p) := by
  simp [specStore, List.getElem?_mapIdx]

theorem slotOf_left {n p i : Nat} {v : Int} : (slotOf n p v).left = some i ↔ 2 * p + 1 < n ∧ 2 * p + 1 = i := by
  simp only [slotOf, Option.ite_none_right_eq_some, Option.some.injEq]

theorem slotOf_right {n p i : Nat} {v : Int} : (slotOf n p v).right = some i ↔ 2 * p + 2 < n ∧ 2 * p + 2 = i := by
  simp only [slotOf, Option.ite_none_right_eq_some, Option.some.injEq]

theorem slotOf_succ {n p : Nat} (v : Int) (h : 2 * p + 1 ≠ n ∧ 2 * p + 2 ≠ n) :
    slotOf (n + 1) p v = slotOf n p v := by
  have lt_succ : ∀ {m}, m ≠ n → (m < n + 1 ↔ m < n) := fun hm => by
    rw [Nat.lt_succ_iff, Nat.lt_iff_le_and_ne, and_iff_left hm]
  simp only [slotOf, lt_succ h.1, lt_succ h.2]

theorem parentIdx_succ (k : Nat) : parentIdx (k + 1) = k / 2 := by
  show (k + 2) / 2 - 1 = k / 2
  rw [Nat.add_div_right k (by decide), Nat.add_sub_cancel]

theorem parentIdx_eq : ∀ n, parentIdx n = (n - 1) / 2
  | 0 => rfl
  | k + 1 => parentIdx_succ k

theorem eq_child_parentIdx {n : Nat} (h1 : 1 ≤ n) :
    n = 2 * parentIdx n + 1 ∨ n = 2 * parentIdx n + 2 := by
  obtain ⟨k, rfl⟩ : ∃ k, n = k + 1 := ⟨n - 1, (Nat.sub_add_cancel h1).symm⟩
  rw [parentIdx_succ]
  have hk := Nat.div_add_mod k 2
  rcases Nat.mod_two_eq_zero_or_one k with h | h <;> rw [h] at hk
  · exact .inl (congrArg (· + 1) hk.symm)
  · exact .inr (congrArg (· + 1) hk.symm)

/-- Attaching position `n ≥ 1` fills the first empty slot of its parent and changes no other slot. -/
theorem attach_mapIdx (vs : List Int) (n : Nat) (h1 : 1 ≤ n) (hn : n ≤ vs.length) :
    attach (vs.mapIdx (slotOf n)) (parentIdx n) n = .ok (vs.mapIdx (slotOf (n + 1))) := by
  have hpar := eq_child_parentIdx h1
  generalize parentIdx n = p at hpar ⊢
  have hlt : p < vs.length := by omega
  have hset : (vs.mapIdx (slotOf n)).set p (slotOf (n + 1) p vs[p]) = vs.mapIdx (slotOf (n + 1)) := by
    symm
    rw [List.mapIdx_eq_iff]
    intro j
    rw [List.getElem?_set, List.length_mapIdx, List.getElem?_mapIdx]
    split
    · subst j; rw [List.getElem?_eq_getElem hlt]; rfl
    · cases vs[j]? with
      | none => rfl
      | some v => exact congrArg some (slotOf_succ v (by omega)).symm
  rw [← hset, attach, List.getElem?_mapIdx, List.getElem?_eq_getElem hlt]
  rcases hpar with rfl | rfl
  · simp [slotOf]
  · simp [slotOf]

theorem loop_spec (xs : List Int) : ∀ (done : List Int), done ≠ [] →
    loop xs done.length (specStore done) = .ok (specStore (done ++ xs)) := by
  induction xs with
  | nil => intro done _; rw [loop, List.append_nil]
  | cons x xs ih =>
    intro done h
    have hlast : slotOf (done.length + 1) done.length x = ⟨x, none, none⟩ := by
      unfold slotOf; rw [if_neg (by omega), if_neg (by omega)]
    have hst : specStore (done ++ [x]) = done.mapIdx (slotOf (done.length + 1)) ++ [⟨x, none, none⟩] := by
      rw [specStore, List.mapIdx_concat, List.length_append, List.length_singleton, hlast]
    rw [loop, specStore, attach_mapIdx done _ (List.length_pos_iff.mpr h) (Nat.le_refl _)]
    have := ih (done ++ [x]) (by simp)
    rwa [List.length_append, hst, List.append_assoc] at this

theorem heapTree_none (xs : List Int) (f i : Nat) (h : xs.length ≤ i) : heapTree xs f i = .nil := by
  cases f with
  | zero => rfl
  | succ f => simp [heapTree, List.getElem?_eq_none h]

theorem readBack_spec (xs : List Int) : ∀ (f i : Nat),
    readBack (specStore xs) f i = heapTree xs f i := by
  intro f
  induction f with
  | zero => intro i; rfl
  | succ f ih =>
    intro i
    -- a child slot holds `j` exactly when `j` is occupied
    have child : ∀ j, (match (if j < xs.length then some j else none : Option Nat) with
        | some l => readBack (specStore xs) f l
        | none => BTree.nil) = heapTree xs f j := by
      intro j
      by_cases h : j < xs.length
      · rw [if_pos h]; exact ih j
      · rw [if_neg h]; exact (heapTree_none xs f j (by omega)).symm
    unfold readBack heapTree
    rw [specStore_get]
    cases xs[i]? with
    | none => rfl
    | some v => exact congr (congrArg _ (child _)) (child _)

end Heap
