import BigtreeProofs.Lemmas.StringsBridge
/-! String lemmas for C09: the string functions of the search model are those of `Strings`
(`StringsBridge`), so `split` and `join` are inverse to each other for every non-empty separator. -/

namespace Search

@[simp] theorem join_nil (sep : Str) : join sep [] = [] := rfl

theorem join_split_multi (sp : Str) (hsp : sp ≠ []) (x : Str) : join sp (split sp x) = x := by
  rw [split_eq_strings, join_eq_intercalate, Strings.join_split sp hsp]

theorem split_join_multi (sp : Str) (hsp : sp ≠ []) (ws : List Str) (hne : ws ≠ [])
    (h : ∀ w ∈ ws, Store.Free sp w) : split sp (join sp ws) = ws := by
  rw [split_eq_strings, join_eq_intercalate, Strings.split_join sp hsp ws hne h]

end Search
