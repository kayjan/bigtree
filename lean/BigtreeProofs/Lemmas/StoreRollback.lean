import BigtreeProofs.Lemmas.StoreWF
/-!
# C02 on the pointer store: the executed roll-back of either setter restores the snapshot
-/

namespace Store

/-! ## lists: erasing and re-inserting at the recorded index -/

/-- `list.remove(v)` followed by `list.insert(list.index(v), v)`: the first occurrence goes and comes back -/
theorem insertIdx_erase_idxOf {l : List Nat} {v : Nat} (hv : v ∈ l) :
    (l.erase v).insertIdx (l.idxOf v) v = l := by
  induction l with
  | nil => cases hv
  | cons a l ih =>
    by_cases h : a = v
    · rw [h, List.erase_cons_head, List.idxOf_cons_self, List.insertIdx_zero]
    · rw [List.erase_cons_tail (mt beq_iff_eq.1 h), List.idxOf_cons, beq_false_of_ne h, cond_false,
        List.insertIdx_succ_cons, ih ((List.mem_cons.1 hv).resolve_left (Ne.symm h))]

theorem erase_insertIdx (l : List Nat) (v : Nat) (hv : v ∈ l) (hn : l.Nodup) :
    (l.erase v).insertIdx (l.idxOf v) v = l :=
  insertIdx_erase_idxOf hv

theorem pyInsert_erase {l : List Nat} {v : Nat} (hv : v ∈ l) : pyInsert (l.erase v) (l.idxOf v) v = l := by
  rw [pyInsert, if_pos (List.length_erase_of_mem hv ▸ Nat.le_sub_one_of_lt (List.idxOf_lt_length_of_mem hv))]
  exact insertIdx_erase_idxOf hv

theorem pyInsert_zero (l : List Nat) (x : Nat) : pyInsert l 0 x = x :: l :=
  if_pos (Nat.zero_le _)

theorem pyInsert_succ_cons (a : Nat) (l : List Nat) (k x : Nat) :
    pyInsert (a :: l) (k + 1) x = a :: pyInsert l k x := by
  unfold pyInsert
  by_cases h : k ≤ l.length <;> simp [h]

theorem idxOf_cons_ne {a b : Nat} (h : a ≠ b) (l : List Nat) : (a :: l).idxOf b = l.idxOf b + 1 := by
  rw [List.idxOf_cons, beq_false_of_ne h, cond_false]

theorem not_contains_cons_of_ne {y a : Nat} (h : y ≠ a) (R : List Nat) :
    (!(a :: R).contains y) = !R.contains y := by
  rw [List.contains_cons, beq_false_of_ne h, Bool.false_or]

theorem not_contains_of_not_mem {y : Nat} {R : List Nat} (h : y ∉ R) : (!R.contains y) = true := by
  rw [List.contains_eq_mem, decide_eq_false h]; rfl

theorem idxOf_inj_of_mem {l : List Nat} {a b : Nat} (ha : a ∈ l) (h : l.idxOf a = l.idxOf b) : a = b := by
  have hb : l.idxOf b < l.length := h ▸ List.idxOf_lt_length_of_mem ha
  rw [← List.getElem_idxOf hb, ← List.getElem_idxOf (List.idxOf_lt_length_of_mem ha)]
  exact getElem_congr_idx h

/-! ## the parent setter -/

theorem parentBody_idx (s : Store) (v : Nat) (np : Option Nat) :
    (parentBody s v np).2 = (s.parent v).map fun p => (s.children p).idxOf v := by
  unfold parentBody
  cases hc : s.parent v <;> cases np <;> rfl

theorem setC_append_erase (t : Store) (q v : Nat) (h : v ∉ t.children q) :
    (t.setC q (t.children q ++ [v])).setC q (((t.setC q (t.children q ++ [v])).children q).erase v) = t := by
  rw [setC_children, if_pos rfl, List.erase_append_right _ h, List.erase_cons_head, List.append_nil, setC_setC, setC_self]

theorem setC_erase_pyInsert {s : Store} (hw : WF s) {v p : Nat} (hc : s.parent v = some p) (x : Option Nat) :
    (((s.setC p ((s.children p).erase v)).setP v x).setP v (some p)).setC p
      (pyInsert ((((s.setC p ((s.children p).erase v)).setP v x).setP v (some p)).children p)
        ((s.children p).idxOf v) v) = s := by
  rw [setP_setP, setP_children, setC_children, if_pos rfl,
    pyInsert_erase (hw.up v p hc)]
  show ((s.setP v (some p)).setC p _).setC p _ = s
  rw [setC_setC, ← hc, setP_self, setC_self]

/-- C02 for the parent setter: executing the `except` branch after the body restores the store -/
theorem parentRollback_id {s : Store} (hw : WF s) (v : Nat) (np : Option Nat) :
    parentRollback (parentBody s v np).1 v np (s.parent v) (parentBody s v np).2 = s := by
  cases hc : s.parent v with
  | none =>
    have hv : ∀ q, v ∉ s.children q := fun q h => by rw [hw.down q v h] at hc; cases hc
    cases np with
    | none =>
      simp only [parentBody, parentRollback, hc]
      rw [setP_setP, ← hc, setP_self]
    | some q =>
      simp only [parentBody, parentRollback, hc]
      rw [setC_append_erase (s.setP v (some q)) q v (hv q), setP_setP, ← hc, setP_self]
  | some p =>
    have hv : ∀ q, v ∉ (s.setC p ((s.children p).erase v)).children q := by
      intro q h
      rw [setC_children] at h
      split at h
      · exact ((hw.nodup p).mem_erase_iff.1 h).1 rfl
      · next hq => exact hq (Option.some.inj ((hw.down q v h).symm.trans hc))
    cases np with
    | none =>
      simp only [parentBody, parentRollback, hc]
      exact setC_erase_pyInsert hw hc none
    | some q =>
      simp only [parentBody, parentRollback, hc]
      rw [setC_append_erase ((s.setC p ((s.children p).erase v)).setP v (some q)) q v (hv q)]
      exact setC_erase_pyInsert hw hc (some q)

/-! ## the children setter -/

/-- re-inserting an erased element at its original index, when every other erased element of the
list lies behind it, gives back the list with only the others erased
(what the D1 repair — ascending original index — makes true) -/
theorem reinsert_one (l : List Nat) (x : Nat) (R : List Nat) (hn : l.Nodup) (hx : x ∈ l)
    (hxR : x ∉ R) (hlt : ∀ r ∈ R, r ∈ l → l.idxOf x < l.idxOf r) :
    pyInsert (l.filter fun y => !(x :: R).contains y) (l.idxOf x) x = l.filter fun y => !R.contains y := by
  induction l with
  | nil => cases hx
  | cons a l ih =>
    by_cases h : a = x
    · -- `x` is the head: it is filtered out and put back in front; it does not occur in the tail
      subst h
      rw [List.idxOf_cons_self, pyInsert_zero, List.filter_cons_of_neg (by simp),
        List.filter_cons_of_pos (p := fun y => !R.contains y) (not_contains_of_not_mem hxR)]
      exact congrArg (a :: ·) (List.filter_congr fun y hy =>
        not_contains_cons_of_ne (fun e : y = a => (List.nodup_cons.1 hn).1 (e ▸ hy)) R)
    · -- the head is before `x`, so it is not in `R` and stays in both lists
      have haR : a ∉ R := fun haR => by
        have := hlt a haR List.mem_cons_self
        rw [List.idxOf_cons_self] at this
        exact Nat.not_lt_zero _ this
      rw [idxOf_cons_ne h, List.filter_cons_of_pos (p := fun y => !(x :: R).contains y)
          ((not_contains_cons_of_ne h R).trans (not_contains_of_not_mem haR)),
        List.filter_cons_of_pos (p := fun y => !R.contains y) (not_contains_of_not_mem haR),
        pyInsert_succ_cons,
        ih (List.nodup_cons.1 hn).2 ((List.mem_cons.1 hx).resolve_left (Ne.symm h)) fun r hr hrl => ?_]
      have := hlt r hr (List.mem_cons_of_mem a hrl)
      rw [idxOf_cons_ne h, idxOf_cons_ne fun e : a = r => haR (e ▸ hr)] at this
      exact Nat.lt_of_succ_lt_succ this

/-! ## the restoring loop -/

/-- what the snapshot `current_new_children` guarantees about its entries -/
structure GoodEntry (s : Store) (e : Nat × Nat × Nat) : Prop where
  par : s.parent e.1 = some e.2.2
  idx : e.2.1 = (s.children e.2.2).idxOf e.1

/-- invariant of the restoring loop: `D` already restored, `R` still pending; nothing is said of `v`'s
own list, which is overwritten after the loop -/
structure RInv (s s3 : Store) (v : Nat) (st : Store) (D R : List Nat) : Prop where
  n : st.n = s.n
  name : st.name = s.name
  sepOf : st.sepOf = s.sepOf
  par : ∀ x, st.parent x = if x ∈ D then s.parent x else s3.parent x
  ch : ∀ p, p ≠ v → st.children p = (s.children p).filter fun y => !R.contains y

theorem restore_fold {s s3 : Store} (hw : WF s) (v : Nat) :
    ∀ (L : List (Nat × Nat × Nat)) (st : Store) (D : List Nat),
      (∀ e ∈ L, GoodEntry s e) → (L.map (·.1)).Nodup → L.Pairwise (fun a b => a.2.1 ≤ b.2.1) →
      RInv s s3 v st D (L.map (·.1)) →
      RInv s s3 v (L.foldl restoreStep st) (D ++ L.map (·.1)) [] := by
  intro L
  induction L with
  | nil => intro st D _ _ _ h; rwa [List.map_nil, List.append_nil]
  | cons e rest ih =>
    intro st D hg hnd hsort hinv
    obtain ⟨c, i, p⟩ := e
    have hpar : s.parent c = some p := (hg _ List.mem_cons_self).par
    have hidx : i = (s.children p).idxOf c := (hg _ List.mem_cons_self).idx
    have hnd' : c ∉ rest.map (·.1) ∧ (rest.map (·.1)).Nodup := List.nodup_cons.1 hnd
    rw [List.foldl_cons, List.map_cons, List.append_cons]
    refine ih _ _ (fun e he => hg e (List.mem_cons_of_mem _ he)) hnd'.2 hsort.of_cons
      ⟨hinv.n, hinv.name, hinv.sepOf, fun x => ?_, fun q hq => ?_⟩
    · dsimp only [restoreStep, setC_parent, setP_parent]
      rw [hinv.par]
      by_cases hx : x = c <;> simp [hx, hpar]
    · dsimp only [restoreStep, setC_children, setP_children]
      by_cases hqp : q = p
      · -- the list `c` was taken from: the entries still pending were behind `c`
        rw [if_pos hqp, ← hqp, hinv.ch q hq, hidx, ← hqp]
        refine reinsert_one _ _ _ (hw.nodup q) (hw.up c q (hqp ▸ hpar)) hnd'.1 fun r hr hrl => ?_
        obtain ⟨e', he', hre⟩ := List.mem_map.1 hr
        have hp' : some e'.2.2 = some q := ((hg e' (List.mem_cons_of_mem _ he')).par.symm.trans (hre ▸ hw.down q r hrl))
        have hle : i ≤ e'.2.1 := List.rel_of_pairwise_cons hsort he'
        rw [(hg e' (List.mem_cons_of_mem _ he')).idx, Option.some.inj hp', hre, hidx, ← hqp] at hle
        exact Nat.lt_of_le_of_ne hle fun e => hnd'.1 (idxOf_inj_of_mem (hw.up c q (hqp ▸ hpar)) e ▸ hr)
      · -- any other list never held `c`
        rw [if_neg hqp, hinv.ch q hq]
        exact List.filter_congr fun y hy => not_contains_cons_of_ne
          (fun e : y = c => hqp (Option.some.inj ((hw.down q y hy).symm.trans (e ▸ hpar)))) _

theorem mem_stolenOf {s : Store} {cs : List Nat} {e : Nat × Nat × Nat} :
    e ∈ stolenOf s cs ↔ e.1 ∈ cs ∧ s.parent e.1 = some e.2.2 ∧ e.2.1 = (s.children e.2.2).idxOf e.1 := by
  unfold stolenOf
  rw [List.mem_filterMap]
  constructor
  · rintro ⟨a, ha, h⟩
    cases hp : s.parent a <;> rw [hp] at h <;> cases h
    exact ⟨ha, hp, rfl⟩
  · rintro ⟨hc, hp, hi⟩
    refine ⟨e.1, hc, ?_⟩
    rw [hp]
    exact congrArg (fun i => some (e.1, i, e.2.2)) hi.symm

theorem stolenOf_ids (s : Store) (cs : List Nat) :
    (stolenOf s cs).map (·.1) = cs.filter fun c => (s.parent c).isSome := by
  rw [stolenOf, List.map_filterMap, ← List.filterMap_eq_filter]
  congr 1
  funext c
  cases h : s.parent c <;> simp [Option.guard, h]

theorem foldl_setP_const (val : Option Nat) (l : List Nat) (st : Store) :
    l.foldl (fun st c => st.setP c val) st =
      { st with parent := fun x => if x ∈ l then val else st.parent x } := by
  induction l generalizing st with
  | nil => rfl
  | cons c l ih =>
    rw [List.foldl_cons, ih]
    refine ext' rfl (funext fun x => ?_) rfl rfl rfl
    simp only [setP_parent, List.mem_cons]
    by_cases h : x = c <;> simp [h]

theorem childrenRollback_of_perm {s : Store} (hw : WF s) (v : Nat) {cs : List Nat} (hn : cs.Nodup)
    {order : List (Nat × Nat × Nat)} (hperm : order.Perm (stolenOf s cs))
    (hsort : order.Pairwise fun a b => a.2.1 ≤ b.2.1) :
    childrenRollback (adopted s v cs) v order (cs.filter fun x => (s.parent x).isNone) (s.children v) = s := by
  have hids : (order.map (·.1)).Perm (cs.filter fun c => (s.parent c).isSome) :=
    stolenOf_ids s cs ▸ hperm.map _
  have hmem : ∀ y, y ∈ order.map (·.1) ↔ y ∈ cs ∧ (s.parent y).isSome = true := fun y =>
    hids.mem_iff.trans List.mem_filter
  have hinv := restore_fold (s3 := adopted s v cs) hw v order (adopted s v cs) []
    (fun e he => ⟨(mem_stolenOf.1 (hperm.mem_iff.1 he)).2.1, (mem_stolenOf.1 (hperm.mem_iff.1 he)).2.2⟩)
    (hids.nodup_iff.2 (hn.sublist List.filter_sublist)) hsort
    ⟨rfl, rfl, rfl, fun x => rfl, fun p hp => by
      rw [adopted_children, if_neg hp]
      refine List.filter_congr fun y hy => ?_
      simp only [List.contains_eq_mem, hmem, hw.down p y hy, Option.isSome_some, and_true]⟩
  unfold childrenRollback
  rw [foldl_setP_const, foldl_setP_const]
  refine ext' hinv.n (funext fun x => ?_) (funext fun x => ?_) hinv.name hinv.sepOf
  · dsimp only [setC_parent]
    rw [hinv.par, List.nil_append, adopted_parent]
    by_cases h1 : x ∈ s.children v
    · rw [if_pos h1, hw.down v x h1]
    · -- a new child taken from another parent was restored by the loop, a new child without one goes
      -- back to `None`, every other node kept its parent
      have hv : s.parent x ≠ some v := fun h => h1 (hw.up x v h)
      by_cases hc : x ∈ cs
      · cases hp : s.parent x <;> simp [h1, hc, hmem, hp, List.mem_filter]
      · simp [h1, hc, hmem, ParentFn.adoptFn, hv, List.mem_filter]
  · dsimp only [setC_children]
    by_cases hx : x = v
    · rw [if_pos hx, hx]
    · rw [if_neg hx, hinv.ch x hx]; exact List.filter_eq_self.2 fun _ _ => rfl

/-- C02 for the children setter: executing the `except` branch (ascending original index, D1)
after the body restores the store -/
theorem childrenRollback_id {s : Store} (hw : WF s) (v : Nat) (cs : List Nat) (hn : cs.Nodup) :
    childrenRollback (adopted s v cs) v (sortKey (fun e => e.2.1) (stolenOf s cs))
      (cs.filter fun x => (s.parent x).isNone) (s.children v) = s :=
  childrenRollback_of_perm hw v hn (sortKey_perm _ _) (sortKey_pairwise _ _)

end Store
