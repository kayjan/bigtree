import BigtreeModel.Paths
import BigtreeProofs.Lemmas.PathsAddr
/-!
# The set of node paths, sibling-uniqueness, and what one step of `add_path_to_tree` does to them (C05)

The two steps (appending a leaf, setting attributes) are `Grows` modifications, so where the nodes
of the result are is known from `PathsAddr`; paths and sibling-uniqueness are read off address by
address (`mem_paths_addr`, `sibUnique_iff_nodeAt`).
-/

namespace Paths

theorem paths_eq (t : Tree) : paths t = [t.name] :: (pathsL t.children).map (t.name :: ·) := by
  cases t; simp [paths]

@[simp] theorem pathsL_nil : pathsL [] = [] := by simp [pathsL]
@[simp] theorem pathsL_cons (c cs) : pathsL (c :: cs) = paths c ++ pathsL cs := by simp [pathsL]

theorem pathsL_append (cs ds : List Tree) : pathsL (cs ++ ds) = pathsL cs ++ pathsL ds := by
  induction cs with
  | nil => simp
  | cons c cs ih => simp [ih]

theorem mem_pathsL {q : List Str} {cs : List Tree} : q ∈ pathsL cs ↔ ∃ c ∈ cs, q ∈ paths c := by
  induction cs with
  | nil => simp
  | cons c cs ih => simp [ih]

theorem mem_pathsL_idx {q : List Str} {cs : List Tree} :
    q ∈ pathsL cs ↔ ∃ (j : Nat) (e : Tree), cs[j]? = some e ∧ q ∈ paths e := by
  rw [mem_pathsL]
  constructor
  · rintro ⟨c, hc, hq⟩
    obtain ⟨j, hj, rfl⟩ := List.getElem_of_mem hc
    exact ⟨j, cs[j], List.getElem?_eq_getElem hj, hq⟩
  · rintro ⟨j, e, hj, hq⟩
    exact ⟨e, List.mem_of_getElem? hj, hq⟩

theorem mem_paths_iff {q : List Str} {t : Tree} :
    q ∈ paths t ↔ q = [t.name] ∨ ∃ q' ∈ pathsL t.children, t.name :: q' = q := by
  rw [paths_eq, List.mem_cons, List.mem_map]

theorem head_of_mem_paths {q : List Str} {t : Tree} (h : q ∈ paths t) : q.head? = some t.name := by
  rcases mem_paths_iff.mp h with rfl | ⟨q', _, rfl⟩ <;> rfl

theorem mem_paths_addr : ∀ (t : Tree) (q : List Str),
    q ∈ paths t ↔ ∃ a n, nodeAt a t = some n ∧ namesAlong a t = q := by
  intro t
  induction t using Tree.ind with
  | h i n at' cs ih =>
    intro q
    rw [mem_paths_iff]
    constructor
    · rintro (rfl | ⟨q', hq', rfl⟩)
      · exact ⟨[], _, rfl, rfl⟩
      · obtain ⟨j, e, hj, hq⟩ := mem_pathsL_idx.mp hq'
        obtain ⟨a, m, hm, rfl⟩ := (ih e (List.mem_of_getElem? hj) q').mp hq
        exact ⟨j :: a, m, nodeAt_cons_eq_some.mpr ⟨e, hj, hm⟩, namesAlong_cons _ _ _ e hj⟩
    · rintro ⟨a, m, hm, rfl⟩
      cases a with
      | nil => exact .inl rfl
      | cons k ks =>
        obtain ⟨c, hk, hm⟩ := nodeAt_cons_eq_some.mp hm
        exact .inr ⟨_, mem_pathsL_idx.mpr ⟨k, c, hk, (ih c (List.mem_of_getElem? hk) _).mpr ⟨ks, m, hm, rfl⟩⟩,
          (namesAlong_cons _ _ _ _ hk).symm⟩

/-! ## sibling-uniqueness (the `Node` invariant: no two children of a node share a name) -/

mutual
def SibUnique : Tree → Prop
  | .node _ _ _ cs => (cs.map Tree.name).Nodup ∧ SibUniqueL cs
def SibUniqueL : List Tree → Prop
  | [] => True
  | c :: cs => SibUnique c ∧ SibUniqueL cs
end

theorem sibUniqueL_iff (cs : List Tree) : SibUniqueL cs ↔ ∀ c ∈ cs, SibUnique c := by
  induction cs with
  | nil => simp [SibUniqueL]
  | cons c cs ih => simp [SibUniqueL, ih]

theorem sibUnique_iff (t : Tree) :
    SibUnique t ↔ (t.children.map Tree.name).Nodup ∧ ∀ c ∈ t.children, SibUnique c := by
  cases t; simp [SibUnique, sibUniqueL_iff]

theorem SibUnique.child {t c : Tree} {k : Nat} (h : SibUnique t) (hk : t.children[k]? = some c) :
    SibUnique c := ((sibUnique_iff t).mp h).2 c (List.mem_of_getElem? hk)

theorem SibUnique.nodeAt (a : Addr) : ∀ {t n : Tree}, SibUnique t → nodeAt a t = some n → SibUnique n := by
  induction a with
  | nil => intro t n h hn; cases hn; exact h
  | cons k ks ih =>
    intro t n h hn
    obtain ⟨c, hk, hn⟩ := nodeAt_cons_eq_some.mp hn
    exact ih (h.child hk) hn

theorem sibUnique_iff_nodeAt : ∀ (t : Tree),
    SibUnique t ↔ ∀ b n, nodeAt b t = some n → (n.children.map Tree.name).Nodup := by
  intro t
  induction t using Tree.ind with
  | h i n at' cs ih =>
    refine ⟨fun hs b m hm => ((sibUnique_iff m).mp (hs.nodeAt b hm)).1, fun h => ?_⟩
    refine (sibUnique_iff _).mpr ⟨h [] _ rfl, fun c hc => (ih c hc).mpr fun b m hm => ?_⟩
    obtain ⟨j, hj, rfl⟩ := List.getElem_of_mem hc
    exact h (j :: b) m (nodeAt_cons_eq_some.mpr ⟨_, List.getElem?_eq_getElem hj, hm⟩)

theorem nodup_pathsL (cs : List Tree) (hnd : (cs.map Tree.name).Nodup)
    (h : ∀ c ∈ cs, (paths c).Nodup) : (pathsL cs).Nodup := by
  induction cs with
  | nil => simp
  | cons c cs ihc =>
    rw [List.map_cons, List.nodup_cons] at hnd
    rw [pathsL_cons, List.nodup_append]
    refine ⟨h c List.mem_cons_self, ihc hnd.2 (fun d hd => h d (List.mem_cons_of_mem _ hd)), ?_⟩
    rintro q hq1 _ hq2 rfl
    obtain ⟨d, hd, hq2⟩ := mem_pathsL.mp hq2
    -- a path of `c` and a path of a later sibling start with different names
    have he := (head_of_mem_paths hq2).symm.trans (head_of_mem_paths hq1)
    exact hnd.1 (List.mem_map.mpr ⟨d, hd, Option.some.inj he⟩)

theorem nodup_paths : ∀ (t : Tree), SibUnique t → (paths t).Nodup := by
  intro t
  induction t using Tree.ind with
  | h i n at' cs ih =>
    intro hs
    rw [sibUnique_iff] at hs
    simp only [Tree.children_node] at hs
    obtain ⟨hnd, hcs⟩ := hs
    rw [paths_eq, List.nodup_cons]
    constructor
    · intro hm
      obtain ⟨q', hq', he⟩ := List.mem_map.mp hm
      cases he
      obtain ⟨c, -, hq⟩ := mem_pathsL.mp hq'
      cases head_of_mem_paths hq
    · exact List.Pairwise.map _ (fun _ _ h e => h (List.cons.inj e).2)
        (nodup_pathsL cs hnd (fun c hc => ih c hc (hcs c hc)))

/-! ## under sibling-uniqueness a path identifies its node -/

theorem namesAlong_inj (a : Addr) : ∀ (b : Addr) (t n m : Tree), SibUnique t →
    nodeAt a t = some n → nodeAt b t = some m → namesAlong a t = namesAlong b t → a = b := by
  induction a with
  | nil =>
    intro b t n m _ hn hm he
    cases b with
    | nil => rfl
    | cons j js =>
      obtain ⟨c, hj, -⟩ := nodeAt_cons_eq_some.mp hm
      rw [namesAlong_cons _ _ _ _ hj] at he
      exact absurd (List.cons.inj he).2.symm (namesAlong_ne_nil js c)
  | cons k ks ih =>
    intro b t n m hs hn hm he
    obtain ⟨c1, hk, hn⟩ := nodeAt_cons_eq_some.mp hn
    rw [namesAlong_cons _ _ _ _ hk] at he
    cases b with
    | nil => exact absurd (List.cons.inj he).2 (namesAlong_ne_nil ks c1)
    | cons j js =>
      obtain ⟨c2, hj, hm⟩ := nodeAt_cons_eq_some.mp hm
      rw [namesAlong_cons _ _ _ _ hj] at he
      have he := (List.cons.inj he).2
      have hh : some c1.name = some c2.name := by
        rw [← namesAlong_head ks, ← namesAlong_head js, he]
      have hkj : k = j := by
        have hlt : k < (t.children.map Tree.name).length := by
          rw [List.length_map]; exact (List.getElem?_eq_some_iff.mp hk).1
        apply (List.getElem?_inj hlt ((sibUnique_iff t).mp hs).1).mp
        rw [List.getElem?_map, List.getElem?_map, hk, hj]
        exact hh
      subst hkj
      obtain rfl : c1 = c2 := Option.some.inj (hk.symm.trans hj)
      rw [ih js c1 n m (hs.child hk) hn hm he]

theorem namesAlong_eq_snoc {t p n : Tree} {a b : Addr} {c : Str} (hs : SibUnique t) (hp : nodeAt a t = some p)
    (hn : nodeAt b t = some n) (he : namesAlong b t = namesAlong a t ++ [c]) :
    ∃ k, b = a ++ [k] ∧ p.children[k]? = some n ∧ n.name = c := by
  rcases List.eq_nil_or_concat b with rfl | ⟨b', k, rfl⟩
  · have := congrArg List.length he
    rw [List.length_append, namesAlong_length a t p hp] at this
    cases this
  · rw [List.concat_eq_append] at hn he ⊢
    obtain ⟨p', hp', hk⟩ := nodeAt_snoc_eq_some.mp hn
    rw [namesAlong_snoc _ _ _ _ _ hp' hk] at he
    obtain ⟨h1, h2⟩ := List.append_inj' he rfl
    obtain rfl := namesAlong_inj b' a t p' p hs hp' hp h1
    obtain rfl : p' = p := Option.some.inj (hp'.symm.trans hp)
    exact ⟨k, rfl, hk, (List.cons.inj h2).1⟩

theorem not_mem_paths_of_no_child {t p : Tree} {a : Addr} {c : Str} (hs : SibUnique t)
    (hp : nodeAt a t = some p) (hc : c ∉ p.children.map Tree.name) : namesAlong a t ++ [c] ∉ paths t := by
  intro hm
  obtain ⟨b, n, hn, he⟩ := (mem_paths_addr t _).mp hm
  obtain ⟨k, -, hk, rfl⟩ := namesAlong_eq_snoc hs hp hn he
  exact hc (List.mem_map.mpr ⟨n, List.mem_of_getElem? hk, rfl⟩)

/-! ## appending the leaf `new` below the node `p` at `a` -/

section appendChild
variable {new t p : Tree} {a : Addr}

theorem nodeAt_appendChild_self (new : Tree) (hp : nodeAt a t = some p) :
    nodeAt (a ++ [p.children.length]) (modifyAt (appendChild new) a t) = some new := by
  refine nodeAt_snoc_eq_some.mpr ⟨appendChild new p, ?_, ?_⟩
  · rw [nodeAt_modifyAt_self, hp]; rfl
  · rw [appendChild_children, List.getElem?_append_right (Nat.le_refl _), Nat.sub_self]; rfl

theorem namesAlong_appendChild_self (new : Tree) (hp : nodeAt a t = some p) :
    namesAlong (a ++ [p.children.length]) (modifyAt (appendChild new) a t) = namesAlong a t ++ [new.name] := by
  obtain ⟨p', hp', h⟩ := nodeAt_snoc_eq_some.mp (nodeAt_appendChild_self new hp)
  rw [namesAlong_snoc _ _ _ _ _ hp' h, namesAlong_modifyAt_grows (grows_appendChild new) a a t p hp]

theorem nodeAt_appendChild_new {b : Addr} {n' : Tree} (hnew : new.children = []) (hp : nodeAt a t = some p)
    (hb : nodeAt b t = none) (hn' : nodeAt b (modifyAt (appendChild new) a t) = some n') :
    b = a ++ [p.children.length] ∧ n' = new := by
  obtain ⟨k, ks, rfl, hk, h⟩ := nodeAt_modifyAt_new (grows_appendChild new) a b t p n' hp hb hn'
  rw [nodeAt_cons, appendChild_children, List.getElem?_append_right hk] at h
  cases hd : k - p.children.length with
  | succ d => rw [hd] at h; cases h
  | zero =>
    rw [hd] at h
    cases ks with
    | nil => cases h; rw [Nat.le_antisymm (Nat.le_of_sub_eq_zero hd) hk]; exact ⟨rfl, rfl⟩
    | cons j js => rw [List.getElem?_cons_zero, Option.bind_some, nodeAt_cons, hnew] at h; cases h

theorem mem_paths_appendChild (hnew : new.children = []) (hp : nodeAt a t = some p) (q : List Str) :
    q ∈ paths (modifyAt (appendChild new) a t) ↔ q ∈ paths t ∨ q = namesAlong a t ++ [new.name] := by
  simp only [mem_paths_addr]
  constructor
  · rintro ⟨b, n', hn', rfl⟩
    cases hb : nodeAt b t with
    | some n => exact .inl ⟨b, n, hb, (namesAlong_modifyAt_grows (grows_appendChild new) a b t n hb).symm⟩
    | none =>
      obtain ⟨rfl, -⟩ := nodeAt_appendChild_new hnew hp hb hn'
      exact .inr (namesAlong_appendChild_self new hp)
  · rintro (⟨b, n, hn, rfl⟩ | rfl)
    · obtain ⟨n', h1, -, -, h4, -⟩ := nodeAt_modifyAt_grows (grows_appendChild new) a b t n hn
      exact ⟨b, n', h1, h4⟩
    · exact ⟨_, new, nodeAt_appendChild_self new hp, namesAlong_appendChild_self new hp⟩

theorem sibUnique_appendChild (hnew : new.children = []) (hs : SibUnique t) (hp : nodeAt a t = some p)
    (hc : new.name ∉ p.children.map Tree.name) : SibUnique (modifyAt (appendChild new) a t) := by
  rw [sibUnique_iff_nodeAt] at hs ⊢
  intro b n' hn'
  cases hb : nodeAt b t with
  | none =>
    obtain ⟨-, rfl⟩ := nodeAt_appendChild_new hnew hp hb hn'
    rw [hnew]; exact List.nodup_nil
  | some n =>
    obtain ⟨n'', h1, -, -, -, h5, h6⟩ := nodeAt_modifyAt_grows (grows_appendChild new) a b t n hb
    obtain rfl : n'' = n' := Option.some.inj (h1.symm.trans hn')
    by_cases hba : b = a
    · subst hba
      obtain rfl : p = n := Option.some.inj (hp.symm.trans hb)
      rw [h6 rfl, appendChild_children, List.map_append, List.nodup_append]
      refine ⟨hs b p hp, List.nodup_cons.mpr ⟨List.not_mem_nil, List.nodup_nil⟩, fun x hx y hy e => ?_⟩
      rw [List.mem_singleton.mp hy] at e
      exact hc (e ▸ hx)
    · rw [(h5 hba).2]; exact hs b n hb

end appendChild

/-! ## a modification that keeps name and children of the modified node -/

section same
variable {f : Tree → Tree}

theorem paths_modifyAt_same (f : Tree → Tree) (hn : ∀ t, (f t).name = t.name)
    (hc : ∀ t, (f t).children = t.children) (a : Addr) :
    ∀ (t : Tree), paths (modifyAt f a t) = paths t := by
  induction a with
  | nil => intro t; rw [modifyAt_nil, paths_eq, paths_eq t, hn, hc]
  | cons k ks ih =>
    intro t
    rw [paths_eq, paths_eq t, modifyAt_cons_name, modifyAt_cons_children]
    congr 2
    generalize t.children = cs
    induction cs generalizing k with
    | nil => rw [List.modify_nil]
    | cons c cs ihc =>
      cases k with
      | zero => rw [List.modify_zero_cons, pathsL_cons, pathsL_cons, ih]
      | succ k => rw [List.modify_succ_cons, pathsL_cons, pathsL_cons, ihc]

theorem nodeAt_modifyAt_same_inv (hf : Grows f) (hc : ∀ t, (f t).children = t.children) {a b : Addr}
    {t p n' : Tree} (hp : nodeAt a t = some p) (hn' : nodeAt b (modifyAt f a t) = some n') :
    ∃ n, nodeAt b t = some n ∧ n'.children.map Tree.name = n.children.map Tree.name ∧
      (b ≠ a → n'.attrs = n.attrs) ∧ (b = a → n' = f n) := by
  cases hb : nodeAt b t with
  | some n =>
    obtain ⟨n'', h1, -, -, -, h5, h6⟩ := nodeAt_modifyAt_grows hf a b t n hb
    obtain rfl : n'' = n' := Option.some.inj (h1.symm.trans hn')
    refine ⟨n, rfl, ?_, fun h => (h5 h).1, h6⟩
    by_cases hba : b = a
    · rw [h6 hba, hc]
    · exact (h5 hba).2
  | none =>
    -- a new node would hang below a child that `f` appended, and `f` appends none
    obtain ⟨k, ks, -, hk, h⟩ := nodeAt_modifyAt_new hf a b t p n' hp hb hn'
    rw [nodeAt_cons, hc, List.getElem?_eq_none hk] at h
    cases h

theorem sibUnique_modifyAt_same (hf : Grows f) (hc : ∀ t, (f t).children = t.children) {a : Addr} {t p : Tree}
    (hp : nodeAt a t = some p) (hs : SibUnique t) : SibUnique (modifyAt f a t) := by
  rw [sibUnique_iff_nodeAt] at hs ⊢
  intro b n' hn'
  obtain ⟨n, hn, h, -⟩ := nodeAt_modifyAt_same_inv hf hc hp hn'
  rw [h]; exact hs b n hn

end same

end Paths
