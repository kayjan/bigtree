import BigtreeProofs.Lemmas.BinStoreBasic
/-! Theorems about the two-slot store that are shared by C11, C02 (BinaryNode part) and C20
(BinaryNode part): closed forms of the `try` bodies, roll-back restores the snapshot exactly,
assertions are pure guards. -/

namespace BinStore

/-! ### consequences of `BWF` -/

theorem BWF.idx_of_parent {s : Store} (h : BWF s) {c p : Nat} (hp : s.parent c = some p) :
    ∃ i, idx? (s.slots p) c = some i := idx?_isSome (h.up c p hp)

theorem BWF.not_mem_of_parent_ne {s : Store} (h : BWF s) {c : Nat} {p : Nat}
    (hp : s.parent c ≠ some p) : some c ∉ s.slots p := fun hm => hp (h.down p c hm)

/-! ### a node leaves the list of its parent -/

/-- the list of `x` once `v` has left its old parent -/
def detached (s : Store) (v x : Nat) : List (Option Nat) :=
  if s.parent v = some x then clear v (s.slots x) else s.slots x

/-- the store once `c` has left its parent's list (`c.parent` still names the old parent) -/
def leave (s : Store) (c : Nat) : Store := { s with slots := detached s c }

@[simp] theorem leave_parent (s : Store) (c) : (leave s c).parent = s.parent := rfl
@[simp] theorem leave_slots (s : Store) (c) : (leave s c).slots = detached s c := rfl

theorem leave_of_root {s : Store} {c : Nat} (hp : s.parent c = none) : leave s c = s :=
  Store.ext' rfl (fun _ => rfl) fun x => by simp [detached, hp]

theorem setSlotAt_idx {s : Store} {c q i : Nat} (hp : s.parent c = some q)
    (hi : idx? (s.slots q) c = some i) (h1 : (s.slots q).count (some c) ≤ 1) :
    setSlotAt s q i none = leave s c :=
  Store.ext' rfl (fun _ => rfl) fun x => by
    simp only [setSlotAt_slots, leave_slots, detached, hp, Option.some.injEq, set_idx_none hi h1]
    by_cases hx : x = q
    · subst hx; simp
    · simp [hx, Ne.symm hx]

theorem detach_eq {s : Store} (h : BWF s) (v : Nat) :
    detach s v (s.parent v) = (leave s v, (s.parent v).bind fun cp => idx? (s.slots cp) v, false) := by
  cases hp : s.parent v with
  | none => simp only [detach, Option.bind_none, leave_of_root hp]
  | some cp =>
    obtain ⟨i, hi⟩ := h.idx_of_parent hp
    simp only [detach, hi, Option.bind_some, setSlotAt_idx hp hi (h.distinct cp v)]

/-- on a well-formed store `v` is in no list but its parent's: leaving that list is emptying `v` everywhere -/
theorem detached_eq {s : Store} (h : BWF s) (v x : Nat) : detached s v x = clear v (s.slots x) := by
  unfold detached
  by_cases hp : s.parent v = some x
  · rw [if_pos hp]
  · rw [if_neg hp, clear_of_not_mem (h.not_mem_of_parent_ne hp)]

theorem mem_detached {s : Store} (h : BWF s) (v x c : Nat) :
    some c ∈ detached s v x ↔ c ≠ v ∧ some c ∈ s.slots x := by
  rw [detached_eq h]; exact mem_clear

theorem not_mem_detached {s : Store} (h : BWF s) (v x : Nat) : some v ∉ detached s v x :=
  fun hm => ((mem_detached h v x v).1 hm).1 rfl

theorem count_detached {s : Store} (h : BWF s) (v x c : Nat) :
    (detached s v x).count (some c) ≤ 1 := by
  rw [detached_eq h]; exact Nat.le_trans (count_clear_le v c _) (h.distinct x c)

theorem detached_length {s : Store} (h : BWF s) (v x : Nat) : (detached s v x).length = 2 := by
  rw [detached_eq h, clear_length, h.len2]

/-! ### C02, parent setter -/

/-- "assign self to new parent": the first empty slot is written, a full list raises -/
theorem attach_eq (s : Store) (v : Nat) (np : Option Nat) :
    attach s v np =
      match np with
      | none => (setPar s v none, false)
      | some p =>
        match firstNone (s.slots p) with
        | none => (setPar s v (some p), true)
        | some j => (setSlotAt (setPar s v (some p)) p j (some v), false) := by
  cases np with
  | none => rfl
  | some p =>
    simp only [attach, setPar_slots, fillFirst_false]
    cases firstNone (s.slots p) with
    | none => simp only [Bool.not_false]; rw [← setPar_slots s v (some p), setSlots_self]
    | some j => rfl

/-- the first statement of the `except` branch: take `v` out of the new parent's list again -/
def unfill (t : Store) (v : Nat) : Option Nat → Store
  | none => t
  | some p =>
    match idx? (t.slots p) v with
    | none => t
    | some i => setSlotAt t p i none

/-- its last statement: put `v` back at its old index -/
def refill (t : Store) (v : Nat) : Option Nat → Option Nat → Store
  | some i, some cp => setSlotAt t cp i (some v)
  | _, _ => t

theorem parentRollback_eq (t : Store) (v : Nat) (cur idx np : Option Nat) :
    parentRollback t v cur idx np = refill (setPar (unfill t v np) v cur) v idx cur := by
  cases np <;> cases idx <;> cases cur <;> rfl

theorem unfill_attach {d : Store} {v : Nat} {np : Option Nat} (hv : ∀ p, np = some p → some v ∉ d.slots p) :
    unfill (attach d v np).1 v np = setPar d v np := by
  cases np with
  | none => rfl
  | some p =>
    have hv := hv p rfl
    simp only [attach_eq]
    cases hj : firstNone (d.slots p) with
    | none => simp only [unfill, setPar_slots, idx?_eq_none.2 hv]
    | some j =>
      simp only [unfill, setSlotAt_slots, if_true, setPar_slots, idx?_set_firstNone hj hv]
      refine Store.ext' rfl (fun _ => rfl) fun x => ?_
      simp only [setSlotAt_slots, setPar_slots, if_true, List.set_set, firstNone_get hj]
      by_cases hx : x = p
      · rw [if_pos hx, hx]
      · rw [if_neg hx, if_neg hx]

theorem refill_leave {s : Store} (h : BWF s) (v : Nat) :
    refill (leave s v) v ((s.parent v).bind fun cp => idx? (s.slots cp) v) (s.parent v) = s := by
  cases hp : s.parent v with
  | none => exact leave_of_root hp
  | some cp =>
    obtain ⟨i, hi⟩ := h.idx_of_parent hp
    simp only [Option.bind_some, hi, refill]
    refine Store.ext' rfl (fun _ => rfl) fun x => ?_
    simp only [setSlotAt_slots, leave_slots, detached, hp, if_true]
    split
    · rename_i hx; rw [hx, set_idx_clear hi (h.distinct cp v)]
    · rename_i hx; rw [if_neg fun e => hx (Option.some.inj e).symm]

/-- the `try` body of the parent setter on a well-formed store: `v` leaves its old list, is attached,
and a full new parent or the post-hook raises -/
theorem parentTry_eq {s : Store} (h : BWF s) (f : Fault) (v : Nat) (np : Option Nat) :
    parentTry f s v (s.parent v) np =
      ((attach (leave s v) v np).1, (s.parent v).bind fun cp => idx? (s.slots cp) v,
        (attach (leave s v) v np).2 || decide (f = Fault.post)) := by
  simp only [parentTry, detach_eq h, Bool.false_eq_true, if_false]
  split
  · rename_i ha; rw [ha, Bool.true_or]
  · rename_i ha; rw [Bool.not_eq_true] at ha; rw [ha, Bool.false_or]

theorem parentTry_rollback {s : Store} (h : BWF s) (f : Fault) (v : Nat) (np : Option Nat) :
    parentRollback (parentTry f s v (s.parent v) np).1 v (s.parent v)
      (parentTry f s v (s.parent v) np).2.1 np = s := by
  rw [parentTry_eq h, parentRollback_eq, unfill_attach fun p _ => not_mem_detached h v p]
  have : setPar (setPar (leave s v) v np) v (s.parent v) = leave s v :=
    Store.ext' rfl (fun x => by
      rw [setPar_parent, setPar_parent, leave_parent]
      by_cases hx : x = v
      · rw [if_pos hx, hx]
      · rw [if_neg hx, if_neg hx]) fun _ => rfl
  rw [this, refill_leave h]

/-- **C02 (BinaryNode, parent setter).** Whatever makes `v.parent = np` raise — wrong type, loop,
a full parent, the pre-hook, the post-hook — the store afterwards is the store before:
every node's parent and every node's slot list. For both settings of the assertion switch. -/
theorem setParent_rej_id {s : Store} (h : BWF s) (a : Bool) (f : Fault) (v : Nat) (np : Option Nat)
    (hr : (setParent a f s v np).2 = .rej) : (setParent a f s v np).1 = s := by
  unfold setParent at hr ⊢
  by_cases h1 : (a && parentTypeBad s np) = true
  · simp [h1]
  · by_cases h2 : (a && parentLoopBad s v np) = true
    · simp [h1, h2]
    · by_cases h3 : f = Fault.pre
      · simp [h1, h2, h3]
      · by_cases h4 : (parentTry f s v (s.parent v) np).2.2 = true
        · simp only [h1, h2, h3, h4, if_true, if_false]
          exact parentTry_rollback h f v np
        · simp [h1, h2, h3, h4] at hr

/-! ### the closed form of the children setter -/

/-- the store after `v.children = new` has gone through (no member listed twice) -/
def adopted (s : Store) (v : Nat) (new : List (Option Nat)) : Store :=
  ⟨s.n, ParentFn.adoptFn s.parent (fun x => some x ∈ new) v,
    fun x => if x = v then new else clearAll new (s.slots x)⟩

@[simp] theorem adopted_parent (s : Store) (v new) :
    (adopted s v new).parent = ParentFn.adoptFn s.parent (fun x => some x ∈ new) v := rfl
@[simp] theorem adopted_slots (s : Store) (v new x) :
    (adopted s v new).slots x = if x = v then new else clearAll new (s.slots x) := rfl

/-! ### the two loops of the children code -/

/-- `c` can be moved: it sits once in its parent's list and in no other list — the lists of the
nodes in `E` aside, which are neither read nor written (none of them is `c`'s parent). `E` is empty
for the deleter's loop and `{v}` for the assignment loop, because `v`'s own list has just been rebound
to the new one. -/
structure Loose (E : Nat → Prop) (t : Store) (c : Nat) : Prop where
  ne : ∀ q, t.parent c = some q → ¬ E q
  up : ∀ q, t.parent c = some q → some c ∈ t.slots q
  once : ∀ x, ¬ E x → (t.slots x).count (some c) ≤ 1
  down : ∀ x, ¬ E x → some c ∈ t.slots x → t.parent c = some x

theorem BWF.loose {s : Store} (h : BWF s) (c : Nat) : Loose (fun _ => False) s c :=
  ⟨fun _ _ => id, h.up c, fun x _ => h.distinct x c, fun x _ => h.down x c⟩

section
variable {E : Nat → Prop}

theorem delOne_eq {t : Store} {c q : Nat} (h : Loose E t c) (hp : t.parent c = some q) :
    delOne t c = some (setPar (leave t c) c none) := by
  obtain ⟨i, hi⟩ := idx?_isSome (h.up q hp)
  simp only [delOne, hp, hi, setSlotAt_idx hp hi (h.once q (h.ne q hp))]

theorem stealOne_eq {t : Store} {c : Nat} (h : Loose E t c) (v : Nat) :
    stealOne t v c = some (setPar (leave t c) c (some v)) := by
  cases hp : t.parent c with
  | none => simp only [stealOne, hp, leave_of_root hp]
  | some q =>
    obtain ⟨i, hi⟩ := idx?_isSome (h.up q hp)
    simp only [stealOne, hp, hi, setSlotAt_idx hp hi (h.once q (h.ne q hp))]

variable [DecidablePred E]

theorem move_eq {t : Store} {c : Nat} (h : Loose E t c) (np : Option Nat) :
    setPar (leave t c) c np = ⟨t.n, fun x => if x = c then np else t.parent x,
      fun x => if E x then t.slots x else clear c (t.slots x)⟩ := by
  refine Store.ext' rfl (fun _ => rfl) fun x => ?_
  simp only [setPar_slots, leave_slots, detached]
  by_cases hx : E x
  · rw [if_pos hx, if_neg fun hp => h.ne x hp hx]
  · rw [if_neg hx]
    split
    · rfl
    · rename_i hp; exact (clear_of_not_mem fun hm => hp (h.down x hx hm)).symm

theorem Loose.move {t : Store} {c d : Nat} (hc : Loose E t c) (hd : Loose E t d) (hdc : d ≠ c)
    (np : Option Nat) : Loose E (setPar (leave t c) c np) d := by
  rw [move_eq hc]
  refine ⟨fun q hq => ?_, fun q hq => ?_, fun x hx => ?_, fun x hx hm => ?_⟩
  · exact hd.ne q (by simpa [hdc] using hq)
  · have hq : t.parent d = some q := by simpa [hdc] using hq
    simpa [hd.ne q hq] using mem_clear.2 ⟨hdc, hd.up q hq⟩
  · simpa [hx] using Nat.le_trans (count_clear_le _ _ _) (hd.once x hx)
  · have hm : some d ∈ clear c (t.slots x) := by simpa [hx] using hm
    simpa [hdc] using hd.down x hx (mem_clear.1 hm).2

/-- The deleter's loop (`np = none`) and the assignment loop (`np = some v`) both give every listed
node the parent `np` and take it out of the list it was in. `R (t.parent c)` is what the loop body
needs of the current parent of `c` in order not to raise: `≠ none` for the deleter, nothing for the
assignment loop. -/
theorem moveLoop_spec {np : Option Nat} {R : Option Nat → Prop}
    {loop : Store → List (Option Nat) → Store × Bool} (hnil : ∀ t, loop t [] = (t, false))
    (hnone : ∀ t l, loop t (none :: l) = loop t l)
    (hsome : ∀ t c l, Loose E t c → R (t.parent c) →
      loop t (some c :: l) = loop (setPar (leave t c) c np) l)
    (l : List (Option Nat)) (t : Store) (hl : ∀ c, some c ∈ l → Loose E t c ∧ R (t.parent c))
    (hnd : ∀ c, l.count (some c) ≤ 1) :
    loop t l = (⟨t.n, fun x => if some x ∈ l then np else t.parent x,
      fun x => if E x then t.slots x else clearAll l (t.slots x)⟩, false) := by
  induction l generalizing t with
  | nil =>
    rw [hnil]
    refine congrArg (·, false) (Store.ext' rfl (fun x => ?_) fun x => ?_)
    · dsimp only; rw [if_neg List.not_mem_nil]
    · dsimp only
      rw [clearAll_eq_self (K := []) (fun _ h => nomatch h), ite_self]
  | cons o l ih =>
    have hl' := fun c hc => hl c (List.mem_cons_of_mem _ hc)
    have hnd' := fun c => Nat.le_trans (List.count_le_count_cons ..) (hnd c)
    cases o with
    | none =>
      rw [hnone, ih t hl' hnd']
      refine congrArg (·, false) (Store.ext' rfl (fun x => ?_) fun x => ?_)
      · simp only [List.mem_cons, reduceCtorEq, false_or]
      · simp only [clearAll_cons_none]
    | some c =>
      obtain ⟨hc, hR⟩ := hl c List.mem_cons_self
      have hne : ∀ d, some d ∈ l → d ≠ c := fun d hd e => not_mem_of_count_cons_le (hnd c) (e ▸ hd)
      rw [hsome t c l hc hR, ih _ (fun d hd => ⟨hc.move (hl' d hd).1 (hne d hd) np, ?_⟩) hnd', move_eq hc]
      · refine congrArg (·, false) (Store.ext' rfl (fun x => ?_) fun x => ?_)
        · dsimp only
          by_cases hx : x = c
          · rw [if_pos hx, ite_self, if_pos (hx ▸ List.mem_cons_self)]
          · rw [if_neg hx]
            simp only [List.mem_cons, Option.some.injEq, hx, false_or]
        · dsimp only
          by_cases hx : E x
          · simp only [if_pos hx]
          · simp only [if_neg hx, clearAll_clear]
      · rw [setPar_parent, if_neg (hne d hd)]
        exact (hl' d hd).2

end

/-- `del v.children` leaves what `v.children = [None, None]` would -/
theorem delChildrenBody_eq {s : Store} (h : BWF s) (v : Nat) :
    delChildrenBody s v = (adopted s v [none, none], false) := by
  rw [delChildrenBody, moveLoop_spec (loop := delLoop) (E := fun _ => False) (np := none) (R := (· ≠ none))
    (fun _ => rfl) (fun _ _ => rfl) (fun t c l hc hR => ?_) (s.slots v) s
    (fun c hc => ⟨h.loose c, by simp [h.down v c hc]⟩) (h.distinct v)]
  · refine congrArg (·, false) (Store.ext' rfl (fun x => ?_) fun x => ?_)
    · have : some x ∈ s.slots v ↔ s.parent x = some v := ⟨h.down v x, h.up x v⟩
      simp [ParentFn.adoptFn, this]
    · simp only [if_false, adopted_slots]
      split
      · rename_i hx
        obtain ⟨a, b, hab⟩ := two_of_len (h.len2 v)
        simp [hx, clearAll, hab]
      · rename_i hx
        rw [clearAll_eq_self (K := [none, none]) (by simp)]
        exact clearAll_eq_self fun c hc hm => hx ((h.down x c hm).symm.trans (h.down v c hc) |> Option.some.inj)
  · obtain ⟨q, hq⟩ := Option.ne_none_iff_exists'.1 hR
    rw [delLoop, delOne_eq hc hq]

theorem delChildren_ok {s : Store} (h : BWF s) (v : Nat) : (delChildren s v).2 = .ok := by
  simp [delChildren, delChildrenBody_eq h]

/-! ### the children setter: closed form of the `try` body -/

/-- after the deleter every node can be taken over by `v` -/
theorem loose_deleted {s : Store} (h : BWF s) (v : Nat) (new : List (Option Nat)) (c : Nat) :
    Loose (· = v) (setSlots (adopted s v [none, none]) v new) c := by
  have hpar : ∀ q, (adopted s v [none, none]).parent c = some q ↔ s.parent c = some q ∧ q ≠ v := by
    intro q; simp [ParentFn.adoptFn_eq_some]
  have hsl : ∀ x, x ≠ v → (setSlots (adopted s v [none, none]) v new).slots x = s.slots x := by
    intro x hx
    simp only [setSlots_slots, adopted_slots, if_neg hx]
    exact clearAll_eq_self (by simp)
  refine ⟨fun q hq => ((hpar q).1 hq).2, fun q hq => ?_, fun x hx => ?_, fun x hx hm => ?_⟩
  · obtain ⟨hq, hqv⟩ := (hpar q).1 hq
    rw [hsl q hqv]; exact h.up c q hq
  · rw [hsl x hx]; exact h.distinct x c
  · rw [hsl x hx] at hm
    exact (hpar x).2 ⟨h.down x c hm, hx⟩

theorem childrenTry_eq {s : Store} (h : BWF s) (f : Fault) (v : Nat) (new : List (Option Nat))
    (hnd : ∀ c, new.count (some c) ≤ 1) :
    childrenTry f s v new = (adopted s v new, decide (f = Fault.post)) := by
  simp only [childrenTry, delChildrenBody_eq h, Bool.false_eq_true, if_false,
    moveLoop_spec (loop := assignLoop v) (E := (· = v)) (np := some v) (R := fun _ => True) (fun _ => rfl) (fun _ _ => rfl)
      (fun t c l hc _ => by rw [assignLoop, stealOne_eq hc]) new _ (fun c _ => ⟨loose_deleted h v new c, trivial⟩) hnd]
  refine congrArg (·, _) (Store.ext' rfl (fun x => ?_) fun x => ?_)
  · simp [ParentFn.adoptFn]
  · simp only [setSlots_slots, adopted_slots]
    split
    · rfl
    · rw [clearAll_eq_self (K := [none, none]) (by simp)]

/-- the `try` body on `[k, k]` (reachable with the checks off only): the first pass moves `k` as it
moves any member, the second finds `k` at index 0 of `v`'s own list and empties that slot. Parents
and all other lists end as in `adopted`. -/
theorem childrenTry_dup {s : Store} (h : BWF s) (f : Fault) (v k : Nat) :
    ∃ t, childrenTry f s v [some k, some k] = (t, decide (f = Fault.post)) ∧ t.n = s.n ∧
      (∀ x, t.parent x = (adopted s v [some k, some k]).parent x) ∧
      (∀ x, x ≠ v → t.slots x = clearAll [some k, some k] (s.slots x)) := by
  have hk := loose_deleted h v [some k, some k] k
  obtain ⟨T, hT⟩ : ∃ T, T = setPar (leave (setSlots (adopted s v [none, none]) v [some k, some k]) k) k
    (some v) := ⟨_, rfl⟩
  have hst : stealOne _ v k = some T := hT ▸ stealOne_eq hk v
  have hTe := hT.trans (move_eq hk _)
  have hTp : ∀ x, T.parent x = if x = k then some v else (adopted s v [none, none]).parent x :=
    fun x => by rw [hTe]; rfl
  have hTs : ∀ x, T.slots x = if x = v then [some k, some k] else clear k (s.slots x) := fun x => by
    rw [hTe]
    by_cases hx : x = v
    · simp only [setSlots_slots, if_pos hx]
    · simp only [setSlots_slots, adopted_slots, if_neg hx]
      rw [clearAll_eq_self (K := [none, none]) fun _ h => by simp at h]
  refine ⟨setPar (setSlotAt T v 0 none) k (some v), ?_, by rw [setPar_n, setSlotAt_n, hTe]; rfl,
    fun x => ?_, fun x hx => ?_⟩
  · simp only [childrenTry, delChildrenBody_eq h, Bool.false_eq_true, if_false, assignLoop, hst]
    simp only [stealOne, hTp k, hTs v, if_true, idx?, Bool.false_eq_true, if_false]
  · rw [setPar_parent, setSlotAt_parent, hTp, adopted_parent, adopted_parent]
    by_cases hx : x = k
    · rw [if_pos hx]
      exact (ParentFn.adoptFn_eq_some.2 (Or.inl ⟨hx ▸ List.mem_cons_self, rfl⟩)).symm
    · rw [if_neg hx]
      simp only [ParentFn.adoptFn, List.mem_cons, Option.some.injEq, hx, List.not_mem_nil, or_self,
        reduceCtorEq, if_false]
  · rw [setPar_slots, setSlotAt_slots, if_neg hx, hTs, if_neg hx, clear_eq_clearAll]
    exact List.map_congr_left fun o _ => by simp only [List.mem_cons, List.not_mem_nil, or_false, or_self]

/-- the `try` body on any two-member list: the state at its end, up to `v`'s own list -/
theorem childrenTry_spec {s : Store} (h : BWF s) (f : Fault) (v : Nat) (c1 c2 : Option Nat) :
    ∃ t, childrenTry f s v [c1, c2] = (t, decide (f = Fault.post)) ∧ t.n = s.n ∧
      (∀ x, t.parent x = (adopted s v [c1, c2]).parent x) ∧
      (∀ x, x ≠ v → t.slots x = clearAll [c1, c2] (s.slots x)) := by
  by_cases hd : ∃ k, c1 = some k ∧ c2 = some k
  · obtain ⟨k, rfl, rfl⟩ := hd
    exact childrenTry_dup h f v k
  · have hd : ∀ k, c1 = some k → c2 ≠ some k := fun k h1 h2 => hd ⟨k, h1, h2⟩
    exact ⟨_, childrenTry_eq h f v _ (count_pair_le hd), rfl, fun _ => rfl,
      fun x hx => by rw [adopted_slots, if_neg hx]⟩

/-! ### the children setter: the roll-back code -/

/-- a roll-back entry `(c, i, p)` as the snapshot of `s` records it: `c` sits at index `i` of its parent `p` -/
def Snap (s : Store) (e : Nat × Nat × Nat) : Prop :=
  s.parent e.1 = some e.2.2 ∧ idx? (s.slots e.2.2) e.1 = some e.2.1

theorem mem_dictSet {acc : List (Nat × Nat × Nat)} {c : Nat} {val : Nat × Nat} {e : Nat × Nat × Nat}
    (h : e ∈ dictSet acc c val) : e = (c, val) ∨ e ∈ acc := by
  induction acc with
  | nil => exact Or.inl (List.mem_singleton.1 h)
  | cons a acc ih =>
    obtain ⟨k, w⟩ := a
    rw [dictSet] at h
    by_cases hk : k = c
    · rw [if_pos hk] at h
      exact (List.mem_cons.1 h).imp (fun e => hk ▸ e) (List.mem_cons_of_mem _)
    · rw [if_neg hk] at h
      rcases List.mem_cons.1 h with h | h
      · exact Or.inr (h ▸ List.mem_cons_self)
      · exact (ih h).imp id (List.mem_cons_of_mem _)

theorem key_dictSet (acc : List (Nat × Nat × Nat)) (c : Nat) (val : Nat × Nat) (k : Nat)
    (h : k = c ∨ k ∈ acc.map (·.1)) : k ∈ (dictSet acc c val).map (·.1) := by
  induction acc with
  | nil => exact List.mem_singleton.2 (h.resolve_right List.not_mem_nil)
  | cons a acc ih =>
    obtain ⟨k', w⟩ := a
    rw [dictSet]
    by_cases hk : k' = c
    · rw [if_pos hk]
      exact h.elim (fun e => List.mem_cons.2 (Or.inl (e.trans hk.symm))) id
    · rw [if_neg hk]
      rcases h with h | h
      · exact List.mem_cons_of_mem _ (ih (Or.inl h))
      · exact (List.mem_cons.1 h).elim (fun h => List.mem_cons.2 (Or.inl h))
          fun h => List.mem_cons_of_mem _ (ih (Or.inr h))

/-- the dict comprehension never raises on a well-formed store; its entries are snapshot entries of `s`
and every listed node that has a parent has one -/
theorem snapStolen_spec {s : Store} (h : BWF s) : ∀ (l : List (Option Nat)) (acc : List (Nat × Nat × Nat)),
    (∀ e ∈ acc, Snap s e) →
    ∃ L, snapStolen s l acc = some L ∧ (∀ e ∈ L, Snap s e) ∧
      ∀ c, c ∈ acc.map (·.1) ∨ (some c ∈ l ∧ s.parent c ≠ none) → c ∈ L.map (·.1)
  | [], acc, hacc => ⟨acc, rfl, hacc, fun c hc => hc.elim id fun h => nomatch h.1⟩
  | none :: l, acc, hacc => by
    obtain ⟨L, e, hL, hk⟩ := snapStolen_spec h l acc hacc
    exact ⟨L, e, hL, fun c hc => hk c (hc.imp id fun h => ⟨mem_cons_none.1 h.1, h.2⟩)⟩
  | some c :: l, acc, hacc => by
    rw [snapStolen]
    cases hp : s.parent c with
    | none =>
      obtain ⟨L, e, hL, hk⟩ := snapStolen_spec h l acc hacc
      refine ⟨L, e, hL, fun d hd => hk d (hd.imp id fun ⟨hm, hd⟩ => ⟨?_, hd⟩)⟩
      exact (mem_cons_some.1 hm).resolve_left fun e => hd (e ▸ hp)
    | some p =>
      obtain ⟨i, hi⟩ := h.idx_of_parent hp
      obtain ⟨L, e, hL, hk⟩ := snapStolen_spec h l (dictSet acc c (i, p)) fun e he =>
        (mem_dictSet he).elim (fun e => e ▸ ⟨hp, hi⟩) (hacc e)
      refine ⟨L, by simp only [hi, e], hL, fun d hd => hk d ?_⟩
      rcases hd with hd | ⟨hm, hd⟩
      · exact Or.inl (key_dictSet _ _ _ _ (Or.inr hd))
      · exact (mem_cons_some.1 hm).imp (fun e => key_dictSet _ _ _ _ (Or.inl e)) fun hm => ⟨hm, hd⟩

theorem mem_snapOrphans (s : Store) (x : Nat) : ∀ l : List (Option Nat),
    x ∈ snapOrphans s l ↔ some x ∈ l ∧ s.parent x = none
  | [] => ⟨nofun, fun h => nomatch h.1⟩
  | none :: l => by rw [snapOrphans, mem_snapOrphans s x l, mem_cons_none]
  | some c :: l => by
    rw [snapOrphans, mem_cons_some]
    cases hp : s.parent c with
    | none =>
      rw [List.mem_cons, mem_snapOrphans s x l]
      exact ⟨fun h => h.elim (fun e => ⟨Or.inl e, e ▸ hp⟩) fun h => ⟨Or.inr h.1, h.2⟩,
        fun h => h.1.imp id fun hm => ⟨hm, h.2⟩⟩
    | some p =>
      rw [mem_snapOrphans s x l]
      exact ⟨fun h => ⟨Or.inr h.1, h.2⟩,
        fun h => ⟨h.1.resolve_left (fun e => by have := h.2; rw [e, hp] at this; cases this), h.2⟩⟩

@[simp] theorem restoreStolen_n (t : Store) (l) : (restoreStolen t l).n = t.n := by
  induction l generalizing t with
  | nil => rfl
  | cons e l ih => exact (ih _).trans rfl

theorem restoreOrphans_eq (t : Store) (l : List Nat) :
    restoreOrphans t l = ⟨t.n, fun x => if x ∈ l then none else t.parent x, t.slots⟩ := by
  induction l generalizing t with
  | nil => rfl
  | cons c l ih =>
    rw [restoreOrphans, ih]
    refine Store.ext' rfl (fun x => ?_) fun _ => rfl
    dsimp only [setPar_parent]
    by_cases hx : x = c
    · rw [if_pos hx, ite_self, if_pos (hx ▸ List.mem_cons_self)]
    · rw [if_neg hx]
      exact if_iff_congr ⟨List.mem_cons_of_mem _, fun h => (List.mem_cons.1 h).resolve_left hx⟩ _ _

theorem reparentOld_eq (v : Nat) (t : Store) (l : List (Option Nat)) :
    reparentOld v t l = ⟨t.n, fun x => if some x ∈ l then some v else t.parent x, t.slots⟩ := by
  induction l generalizing t with
  | nil => rfl
  | cons o l ih =>
    cases o with
    | none =>
      rw [reparentOld, ih]
      exact Store.ext' rfl (fun x => if_iff_congr mem_cons_none.symm _ _) fun _ => rfl
    | some c =>
      rw [reparentOld, ih]
      refine Store.ext' rfl (fun x => ?_) fun _ => rfl
      dsimp only [setPar_parent]
      by_cases hx : x = c
      · rw [if_pos hx, ite_self, if_pos (hx ▸ List.mem_cons_self)]
      · rw [if_neg hx]
        exact if_iff_congr ⟨List.mem_cons_of_mem _, fun h => (mem_cons_some.1 h).resolve_left hx⟩ _ _

theorem restoreStolen_parent {s : Store} (x : Nat) : ∀ (L : List (Nat × Nat × Nat)) (u : Store),
    (∀ e ∈ L, Snap s e) →
    (restoreStolen u L).parent x = if x ∈ L.map (·.1) then s.parent x else u.parent x
  | [], _, _ => rfl
  | (c, i, p) :: L, u, hL => by
    rw [restoreStolen, restoreStolen_parent x L _ fun e he => hL e (List.mem_cons_of_mem _ he),
      setSlotAt_parent, setPar_parent, List.map_cons]
    by_cases hm : x ∈ L.map (·.1)
    · rw [if_pos hm, if_pos (List.mem_cons_of_mem _ hm)]
    · rw [if_neg hm]
      by_cases hx : x = c
      · have : x ∈ c :: L.map (·.1) := hx ▸ List.mem_cons_self
        rw [if_pos hx, if_pos this, hx, (hL _ List.mem_cons_self).1]
      · rw [if_neg hx, if_neg fun h => (List.mem_cons.1 h).elim hx hm]

/-- if the lists (other than `v`'s) are those of `s` with some nodes masked by `g`, restoring lifts the
mask from the restored nodes -/
theorem restoreStolen_slots {s : Store} (h : BWF s) (v : Nat) : ∀ (L : List (Nat × Nat × Nat)) (u : Store)
    (g : Option Nat → Option Nat), (∀ e ∈ L, Snap s e) → (∀ x, x ≠ v → u.slots x = (s.slots x).map g) →
    ∀ x, x ≠ v → (restoreStolen u L).slots x =
      (s.slots x).map fun o => if o ∈ (L.map (·.1)).map some then o else g o
  | [], _, _, _, hu => hu
  | (c, i, p) :: L, u, g, hL, hu => by
    obtain ⟨hc, hi⟩ : s.parent c = some p ∧ idx? (s.slots p) c = some i := hL _ List.mem_cons_self
    intro x hx
    rw [restoreStolen, restoreStolen_slots h v L _ (fun o => if o = some c then o else g o)
      (fun e he => hL e (List.mem_cons_of_mem _ he)) ?_ x hx]
    · refine List.map_congr_left fun o _ => ?_
      rw [List.map_cons, List.map_cons]
      by_cases ho : o = some c
      · have : o ∈ some c :: (L.map (·.1)).map some := ho ▸ List.mem_cons_self
        rw [if_pos ho, ite_self, if_pos this]
      · rw [if_neg ho]
        exact if_iff_congr ⟨List.mem_cons_of_mem _, fun h => (List.mem_cons.1 h).resolve_left ho⟩ _ _
    · intro y hy
      rw [setSlotAt_slots, setPar_slots, hu y hy]
      by_cases hyp : y = p
      · rw [if_pos hyp, ← hyp, hu y hy]
        exact set_idx_map (hyp ▸ hi) (h.distinct y c) (fun o ho => if_neg ho) (if_pos rfl)
      · rw [if_neg hyp]
        refine List.map_congr_left fun o ho => (if_neg fun e => hyp ?_).symm
        exact Option.some.inj ((h.down y c (e ▸ ho)).symm.trans hc)

/-- The `except` branch of the children setter gives back `s`, whatever the list, from the state the
`try` body ends in — of which only the parents and the lists other than `v`'s are looked at. -/
theorem childrenRollback_spec {s t : Store} (h : BWF s) (v : Nat) (new : List (Option Nat))
    (hn : t.n = s.n) (hpt : ∀ x, t.parent x = (adopted s v new).parent x)
    (hst : ∀ x, x ≠ v → t.slots x = clearAll new (s.slots x)) :
    ∃ stolen, snapStolen s new [] = some stolen ∧
      childrenRollback t v stolen (snapOrphans s new) (s.slots v) = s := by
  obtain ⟨L, e, hL, hk⟩ := snapStolen_spec h new [] fun _ h => nomatch h
  refine ⟨L, e, ?_⟩
  rw [childrenRollback, reparentOld_eq, restoreOrphans_eq]
  refine Store.ext' ((restoreStolen_n t L).trans hn) (fun x => ?_) (fun x => ?_)
  · dsimp only [setSlots_parent]
    rw [restoreStolen_parent x L t hL, hpt, adopted_parent]
    by_cases hv : some x ∈ s.slots v
    · rw [if_pos hv, h.down v x hv]
    · rw [if_neg hv]
      by_cases hx : some x ∈ new
      · by_cases hp : s.parent x = none
        · rw [if_pos ((mem_snapOrphans s x new).2 ⟨hx, hp⟩), hp]
        · rw [if_neg fun h => hp ((mem_snapOrphans s x new).1 h).2, if_pos (hk x (Or.inr ⟨hx, hp⟩))]
      · rw [if_neg fun h => hx ((mem_snapOrphans s x new).1 h).1, ParentFn.adoptFn, if_neg hx,
          if_neg fun e => hv (h.up x v e), ite_self]
  · dsimp only [setSlots_slots]
    by_cases hx : x = v
    · rw [if_pos hx, hx]
    · rw [if_neg hx, restoreStolen_slots h v L t _ hL hst x hx]
      refine (List.map_congr_left fun o ho => ?_).trans (List.map_id _)
      by_cases hkey : o ∈ (L.map (·.1)).map some
      · rw [if_pos hkey]; rfl
      · rw [if_neg hkey]
        by_cases hon : o ∈ new
        · -- a listed node in a list of `s` has a parent, so it has an entry
          cases o with
          | none => exact if_pos hon
          | some c =>
            exact absurd (List.mem_map_of_mem (hk c (Or.inr ⟨hon, fun e => nomatch (h.down x c ho).symm.trans e⟩)))
              hkey
        · exact if_neg hon

/-! ### C02: the children setter, `left` / `right`, one call -/

/-- `__check_children_type`: the empty list stands for `[None, None]`, every other list must have two members -/
theorem normChildren_eq_some {l new : List (Option Nat)} (h : normChildren l = some new) :
    (l = [] ∧ new = [none, none]) ∨ (l = new ∧ l.length = 2) := by
  unfold normChildren at h
  by_cases h0 : l.length = 0
  · rw [if_pos h0, if_neg (by decide)] at h
    exact Or.inl ⟨List.length_eq_zero_iff.1 h0, (Option.some.inj h).symm⟩
  · rw [if_neg h0] at h
    by_cases h2 : l.length = 2
    · rw [if_neg (not_not_intro h2)] at h
      exact Or.inr ⟨Option.some.inj h, h2⟩
    · rw [if_pos h2] at h; cases h

/-- what `__check_children_loop` establishes for `[c1, c2]` -/
structure ValidNew (s : Store) (v : Nat) (c1 c2 : Option Nat) : Prop where
  range : ∀ k, c1 = some k ∨ c2 = some k → k < s.n
  ne_self : ∀ k, c1 = some k ∨ c2 = some k → k ≠ v
  not_anc : ∀ k, c1 = some k ∨ c2 = some k → k ∉ anc s s.n v
  distinct : ∀ k, c1 = some k → c2 ≠ some k

/-- the test `__check_children_loop` makes of one member, apart from "seen before" -/
def childOk (s : Store) (v k : Nat) : Bool :=
  !(decide (s.n ≤ k) || decide (k = v) || (anc s s.n v).contains k)

/-- `__check_children_loop` is the loop with a `seen` accumulator over the members that are not `None` -/
theorem childrenLoopBad_eq (s : Store) (v : Nat) : ∀ (l : List (Option Nat)) (seen : List Nat),
    childrenLoopBad s v l seen = !ParentFn.seenLoop (childOk s v) (l.filterMap id) seen.reverse
  | [], _ => rfl
  | none :: l, seen => childrenLoopBad_eq s v l seen
  | some k :: l, seen => by
    simp only [childrenLoopBad, childrenLoopBad_eq s v l, List.filterMap_cons_some (id_eq _),
      ParentFn.seenLoop, childOk, List.reverse_append, List.reverse_singleton, List.singleton_append,
      List.contains_reverse, Bool.if_true_left, Bool.decide_eq_true, Bool.not_and, Bool.not_not,
      Bool.or_assoc]

theorem childrenLoopBad_false {s : Store} {v : Nat} {l : List (Option Nat)} :
    childrenLoopBad s v l [] = false ↔
      (∀ k, l.count (some k) ≤ 1) ∧ ∀ k, some k ∈ l → k < s.n ∧ k ≠ v ∧ k ∉ anc s s.n v := by
  rw [childrenLoopBad_eq, Bool.not_eq_false', ParentFn.seenLoop_iff, List.nodup_iff_count]
  refine and_congr (forall_congr' fun k => ?_) (forall_congr' fun k => ?_)
  · rw [List.count_filterMap]; rfl
  · rw [List.mem_filterMap]
    simp only [childOk, List.reverse_nil, List.not_mem_nil, not_false_eq_true, true_and, Bool.not_eq_true',
      Bool.or_eq_false_iff, decide_eq_false_iff_not, Nat.not_le, List.contains_eq_mem, and_assoc]
    exact ⟨fun h hm => h ⟨_, hm, rfl⟩, fun h ⟨a, ha, e⟩ => h (e ▸ ha)⟩

theorem childrenLoopBad_two {s : Store} {v : Nat} {c1 c2 : Option Nat} :
    childrenLoopBad s v [c1, c2] [] = false ↔ ValidNew s v c1 c2 := by
  have hmem : ∀ k, some k ∈ [c1, c2] ↔ c1 = some k ∨ c2 = some k := fun k => by
    simp only [List.mem_cons, List.not_mem_nil, or_false, eq_comm]
  rw [childrenLoopBad_false]
  constructor
  · rintro ⟨hd, hall⟩
    have := fun k hk => hall k ((hmem k).2 hk)
    refine ⟨fun k hk => (this k hk).1, fun k hk => (this k hk).2.1, fun k hk => (this k hk).2.2, ?_⟩
    rintro k rfl rfl
    exact absurd (hd k) (by rw [List.count_cons_self, List.count_cons_self]; omega)
  · intro hv
    exact ⟨count_pair_le hv.distinct, fun k hk =>
      ⟨hv.range k ((hmem k).1 hk), hv.ne_self k ((hmem k).1 hk), hv.not_anc k ((hmem k).1 hk)⟩⟩

theorem setChildren_cases {s : Store} (h : BWF s) (a : Bool) (f : Fault) (v : Nat) (l : List (Option Nat)) :
    setChildren a f s v l = (s, .rej) ∨
    ∃ c1 c2, normChildren l = some [c1, c2] ∧ (a && childrenLoopBad s v [c1, c2] []) = false ∧
      f = Fault.none ∧ setChildren a f s v l = ((childrenTry f s v [c1, c2]).1, .ok) := by
  unfold setChildren
  cases hnorm : normChildren l with
  | none => exact Or.inl rfl
  | some new =>
    obtain ⟨c1, c2, rfl⟩ : ∃ c1 c2, new = [c1, c2] := by
      rcases normChildren_eq_some hnorm with ⟨_, rfl⟩ | ⟨rfl, h2⟩
      · exact ⟨none, none, rfl⟩
      · exact two_of_len h2
    obtain ⟨t, ht, hn, hp, hs⟩ := childrenTry_spec h f v c1 c2
    obtain ⟨stolen, hsn, hroll⟩ := childrenRollback_spec h v [c1, c2] hn hp hs
    simp only [hsn, ht]
    cases hb : a && childrenLoopBad s v [c1, c2] [] with
    | true => exact Or.inl rfl
    | false =>
      cases f with
      | none => exact Or.inr ⟨c1, c2, rfl, hb, rfl, by simp [ht]⟩
      | pre => exact Or.inl rfl
      | post => exact Or.inl (by simp [hroll])

/-- **C02 (BinaryNode, children setter), both settings of the assertion switch.** From a well-formed
store a raising `v.children = l` changes nothing — also with the checks off, where self, ancestors
and repeated members reach the assignment loop and only a hook can raise. -/
theorem setChildren_rej_id_any {s : Store} (h : BWF s) (a : Bool) (f : Fault) (v : Nat)
    (l : List (Option Nat)) (hr : (setChildren a f s v l).2 = .rej) : (setChildren a f s v l).1 = s := by
  rcases setChildren_cases h a f v l with e | ⟨_, _, _, _, _, e⟩
  · rw [e]
  · rw [e] at hr; cases hr

/-- **C02 (BinaryNode, children setter).** Whatever makes `v.children = l` raise with the checks
on — wrong length, a member that is not a node, self, an ancestor, a repeated member, the pre-hook,
the post-hook — the store afterwards is the store before. -/
theorem setChildren_rej_id {s : Store} (h : BWF s) (f : Fault) (v : Nat) (l : List (Option Nat))
    (hr : (setChildren true f s v l).2 = .rej) : (setChildren true f s v l).1 = s :=
  setChildren_rej_id_any h true f v l hr

/-- `v.left = x` is `v.children = [x, v.right]` -/
theorem setLeft_rej_id {s : Store} (h : BWF s) (f : Fault) (v : Nat) (x : Option Nat)
    (hr : (setLeft true f s v x).2 = .rej) : (setLeft true f s v x).1 = s := by
  unfold setLeft at hr ⊢
  split at hr
  · rfl
  · exact setChildren_rej_id h f v _ hr

theorem setRight_rej_id {s : Store} (h : BWF s) (f : Fault) (v : Nat) (x : Option Nat)
    (hr : (setRight true f s v x).2 = .rej) : (setRight true f s v x).1 = s := by
  unfold setRight at hr ⊢
  split at hr
  · rfl
  · exact setChildren_rej_id h f v _ hr

/-- One call, for both settings of the assertion switch at once (`r a` is the result under `a`):
a subject that is not a node and a `children` right-hand side that is no list are refused unchanged;
`left` / `right` are `children` on `[x, v.right]` / `[v.left, x]`. -/
theorem step_cases {s : Store} {P : (Bool → Store × Outcome) → Prop} (op : Op) (hrej : P fun _ => (s, .rej))
    (hpar : ∀ v np f, v < s.n → P (setParent · f s v np))
    (hch : ∀ v l f, v < s.n → P (setChildren · f s v l))
    (hdel : ∀ v, v < s.n → P fun _ => delChildren s v)
    (hsort : ∀ v sw, v < s.n → P fun _ => (sortChildren s v sw, .ok)) : P (step · s op) := by
  by_cases hsub : s.n ≤ op.subject
  · simp only [step, if_pos hsub]
    exact hrej
  · have hv : op.subject < s.n := Nat.lt_of_not_le hsub
    simp only [step, if_neg hsub]
    cases op with
    | parent v np f => exact hpar v np f hv
    | children v l f =>
      cases l with
      | none => exact hrej
      | some l => exact hch v l f hv
    | left v x f =>
      simp only [setLeft]
      cases slotAt? s v 1 with
      | none => exact hrej
      | some r => exact hch v _ f hv
    | right v x f =>
      simp only [setRight]
      cases slotAt? s v 0 with
      | none => exact hrej
      | some l => exact hch v _ f hv
    | del v => exact hdel v hv
    | sort v sw => exact hsort v sw hv

/-- **C02 (BinaryNode), both settings of the assertion switch**, one call from a well-formed store -/
theorem step_rej_id_any {s : Store} (h : BWF s) (a : Bool) (op : Op) (hr : (step a s op).2 = .rej) :
    (step a s op).1 = s := by
  revert hr
  refine step_cases (P := fun r => (r a).2 = .rej → (r a).1 = s) op (fun _ => rfl)
    (fun v np f _ => setParent_rej_id h a f v np) (fun v l f _ => setChildren_rej_id_any h a f v l)
    (fun v _ hr => ?_) (fun _ _ _ hr => nomatch hr)
  rw [delChildren_ok h v] at hr; cases hr

/-- **C02 (BinaryNode).** Every rejected call — any operation, any argument, any fault — leaves the
whole store unchanged (checks on). -/
theorem step_rej_id {s : Store} (h : BWF s) (op : Op) (hr : (step true s op).2 = .rej) :
    (step true s op).1 = s := step_rej_id_any h true op hr

/-! ### C20 (BinaryNode part): the assertion block is a pure guard -/

theorem setParent_off_same {s : Store} {f : Fault} {v : Nat} {np : Option Nat}
    (hok : (setParent true f s v np).2 = .ok) : setParent false f s v np = setParent true f s v np := by
  unfold setParent at hok ⊢
  by_cases h1 : parentTypeBad s np = true
  · simp [h1] at hok
  by_cases h2 : parentLoopBad s v np = true
  · simp [h1, h2] at hok
  simp [h1, h2]

theorem setChildren_off_same {s : Store} {f : Fault} {v : Nat} {l : List (Option Nat)}
    (hok : (setChildren true f s v l).2 = .ok) : setChildren false f s v l = setChildren true f s v l := by
  unfold setChildren at hok ⊢
  cases hnorm : normChildren l with
  | none => rfl
  | some new =>
    by_cases hb : childrenLoopBad s v new [] = true
    · simp [hnorm, hb] at hok
    · simp [hb]

/-- **C20 (BinaryNode).** A call accepted with the checks on gives the same outcome and the same
store with the checks off: the `if ASSERTIONS:` blocks only ever reject. -/
theorem assertions_off_same {s : Store} {op : Op} (hok : (step true s op).2 = .ok) :
    step false s op = step true s op :=
  step_cases (P := fun r => (r true).2 = .ok → r false = r true) op (fun _ => rfl)
    (fun _ _ _ _ => setParent_off_same) (fun _ _ _ _ => setChildren_off_same) (fun _ _ _ => rfl)
    (fun _ _ _ _ => rfl) hok

theorem off_only_removes_rejections {s : Store} {op : Op} (hr : (step false s op).2 = .rej) :
    (step true s op).2 = .rej := by
  cases h : (step true s op).2 with
  | rej => rfl
  | ok => rw [assertions_off_same h, h] at hr; cases hr

/-- every call of the history is accepted with the checks on -/
def AllOk : Store → List Op → Prop
  | _, [] => True
  | s, op :: ops => (step true s op).2 = .ok ∧ AllOk (step true s op).1 ops

instance decAllOk : ∀ (s : Store) (ops : List Op), Decidable (AllOk s ops)
  | _, [] => isTrue trivial
  | s, op :: ops =>
    match decEq (step true s op).2 .ok, decAllOk (step true s op).1 ops with
    | isTrue h1, isTrue h2 => isTrue ⟨h1, h2⟩
    | isFalse h1, _ => isFalse fun h => h1 h.1
    | _, isFalse h2 => isFalse fun h => h2 h.2

/-- **C20 (BinaryNode), histories.** A history accepted with the checks on produces, call by call,
the same outcomes and the same stores with the checks off. -/
theorem trace_assertions_off_same : ∀ (s : Store) (ops : List Op), AllOk s ops →
    trace false s ops = trace true s ops
  | _, [], _ => rfl
  | s, op :: ops, h => by
    simp only [trace]
    rw [assertions_off_same h.1, trace_assertions_off_same _ ops h.2]

theorem run_assertions_off_same : ∀ (s : Store) (ops : List Op), AllOk s ops →
    run false s ops = run true s ops
  | _, [], _ => rfl
  | s, op :: ops, h => by
    simp only [run, List.foldl_cons]
    rw [assertions_off_same h.1]
    exact run_assertions_off_same _ ops h.2

/-- the accepted sub-history (what the harness feeds to both configurations): rejected calls of a
history change nothing (C02), so dropping them gives an accepted history with the same final store -/
def acceptedOps : Store → List Op → List Op
  | _, [] => []
  | s, op :: ops =>
    if (step true s op).2 = .ok then op :: acceptedOps (step true s op).1 ops
    else acceptedOps s ops

theorem acceptedOps_allOk : ∀ (s : Store) (ops : List Op), AllOk s (acceptedOps s ops)
  | _, [] => trivial
  | s, op :: ops => by
    simp only [acceptedOps]
    split
    · rename_i h; exact ⟨h, acceptedOps_allOk _ ops⟩
    · exact acceptedOps_allOk _ ops

example : AllOk (init 3) [.children 0 (some [some 1, some 2]) .none, .parent 2 none .none, .left 1 (some 2) .none] := by
  decide +kernel

end BinStore
