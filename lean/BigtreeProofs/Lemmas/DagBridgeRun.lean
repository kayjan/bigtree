import BigtreeProofs.Lemmas.DagBridgeStep
/-!
# DagBridge — whole histories: the edge list of the final store is the replay of the documented effects
-/

namespace DagStore
open List

/-- the store `s` and the graph-level state `g` agree: same nodes, same names, same edges (each once) -/
structure Rel (s : DStore) (g : EState) : Prop where
  n : g.n = s.n
  names : g.names = s.names
  perm : (edges s).Perm g.E

theorem rel_estate (s : DStore) : Rel s (estate s) := ⟨rfl, rfl, Perm.refl _⟩

/-- the edges a call asks for, spelt twice: `requested` (C10) reads the next free id off the store, `asked`
(`BigtreeModel/DagBridge.lean`, the edge-list model) is handed it -/
theorem asked_eq (s : DStore) (op : Op) : asked s.n op = requested s op := by
  cases op <;> rfl

/-! ## `EState.apply` by kind of call -/

theorem apply_delItem_cases (g : EState) (v : Nat) (nm : Str) :
    g.apply (.delItem v nm) = g ∨
    ∃ c, g.apply (.delItem v nm) = { g with E := g.E.filter fun x => x != (v, c) } := by
  rw [EState.apply]
  split
  · next e he =>
    have hm : e ∈ g.E.filter (fun e => e.1 == v && g.names e.2 == nm) := he ▸ mem_cons_self
    have hv : e.1 = v := beq_iff_eq.1 (Bool.and_eq_true_iff.1 (mem_filter.1 hm).2).1
    exact Or.inr ⟨e.2, by rw [← hv]⟩
  · exact Or.inl rfl

theorem apply_n_names (g : EState) {op : Op} (hc : op.isConstruct = false) :
    (g.apply op).n = g.n ∧ (g.apply op).names = g.names := by
  cases op with
  | construct nm ps cs fp fc => cases hc
  | delItem v nm => rcases apply_delItem_cases g v nm with h | ⟨c, h⟩ <;> rw [h] <;> exact ⟨rfl, rfl⟩
  | _ => exact ⟨rfl, rfl⟩

theorem apply_assign (g : EState) {op : Op} (ha : op.isAssign = true) (hc : op.isConstruct = false) :
    g.apply op = { g with E := g.E ++ (asked g.n op).filter fun e => decide (e ∉ g.E) } := by
  cases op with
  | delChildren v => cases ha
  | delItem v nm => cases ha
  | construct nm ps cs fp fc => cases hc
  | _ => rfl

theorem asked_ids (n : Nat) (op : Op) (hc : op.isConstruct = false) :
    ∀ e ∈ asked n op, e.1 ∈ op.ids ∧ e.2 ∈ op.ids := by
  intro e he
  cases op with
  | setParents v a f =>
    obtain ⟨p, hp, rfl⟩ := mem_map.1 he
    exact ⟨mem_cons_of_mem _ hp, mem_cons_self⟩
  | setChildren v a f =>
    obtain ⟨c, hc, rfl⟩ := mem_map.1 he
    exact ⟨mem_cons_self, mem_cons_of_mem _ hc⟩
  | rshift v o f => cases mem_singleton.1 he; exact ⟨mem_cons_self, mem_cons_of_mem _ mem_cons_self⟩
  | lshift v o f => cases mem_singleton.1 he; exact ⟨mem_cons_of_mem _ mem_cons_self, mem_cons_self⟩
  | delChildren v => cases he
  | delItem v nm => cases he
  | construct nm ps cs fp fc => cases hc

theorem mem_apply_E (g : EState) (op : Op) {e : Nat × Nat} (h : e ∈ (g.apply op).E) :
    e ∈ g.E ∨ e ∈ asked g.n op := by
  cases op with
  | delChildren v => exact Or.inl (mem_filter.1 h).1
  | delItem v nm =>
    rcases apply_delItem_cases g v nm with h' | ⟨c, h'⟩ <;> rw [h'] at h
    · exact Or.inl h
    · exact Or.inl (mem_filter.1 h).1
  | _ => exact (mem_append.1 h).imp_right fun h => (mem_filter.1 h).1

/-! ## one accepted call -/

theorem edges_filter_src {s : DStore} (hs : DWF0 s) (v : Nat) (p : Nat → Bool) :
    ((edges s).filter fun e => e.1 == v && p e.2).Perm (((s.children v).filter p).map fun c => (v, c)) := by
  rw [perm_ext_iff_of_nodup ((nodup_edges hs).filter _)
    (Dag.nodup_map_of_inj (fun a b h => (Prod.mk.inj h).2) ((hs.ndc v).filter _))]
  rintro ⟨a, c⟩
  simp only [mem_filter, mem_edges, Bool.and_eq_true, beq_iff_eq, mem_map, Prod.mk.injEq]
  constructor
  · rintro ⟨⟨_, hc⟩, rfl, hp⟩
    exact ⟨c, ⟨hc, hp⟩, rfl, rfl⟩
  · rintro ⟨c', ⟨hc, hp⟩, rfl, rfl⟩
    exact ⟨⟨(hs.rng _ _ ((hs.sym _ _).2 hc)).1, hc⟩, rfl, hp⟩

theorem assign_ok_perm {s : DStore} (hs : DWF s) {g : EState} (hr : Rel s g) {op : Op} (ha : op.isAssign = true)
    (h : (step true s op).2 = .ok) :
    (edges (step true s op).1).Perm (g.E ++ (asked g.n op).filter fun e => decide (e ∉ g.E)) := by
  rw [hr.n, asked_eq, ← filter_congr fun e _ => decide_eq_decide.2 (not_congr hr.perm.mem_iff)]
  exact (step_edges_adds hs ha h).trans (hr.perm.append_right _)

/-- **an accepted call, read on the edge list alone, is its documented effect** -/
theorem step_ok_rel {s : DStore} (hs : DWF s) {g : EState} (hr : Rel s g) (op : Op)
    (h : (step true s op).2 = .ok) : Rel (step true s op).1 (g.apply op) := by
  have hnn : (g.apply op).n = (step true s op).1.n ∧ (g.apply op).names = (step true s op).1.names := by
    cases hc : op.isConstruct with
    | false =>
      exact ⟨((apply_n_names g hc).1.trans hr.n).trans (step_n_names hs hc).1.symm,
        ((apply_n_names g hc).2.trans hr.names).trans (step_n_names hs hc).2.symm⟩
    | true =>
      cases op with
      | construct nm ps cs fp fc =>
        have hn := construct_n_names hs nm ps cs fp fc
        exact ⟨hn.1.symm ▸ congrArg (· + 1) hr.n, by rw [hn.2, ← hr.n, ← hr.names]; rfl⟩
      | _ => cases hc
  refine ⟨hnn.1, hnn.2, ?_⟩
  cases op with
  | delChildren v =>
    rw [step_delChildren hs.toDWF0, edges_delChildrenLoop]
    exact hr.perm.filter _
  | delItem v nm =>
    -- the children of `v` with that name, found through the edge list and through `v`'s own list
    have hcand : (g.E.filter fun e => e.1 == v && g.names e.2 == nm).Perm
        (((s.children v).filter fun c => s.names c == nm).map fun c => (v, c)) := by
      rw [hr.names]
      exact (hr.perm.symm.filter _).trans (edges_filter_src hs.toDWF0 v fun c => s.names c == nm)
    rw [step_delItem hs.toDWF0, delItem, EState.apply]
    cases hf : (s.children v).filter (fun c => s.names c == nm) with
    | nil =>
      rw [hf] at hcand
      rw [hcand.eq_nil]
      exact hr.perm
    | cons c t =>
      rw [hf] at hcand
      cases t with
      | nil =>
        rw [hcand.eq_singleton]
        show (edges (s.delE v c)).Perm (g.E.filter fun x => x != (v, c))
        rw [edges_delE hs.toDWF0]
        exact hr.perm.filter _
      | cons b t =>
        -- two candidates: the call was refused
        have h' := (ok_of_guard h).2
        rw [delItem, hf] at h'
        cases h'
  | _ => exact assign_ok_perm hs hr rfl h

/-- no constructor call of the history raises (a raising constructor may leave a half-built node behind) -/
def NoRejConstruct : DStore → List Op → Prop
  | _, [] => True
  | s, op :: ops =>
    ((step true s op).2 = .rej → ∀ nm ps cs fp fc, op ≠ .construct nm ps cs fp fc) ∧
    NoRejConstruct (step true s op).1 ops

theorem noRejConstruct_of_noConstruct (ops : List Op) : ∀ (s : DStore),
    (∀ op ∈ ops, op.isConstruct = false) → NoRejConstruct s ops := by
  induction ops with
  | nil => exact fun _ _ => trivial
  | cons op ops ih =>
    refine fun s h => ⟨fun _ nm ps cs fp fc e => ?_, ih _ fun o ho => h o (mem_cons_of_mem _ ho)⟩
    have := h op mem_cons_self
    rw [e] at this
    cases this

/-- **whole histories**: the edge list of the final store is, up to order, the replay of the documented
effects of the accepted calls on the edge list of the initial one -/
theorem run_rel : ∀ (ops : List Op) (s : DStore) (g : EState), DWF s → Rel s g → NoRejConstruct s ops →
    Rel (run true s ops).1 (g.replay (ops.zip (run true s ops).2)) := by
  intro ops
  induction ops with
  | nil => intro s g _ hr _; exact hr
  | cons op ops ih =>
    intro s g hs hr hx
    have hs1 := dwf_step hs op
    simp only [run, zip_cons_cons]
    cases ho : (step true s op).2 with
    | ok =>
      simp only [EState.replay]
      exact ih _ _ hs1 (step_ok_rel hs hr op ho) hx.2
    | rej =>
      simp only [EState.replay]
      refine ih _ _ hs1 ?_ hx.2
      rw [step_rej_id hs.toDWF0 (hx.1 ho) ho]
      exact hr

end DagStore
