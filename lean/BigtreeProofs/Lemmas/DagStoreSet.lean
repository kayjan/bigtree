import BigtreeProofs.Lemmas.DagStoreInv
/-!
# DagStore — the two setters: what the checks guarantee, closed forms of the insertion loops,
exactness of the executed roll-back loops
-/

namespace DagStore

/-! ## the guards -/

/-- a loop that tests every member (`P`) and refuses one it has met before accepts only lists of
distinct members that all pass the test. (The guards of `DAGNode` append to `seen` and are chains of four
`if`s, so they are not instances of `ParentFn.seenLoop`; only this direction is used.) -/
theorem guard_spec {chk : List Nat → List Nat → Bool} {P : Nat → Prop}
    (step : ∀ p l seen, chk (p :: l) seen = true → (P p ∧ p ∉ seen) ∧ chk l (seen ++ [p]) = true)
    {l seen : List Nat} (h : chk l seen = true) : l.Nodup ∧ ∀ p ∈ l, P p ∧ p ∉ seen := by
  induction l generalizing seen with
  | nil => simp
  | cons p l ih =>
    obtain ⟨hp, h⟩ := step p l seen h
    obtain ⟨hn, hl⟩ := ih h
    refine ⟨List.nodup_cons.2 ⟨fun hm => (hl p hm).2 (by simp), hn⟩, fun q hq => ?_⟩
    rcases List.mem_cons.1 hq with rfl | hq
    · exact hp
    · exact ⟨(hl q hq).1, fun hs => (hl q hq).2 (List.mem_append_left _ hs)⟩

theorem checkParentLoop_spec {s : DStore} {v : Nat} {l seen : List Nat}
    (h : checkParentLoop s v l seen = true) :
    l.Nodup ∧ ∀ p ∈ l, p < s.n ∧ p ≠ v ∧ v ∉ ancestors s p ∧ p ∉ seen := by
  simpa only [and_assoc] using guard_spec (P := fun p => p < s.n ∧ p ≠ v ∧ v ∉ ancestors s p)
    (fun p l seen h => by
      simpa only [checkParentLoop, Bool.if_false_left, Bool.and_eq_true, Bool.not_eq_eq_eq_not,
        Bool.not_true, decide_eq_false_iff_not, Nat.not_le, ne_eq, and_assoc] using h) h

theorem checkChildrenLoop_spec {s : DStore} {v : Nat} {l seen : List Nat}
    (h : checkChildrenLoop s v l seen = true) :
    l.Nodup ∧ ∀ c ∈ l, c < s.n ∧ c ≠ v ∧ c ∉ ancestors s v ∧ c ∉ seen := by
  simpa only [and_assoc] using guard_spec (P := fun c => c < s.n ∧ c ≠ v ∧ c ∉ ancestors s v)
    (fun c l seen h => by
      simpa only [checkChildrenLoop, Bool.if_false_left, Bool.and_eq_true, Bool.not_eq_eq_eq_not,
        Bool.not_true, decide_eq_false_iff_not, Nat.not_le, ne_eq, and_assoc] using h) h

theorem checkParentLoop_nodes {s : DStore} {v : Nat} {l : List Nat}
    (h : checkParentLoop s v l [] = true) : l.Nodup ∧ ∀ p ∈ l, p < s.n :=
  (checkParentLoop_spec h).imp_right fun h p hp => (h p hp).1

theorem checkChildrenLoop_nodes {s : DStore} {v : Nat} {l : List Nat}
    (h : checkChildrenLoop s v l [] = true) : l.Nodup ∧ ∀ c ∈ l, c < s.n :=
  (checkChildrenLoop_spec h).imp_right fun h c hc => (h c hc).1

/-- what the guards establish, with `ancestors` read as reachability -/
theorem checkParentLoop_anc {s : DStore} (hs : DWF s) {v : Nat} {l : List Nat}
    (h : checkParentLoop s v l [] = true) :
    l.Nodup ∧ ∀ p ∈ l, p < s.n ∧ p ≠ v ∧ ¬ Anc s v p :=
  (checkParentLoop_spec h).imp_right fun h p hp =>
    ⟨(h p hp).1, (h p hp).2.1, fun ha => (h p hp).2.2.1 ((mem_ancestors hs).2 ha)⟩

theorem checkChildrenLoop_anc {s : DStore} (hs : DWF s) {v : Nat} {l : List Nat}
    (h : checkChildrenLoop s v l [] = true) :
    l.Nodup ∧ ∀ c ∈ l, c < s.n ∧ c ≠ v ∧ ¬ Anc s c v :=
  (checkChildrenLoop_spec h).imp_right fun h c hc =>
    ⟨(h c hc).1, (h c hc).2.1, fun ha => (h c hc).2.2.1 ((mem_ancestors hs).2 ha)⟩

/-! ## closed forms of the insertion loops -/

/-- the edges the parents setter appends: the new parents not yet listed, in argument order -/
def newParentEdges (s : DStore) (v : Nat) (l : List Nat) : List (Nat × Nat) :=
  (l.filter fun p => decide (p ∉ s.parents v)).map fun p => (p, v)

/-- the edges the children setter appends -/
def newChildEdges (s : DStore) (v : Nat) (l : List Nat) : List (Nat × Nat) :=
  (l.filter fun c => decide (v ∉ s.parents c)).map fun c => (v, c)

section
variable {s : DStore} {v p c : Nat} {l : List Nat}

theorem newParentEdges_of_mem (h : p ∈ s.parents v) :
    newParentEdges s v (p :: l) = newParentEdges s v l := by
  simp [newParentEdges, h]

theorem newParentEdges_of_not_mem (h : p ∉ s.parents v) :
    newParentEdges s v (p :: l) = (p, v) :: newParentEdges s v l := by
  simp [newParentEdges, h]

theorem newChildEdges_of_mem (h : v ∈ s.parents c) :
    newChildEdges s v (c :: l) = newChildEdges s v l := by
  simp [newChildEdges, h]

theorem newChildEdges_of_not_mem (h : v ∉ s.parents c) :
    newChildEdges s v (c :: l) = (v, c) :: newChildEdges s v l := by
  simp [newChildEdges, h]

theorem mem_newParentEdges {q x : Nat} :
    (q, x) ∈ newParentEdges s v l ↔ x = v ∧ q ∈ l ∧ q ∉ s.parents v := by
  simp only [newParentEdges, List.mem_map, List.mem_filter, decide_eq_true_eq, Prod.mk.injEq]
  exact ⟨fun ⟨_, h, e1, e2⟩ => e1 ▸ ⟨e2.symm, h⟩, fun ⟨e, h⟩ => ⟨q, h, rfl, e.symm⟩⟩

theorem mem_newChildEdges {q x : Nat} :
    (q, x) ∈ newChildEdges s v l ↔ q = v ∧ x ∈ l ∧ v ∉ s.parents x := by
  simp only [newChildEdges, List.mem_map, List.mem_filter, decide_eq_true_eq, Prod.mk.injEq]
  exact ⟨fun ⟨_, h, e1, e2⟩ => e2 ▸ ⟨e1.symm, h⟩, fun ⟨e, h⟩ => ⟨x, h, e.symm, rfl⟩⟩

theorem mem_after_parents :
    p ∈ (addEs s (newParentEdges s v l)).parents c ↔ p ∈ s.parents c ∨ (c = v ∧ p ∈ l) := by
  rw [mem_addEs_parents, mem_newParentEdges]
  exact Decidable.or_congr_right' fun hp => and_congr_right fun e => and_iff_left (e ▸ hp)

theorem mem_after_children :
    p ∈ (addEs s (newChildEdges s v l)).parents c ↔ p ∈ s.parents c ∨ (p = v ∧ c ∈ l) := by
  rw [mem_addEs_parents, mem_newChildEdges]
  exact Decidable.or_congr_right' fun hp => and_congr_right fun e => and_iff_left (e ▸ hp)

theorem newParentEdges_nodup (h : l.Nodup) : (newParentEdges s v l).Nodup :=
  (h.filter _).map _ fun _ _ hab e => hab (Prod.mk.inj e).1

theorem newChildEdges_nodup (h : l.Nodup) : (newChildEdges s v l).Nodup :=
  (h.filter _).map _ fun _ _ hab e => hab (Prod.mk.inj e).2

end

theorem parentsLoop_eq {s : DStore} {v : Nat} {l : List Nat} (hl : l.Nodup ∧ ∀ p ∈ l, p < s.n) :
    parentsLoop s v l = (addEs s (newParentEdges s v l), true) := by
  induction l generalizing s with
  | nil => rfl
  | cons p l ih =>
    have ⟨hp, hn⟩ := List.nodup_cons.1 hl.1
    have ⟨hpn, hl⟩ := List.forall_mem_cons.1 hl.2
    rw [parentsLoop]
    by_cases hm : p ∈ s.parents v
    · rw [if_pos hm, ih ⟨hn, hl⟩, newParentEdges_of_mem hm]
    · simp only [if_neg hm, if_pos hpn]
      -- the later members are tested against the store before the first insertion
      have e : newParentEdges (s.addE p v) v l = newParentEdges s v l := by
        unfold newParentEdges
        refine congrArg _ (List.filter_congr fun q hq => ?_)
        simp [mem_addE_parents, show q ≠ p from fun h => hp (h ▸ hq)]
      rw [newParentEdges_of_not_mem hm, addEs, ← e]
      exact ih ⟨hn, hl⟩

theorem childrenLoop_eq {s : DStore} {v : Nat} {l : List Nat} (hl : l.Nodup ∧ ∀ c ∈ l, c < s.n) :
    childrenLoop s v l = (addEs s (newChildEdges s v l), true) := by
  induction l generalizing s with
  | nil => rfl
  | cons c l ih =>
    have ⟨hc, hn⟩ := List.nodup_cons.1 hl.1
    have ⟨hcn, hl⟩ := List.forall_mem_cons.1 hl.2
    rw [childrenLoop, if_neg (Nat.not_le.2 hcn)]
    by_cases hm : v ∈ s.parents c
    · rw [if_pos hm, ih ⟨hn, hl⟩, newChildEdges_of_mem hm]
    · have e : newChildEdges (s.addE v c) v l = newChildEdges s v l := by
        unfold newChildEdges
        refine congrArg _ (List.filter_congr fun q hq => ?_)
        simp [mem_addE_parents, show q ≠ c from fun h => hc (h ▸ hq)]
      rw [if_neg hm, newChildEdges_of_not_mem hm, addEs, ← e]
      exact ih ⟨hn, hl⟩

/-! ## the executed roll-back loops restore the store exactly -/

theorem parentsRollback_eq {s : DStore} (hs : DWF0 s) {v : Nat} {l : List Nat}
    (hl : l.Nodup ∧ ∀ p ∈ l, p < s.n) :
    parentsRollback (s.parents v) (addEs s (newParentEdges s v l)) v l = s := by
  induction l with
  | nil => rfl
  | cons p l ih =>
    have ⟨_, hn⟩ := List.nodup_cons.1 hl.1
    have ⟨hpn, hl⟩ := List.forall_mem_cons.1 hl.2
    rw [parentsRollback]
    by_cases hm : p ∈ s.parents v
    · rw [if_pos hm, newParentEdges_of_mem hm]
      exact ih ⟨hn, hl⟩
    · rw [if_neg hm, newParentEdges_of_not_mem hm,
        if_pos (mem_addEs_parents.2 (.inr List.mem_cons_self))]
      have h : p < (addEs s ((p, v) :: newParentEdges s v l)).n ∧
          v ∈ ((addEs s ((p, v) :: newParentEdges s v l)).popParent v p).children p :=
        ⟨by rwa [addEs_n], mem_addEs_children.2 (.inr List.mem_cons_self)⟩
      simp only [if_pos h]
      -- the two `remove`s undo the first edge of the batch
      show parentsRollback _ ((addEs s ((p, v) :: newParentEdges s v l)).delE p v) v l = s
      rw [delE_addEs_head _ _ hm fun h => hm ((hs.sym _ _).2 h)]
      exact ih ⟨hn, hl⟩

theorem childrenRollback_eq {s : DStore} (hs : DWF0 s) {v : Nat} {l : List Nat}
    (hl : l.Nodup ∧ ∀ c ∈ l, c < s.n) :
    childrenRollback (s.children v) (addEs s (newChildEdges s v l)) v l = s := by
  induction l with
  | nil => rfl
  | cons c l ih =>
    have ⟨_, hn⟩ := List.nodup_cons.1 hl.1
    have ⟨hcn, hl⟩ := List.forall_mem_cons.1 hl.2
    rw [childrenRollback]
    by_cases hm : c ∈ s.children v
    · rw [if_pos hm, newChildEdges_of_mem ((hs.sym _ _).2 hm)]
      exact ih ⟨hn, hl⟩
    · have hm' : v ∉ s.parents c := fun h => hm ((hs.sym _ _).1 h)
      rw [if_neg hm, newChildEdges_of_not_mem hm', if_neg (by rwa [addEs_n, Nat.not_le]),
        if_pos (mem_addEs_parents.2 (.inr List.mem_cons_self))]
      have h : c ∈ ((addEs s ((v, c) :: newChildEdges s v l)).popParent c v).children v :=
        mem_addEs_children.2 (.inr List.mem_cons_self)
      simp only [if_pos h]
      show childrenRollback _ ((addEs s ((v, c) :: newChildEdges s v l)).delE v c) v l = s
      rw [delE_addEs_head _ _ hm' hm]
      exact ih ⟨hn, hl⟩

end DagStore
