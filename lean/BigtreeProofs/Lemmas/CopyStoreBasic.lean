import BigtreeModel.CopyStore
/-!
# Lemmas for C07 (Model A: pointer-level store with deep copy)

Everything is said about one predicate, `SepQ s Q`: no link of `s` crosses the boundary of the
"side" `Q : Nat → Prop`. `Sep s k` is `SepQ s (· < k)`, a `World` is separated when
`SepQ w.st (w.side · = true)`, and `Closed s` is equivalent to `SepQ s (· < s.n)` (`closed_iff_sep`).
`Inv Q s0 st` adds the frame: off the side `Q`, `st` still has the cells of `s0`. The mutators keep
`Inv Q` when their node arguments are on the side `Q`.
-/

namespace CopyStore

theorem map_eq_ok {ε α β : Type} {f : α → β} {x : Except ε α} {b : β} (h : x.map f = .ok b) :
    ∃ a, x = .ok a ∧ f a = b := by
  cases x with
  | error e => cases h
  | ok a => exact ⟨a, rfl, Except.ok.inj h⟩

theorem bind_eq_ok {ε α β : Type} {f : α → Except ε β} {x : Except ε α} {b : β}
    (h : x.bind f = .ok b) : ∃ a, x = .ok a ∧ f a = .ok b := by
  cases x with
  | error e => cases h
  | ok a => exact ⟨a, rfl, h⟩

theorem of_ite_error {ε α : Type} {c : Prop} [Decidable c] {e : ε} {x : Except ε α} {r : α}
    (h : (if c then .error e else x) = .ok r) : x = .ok r := by
  split at h
  · cases h
  · exact h

namespace Store

theorem cell?_modify (s : Store) (j : Nat) (f : Cell → Cell) (i : Nat) :
    (s.modify j f).cell? i = if j = i then (s.cell? i).map f else s.cell? i := by
  unfold Store.modify Store.cell?
  rw [List.getElem?_modify]
  split
  · rfl
  · exact Option.map_id'

@[simp] theorem n_modify (s : Store) (j : Nat) (f : Cell → Cell) : (s.modify j f).n = s.n :=
  List.length_modify ..

theorem cell?_lt {s : Store} {i : Nat} {c : Cell} (h : s.cell? i = some c) : i < s.n :=
  (List.getElem?_eq_some_iff.1 h).1

theorem cell?_ge (s : Store) (i : Nat) (h : s.n ≤ i) : s.cell? i = none :=
  List.getElem?_eq_none h

theorem modify_of_ge (s : Store) (j : Nat) (f : Cell → Cell) (h : s.n ≤ j) :
    s.modify j f = s :=
  congrArg Store.mk (List.modify_eq_self h)

theorem cell?_modify_self (s : Store) (j : Nat) (f : Cell → Cell) :
    (s.modify j f).cell? j = (s.cell? j).map f := by
  rw [Store.cell?_modify, if_pos rfl]

end Store

/-! ## the generic separation predicate -/

/-- all links of cell `c` (stored at `i`) stay on `i`'s side of `Q` -/
def LinkOK (Q : Nat → Prop) (i : Nat) (c : Cell) : Prop :=
  (∀ p, c.parent = some p → (Q i ↔ Q p)) ∧ (∀ ch ∈ c.children, (Q i ↔ Q ch))

/-- no link crosses the boundary of `Q` -/
def SepQ (s : Store) (Q : Nat → Prop) : Prop := ∀ i c, s.cell? i = some c → LinkOK Q i c

theorem linkOK_of_all {Q : Nat → Prop} {j : Nat} {c : Cell} (hj : Q j)
    (hp : ∀ p, c.parent = some p → Q p) (hc : ∀ ch ∈ c.children, Q ch) : LinkOK Q j c :=
  ⟨fun p h => ⟨fun _ => hp p h, fun _ => hj⟩, fun ch h => ⟨fun _ => hc ch h, fun _ => hj⟩⟩

/-- `SepQ` depends on `Q` only through the relation "on the same side" -/
theorem sepQ_mono {s : Store} {Q Q' : Nat → Prop} (e : ∀ i j, (Q i ↔ Q j) → (Q' i ↔ Q' j))
    (h : SepQ s Q) : SepQ s Q' :=
  fun i c hc => ⟨fun p hp => e i p ((h i c hc).1 p hp), fun ch hch => e i ch ((h i c hc).2 ch hch)⟩

theorem sepQ_of_forall {s : Store} {Q : Nat → Prop} (hQ : ∀ i, Q i) : SepQ s Q :=
  fun i _ _ => linkOK_of_all (hQ i) (fun p _ => hQ p) (fun ch _ => hQ ch)

theorem sepQ_parent {Q : Nat → Prop} {s : Store} (hs : SepQ s Q) {v p : Nat}
    (h : s.parentOf v = some p) (hv : Q v) : Q p := by
  obtain ⟨c, hc, hp⟩ := Option.bind_eq_some_iff.1 h
  exact ((hs v c hc).1 p hp).1 hv

theorem sepQ_children {Q : Nat → Prop} {s : Store} (hs : SepQ s Q) {v : Nat} (hv : Q v) :
    ∀ ch ∈ s.childrenOf v, Q ch := by
  intro ch hch
  unfold Store.childrenOf at hch
  cases hc : s.cell? v with
  | none => rw [hc] at hch; cases hch
  | some c => rw [hc] at hch; exact ((hs v c hc).2 ch hch).1 hv

theorem sep_iff_ge (s : Store) (k : Nat) : Sep s k ↔ SepQ s (k ≤ ·) :=
  ⟨sepQ_mono (Q := (· < k)) fun _ _ h => Nat.not_lt.symm.trans ((not_congr h).trans Nat.not_lt),
    sepQ_mono (Q' := (· < k)) fun _ _ h => Nat.not_le.symm.trans ((not_congr h).trans Nat.not_le)⟩

theorem sepQ_congr {s : Store} {Q Q' : Nat → Prop} (hc : Closed s)
    (e : ∀ i, i < s.n → (Q i ↔ Q' i)) (h : SepQ s Q) : SepQ s Q' := by
  intro i c hic
  have ei := e i (Store.cell?_lt hic)
  exact ⟨fun p hp => ei.symm.trans (((h i c hic).1 p hp).trans (e p ((hc i c hic).1 p hp))),
    fun ch hch => ei.symm.trans (((h i c hic).2 ch hch).trans (e ch ((hc i c hic).2 ch hch)))⟩

theorem sepQ_of_closed {s : Store} {Q : Nat → Prop} (hc : Closed s) (hQ : ∀ i, i < s.n → Q i) :
    SepQ s Q :=
  sepQ_congr hc (fun i hi => iff_of_true trivial (hQ i hi)) (sepQ_of_forall fun _ => trivial)

/-- a cell has an id of the store, so a link stays on its side of `s.n` iff it stays inside -/
theorem closed_iff_sep {s : Store} : Closed s ↔ Sep s s.n :=
  ⟨fun h => sepQ_of_closed h fun _ hi => hi, fun h i c hc =>
    ⟨fun p hp => ((h i c hc).1 p hp).1 (Store.cell?_lt hc),
      fun ch hch => ((h i c hc).2 ch hch).1 (Store.cell?_lt hc)⟩⟩

/-! ## `Inv` and single field writes -/

/-- `st` is separated and agrees with `s0` off the `Q` side -/
def Inv (Q : Nat → Prop) (s0 st : Store) : Prop :=
  SepQ st Q ∧ ∀ i, ¬ Q i → st.cell? i = s0.cell? i

namespace Inv

theorem trans_frame {Q : Nat → Prop} {s0 s1 st : Store} (h : Inv Q s1 st)
    (h0 : ∀ i, ¬ Q i → s1.cell? i = s0.cell? i) : Inv Q s0 st :=
  ⟨h.1, fun i hi => (h.2 i hi).trans (h0 i hi)⟩

theorem refl {Q : Nat → Prop} {s : Store} (h : SepQ s Q) : Inv Q s s := ⟨h, fun _ _ => rfl⟩

theorem hi {s0 st : Store} {k : Nat} (h : Inv (k ≤ ·) s0 st) :
    Sep st k ∧ ∀ i, i < k → st.cell? i = s0.cell? i :=
  ⟨(sep_iff_ge st k).2 h.1, fun i hi => h.2 i (Nat.not_le.2 hi)⟩

theorem lo {s0 st : Store} {k : Nat} (h : Inv (· < k) s0 st) :
    Sep st k ∧ ∀ i, k ≤ i → st.cell? i = s0.cell? i :=
  ⟨h.1, fun i hi => h.2 i (Nat.not_lt.2 hi)⟩

end Inv

theorem inv_hi_of_sep {s : Store} {k : Nat} (h : Sep s k) : Inv (k ≤ ·) s s :=
  Inv.refl ((sep_iff_ge s k).1 h)

theorem inv_of_closed {s : Store} (hc : Closed s) : Inv (s.n ≤ ·) s s :=
  inv_hi_of_sep (closed_iff_sep.1 hc)

theorem inv_modify {Q : Nat → Prop} {s0 st : Store} (j : Nat) (f : Cell → Cell)
    (h : Inv Q s0 st) (hj : Q j) (hf : ∀ c, st.cell? j = some c → LinkOK Q j (f c)) :
    Inv Q s0 (st.modify j f) := by
  refine ⟨fun i c hc => ?_, fun i hi => ?_⟩
  · rw [Store.cell?_modify] at hc
    split at hc
    · next e =>
      subst e
      obtain ⟨c0, h0, rfl⟩ := Option.map_eq_some_iff.1 hc
      exact hf c0 h0
    · exact h.1 i c hc
  · rw [Store.cell?_modify, if_neg fun e : j = i => hi (e ▸ hj)]
    exact h.2 i hi

theorem inv_eraseChild {Q : Nat → Prop} {s0 st : Store} (j v : Nat) (h : Inv Q s0 st) (hj : Q j) :
    Inv Q s0 (st.modify j fun c => { c with children := c.children.erase v }) :=
  inv_modify j _ h hj fun c hc =>
    ⟨(h.1 j c hc).1, fun ch hch => (h.1 j c hc).2 ch (List.mem_of_mem_erase hch)⟩

theorem inv_setParentField {Q : Nat → Prop} {s0 st : Store} (j : Nat) (p : Option Nat)
    (h : Inv Q s0 st) (hj : Q j) (hp : ∀ q, p = some q → Q q) :
    Inv Q s0 (st.modify j fun c => { c with parent := p }) :=
  inv_modify j _ h hj fun c hc => ⟨fun q hq => iff_of_true hj (hp q hq), (h.1 j c hc).2⟩

theorem inv_appendChild {Q : Nat → Prop} {s0 st : Store} (j v : Nat)
    (h : Inv Q s0 st) (hj : Q j) (hv : Q v) :
    Inv Q s0 (st.modify j fun c => { c with children := c.children ++ [v] }) :=
  inv_modify j _ h hj fun c hc => ⟨(h.1 j c hc).1, fun ch hch => by
    rcases List.mem_append.1 hch with h1 | h1
    · exact (h.1 j c hc).2 ch h1
    · rw [List.mem_singleton.1 h1]
      exact iff_of_true hj hv⟩

theorem inv_payload {Q : Nat → Prop} {s0 st : Store} (j : Nat) (f : Cell → Cell)
    (h : Inv Q s0 st) (hj : Q j)
    (hf : ∀ c, (f c).parent = c.parent ∧ (f c).children = c.children) :
    Inv Q s0 (st.modify j f) :=
  inv_modify j _ h hj fun c hc => by
    unfold LinkOK
    rw [(hf c).1, (hf c).2]
    exact h.1 j c hc

/-! ## the mutators preserve the invariant -/

theorem inv_setParent {Q : Nat → Prop} {s0 st : Store} (v : Nat) (p : Option Nat)
    (h : Inv Q s0 st) (hv : Q v) (hp : ∀ q, p = some q → Q q) :
    Inv Q s0 (setParent st v p) := by
  unfold setParent
  cases hcv : st.cell? v with
  | none => exact h
  | some cv =>
    have h1 : Inv Q s0 (match cv.parent with
        | none => st
        | some cp => st.modify cp fun c => { c with children := c.children.erase v }) := by
      cases hcp : cv.parent with
      | none => exact h
      | some cp => exact inv_eraseChild cp v h (((h.1 v cv hcv).1 cp hcp).1 hv)
    have h2 := inv_setParentField v p h1 hv hp
    cases p with
    | none => exact h2
    | some q =>
      simp only
      split
      · exact h
      · exact inv_appendChild q v h2 (hp q rfl) hv

/-- `v.parent = None` -/
theorem inv_detach {Q : Nat → Prop} {s0 st : Store} (v : Nat) (h : Inv Q s0 st) (hv : Q v) :
    Inv Q s0 (setParent st v none) :=
  inv_setParent v none h hv nofun

theorem inv_dropChild {Q : Nat → Prop} {s0 st : Store} (c : Nat) (h : Inv Q s0 st) (hc : Q c) :
    Inv Q s0 (dropChild st c) := by
  unfold dropChild
  cases hp : st.parentOf c with
  | none => exact h
  | some p =>
    exact inv_setParentField c none (inv_eraseChild p c h (sepQ_parent h.1 hp hc)) hc nofun

theorem inv_delChildren {Q : Nat → Prop} {s0 st : Store} (v : Nat) (h : Inv Q s0 st) (hv : Q v) :
    Inv Q s0 (delChildren st v) :=
  List.foldlRecOn _ dropChild h fun _ h' c hc => inv_dropChild c h' (sepQ_children h.1 hv c hc)

theorem inv_step {Q : Nat → Prop} {s0 st : Store} (op : Op) (h : Inv Q s0 st)
    (ha : ∀ a ∈ op.args, Q a) : Inv Q s0 (step st op) := by
  cases op with
  | setParent v p =>
    cases p with
    | none => exact inv_detach v h (ha v List.mem_cons_self)
    | some q =>
      exact inv_setParent v (some q) h (ha v List.mem_cons_self) fun _ e =>
        Option.some.inj e ▸ ha q (List.mem_cons_of_mem _ List.mem_cons_self)
  | delChildren v => exact inv_delChildren v h (ha v List.mem_cons_self)
  | setAttr v k x => exact inv_payload v _ h (ha v List.mem_cons_self) fun _ => ⟨rfl, rfl⟩
  | setName v nm => exact inv_payload v _ h (ha v List.mem_cons_self) fun _ => ⟨rfl, rfl⟩

theorem inv_run {Q : Nat → Prop} {s0 : Store} (ops : List Op) (st : Store) (h : Inv Q s0 st)
    (ha : ∀ op ∈ ops, ∀ a ∈ op.args, Q a) : Inv Q s0 (run st ops) :=
  List.foldlRecOn ops step h fun _ h op hop => inv_step op h (ha op hop)

/-! ## the mutators keep the size -/

theorem n_setParent (s : Store) (v : Nat) (p : Option Nat) : (setParent s v p).n = s.n := by
  unfold setParent
  cases s.cell? v with
  | none => rfl
  | some cv =>
    rcases cv with ⟨par, chs, nm, av⟩
    cases p with
    | none => cases par <;> simp
    | some q =>
      simp only
      split
      · rfl
      · cases par <;> simp

theorem n_dropChild (s : Store) (c : Nat) : (dropChild s c).n = s.n := by
  unfold dropChild
  cases s.parentOf c <;> simp

theorem n_delChildren (s : Store) (v : Nat) : (delChildren s v).n = s.n :=
  List.foldlRecOn (motive := (·.n = s.n)) _ dropChild rfl fun st h c _ => (n_dropChild st c).trans h

theorem n_step (s : Store) (op : Op) : (step s op).n = s.n := by
  cases op with
  | setParent v p => exact n_setParent s v p
  | delChildren v => exact n_delChildren s v
  | setAttr v k x => exact Store.n_modify s v _
  | setName v nm => exact Store.n_modify s v _

/-! ## an operation on an id outside the store does nothing; `Closed` is preserved -/

theorem step_of_arg_ge (s : Store) (op : Op) {a : Nat} (ha : a ∈ op.args) (h : s.n ≤ a) :
    step s op = s := by
  cases op with
  | setParent v p =>
    show setParent s v p = s
    unfold setParent
    cases hcv : s.cell? v with
    | none => rfl
    | some cv =>
      have hv := Nat.not_le.2 (Store.cell?_lt hcv)
      cases p with
      | none => exact absurd (List.mem_singleton.1 ha ▸ h) hv
      | some q =>
        rcases List.mem_cons.1 ha with rfl | ha
        · exact absurd h hv
        · rw [List.mem_singleton.1 ha] at h
          simp only [Store.cell?_ge s q h, Option.isNone_none, Bool.true_or, if_true]
  | delChildren v =>
    show delChildren s v = s
    unfold delChildren Store.childrenOf
    rw [Store.cell?_ge s v (List.mem_singleton.1 ha ▸ h)]
    rfl
  | setAttr v k x => exact Store.modify_of_ge s v _ (List.mem_singleton.1 ha ▸ h)
  | setName v nm => exact Store.modify_of_ge s v _ (List.mem_singleton.1 ha ▸ h)

theorem closed_step {s : Store} (hc : Closed s) (op : Op) : Closed (step s op) := by
  by_cases h : ∃ a ∈ op.args, s.n ≤ a
  · obtain ⟨a, ha, hn⟩ := h
    rw [step_of_arg_ge s op ha hn]
    exact hc
  · rw [closed_iff_sep, n_step]
    exact (inv_step op (Inv.refl (closed_iff_sep.1 hc)) fun a ha =>
      Nat.lt_of_not_le fun hn => h ⟨a, ha, hn⟩).1

/-! ## `alloc` -/

theorem alloc_n (s : Store) (nm : Str) (a : Attrs) : (alloc s nm a).1.n = s.n + 1 :=
  List.length_append

theorem alloc_snd (s : Store) (nm : Str) (a : Attrs) : (alloc s nm a).2 = s.n := rfl

theorem alloc_cell_n (s : Store) (nm : Str) (a : Attrs) :
    (alloc s nm a).1.cell? s.n = some ⟨none, [], nm, a⟩ :=
  List.getElem?_concat_length

theorem alloc_cell_ne (s : Store) (nm : Str) (a : Attrs) (i : Nat) (h : i ≠ s.n) :
    (alloc s nm a).1.cell? i = s.cell? i := by
  rcases Nat.lt_or_gt_of_ne h with e | e
  · exact List.getElem?_append_left e
  · rw [Store.cell?_ge _ _ (Nat.le_of_lt e), Store.cell?_ge _ _ (by rw [alloc_n]; exact e)]

theorem sepQ_alloc {Q : Nat → Prop} {s : Store} (nm : Str) (a : Attrs) (h : SepQ s Q) :
    SepQ (alloc s nm a).1 Q := by
  intro i c hc
  by_cases e : i = s.n
  · rw [e, alloc_cell_n] at hc
    cases hc
    exact ⟨nofun, nofun⟩
  · rw [alloc_cell_ne _ _ _ _ e] at hc
    exact h i c hc

theorem inv_alloc {Q : Nat → Prop} {s0 st : Store} (nm : Str) (a : Attrs)
    (h : Inv Q s0 st) (hn : Q st.n) : Inv Q s0 (alloc st nm a).1 :=
  ⟨sepQ_alloc nm a h.1, fun i hi =>
    (alloc_cell_ne _ _ _ _ fun e : i = st.n => hi (e ▸ hn)).trans (h.2 i hi)⟩

theorem closed_alloc {s : Store} (hc : Closed s) (nm : Str) (a : Attrs) :
    Closed (alloc s nm a).1 := by
  rw [closed_iff_sep, alloc_n]
  exact sepQ_alloc nm a (sepQ_of_closed hc fun _ hi => Nat.lt_succ_of_lt hi)

/-! ## `deepCopy` -/

theorem deepCopy_n (s : Store) (v : Nat) : (deepCopy s v).1.n = s.n + s.n := by
  simp [deepCopy, Store.n]

theorem deepCopy_snd (s : Store) (v : Nat) : (deepCopy s v).2 = v + s.n := rfl

theorem deepCopy_cell_lo (s : Store) (v i : Nat) (h : i < s.n) :
    (deepCopy s v).1.cell? i = s.cell? i :=
  List.getElem?_append_left h

theorem deepCopy_cell_hi (s : Store) (v j : Nat) :
    (deepCopy s v).1.cell? (j + s.n) = (s.cell? j).map (shiftCell s.n) := by
  unfold deepCopy Store.cell? Store.n
  rw [List.getElem?_append_right (Nat.le_add_left _ _), Nat.add_sub_cancel, List.getElem?_map]

/-- the copy is separated by `Q` when the store is, read at its own ids and at the shifted ids -/
theorem sepQ_deepCopy {Q : Nat → Prop} {s : Store} (v : Nat) (h : SepQ s Q)
    (h' : SepQ s fun i => Q (i + s.n)) : SepQ (deepCopy s v).1 Q := by
  intro i c hc
  by_cases e : i < s.n
  · rw [deepCopy_cell_lo s v i e] at hc
    exact h i c hc
  · obtain ⟨j, rfl⟩ : ∃ j, i = j + s.n := ⟨i - s.n, (Nat.sub_add_cancel (Nat.not_lt.1 e)).symm⟩
    rw [deepCopy_cell_hi] at hc
    obtain ⟨c0, h0, rfl⟩ := Option.map_eq_some_iff.1 hc
    refine ⟨fun p hp => ?_, fun ch hch => ?_⟩
    · obtain ⟨p0, hp0, rfl⟩ := Option.map_eq_some_iff.1 hp
      exact (h' j c0 h0).1 p0 hp0
    · obtain ⟨c1, hc1, rfl⟩ := List.mem_map.1 hch
      exact (h' j c0 h0).2 c1 hc1

theorem inv_deepCopy {k : Nat} {s0 s : Store} (v : Nat) (h : Inv (k ≤ ·) s0 s) (hk : k ≤ s.n) :
    Inv (k ≤ ·) s0 (deepCopy s v).1 :=
  ⟨sepQ_deepCopy v h.1 (sepQ_of_forall fun _ => Nat.le_trans hk (Nat.le_add_left _ _)),
    fun i hi => (deepCopy_cell_lo s v i (Nat.lt_of_lt_of_le (Nat.not_le.1 hi) hk)).trans (h.2 i hi)⟩

theorem closed_deepCopy (s : Store) (v : Nat) (hc : Closed s) : Closed (deepCopy s v).1 := by
  rw [closed_iff_sep, deepCopy_n]
  exact sepQ_deepCopy v (sepQ_of_closed hc fun _ hi => Nat.lt_add_right _ hi)
    (sepQ_of_closed hc fun _ hi => Nat.add_lt_add_right hi _)

theorem shiftIdsL_eq_map (k : Nat) : ∀ ts : List Tree, shiftIdsL k ts = ts.map (shiftIds k)
  | [] => rfl
  | t :: ts => congrArg (shiftIds k t :: ·) (shiftIdsL_eq_map k ts)

theorem toTree_deepCopy (s : Store) (v0 : Nat) (f : Nat) :
    ∀ v, toTree (deepCopy s v0).1 f (v + s.n) = shiftIds s.n (toTree s f v) := by
  induction f with
  | zero => exact fun _ => rfl
  | succ f ih =>
    intro v
    rw [toTree, deepCopy_cell_hi, toTree]
    cases s.cell? v with
    | none => rfl
    | some c =>
      show Tree.node _ _ _ ((c.children.map (· + s.n)).map _) = .node _ _ _ (shiftIdsL _ _)
      rw [shiftIdsL_eq_map, List.map_map, List.map_map]
      exact congrArg _ (List.map_congr_left fun ch _ => ih ch)

end CopyStore
