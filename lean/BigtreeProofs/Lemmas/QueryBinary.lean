import BigtreeModel.Query
import BigtreeProofs.Lemmas.QueryProps
/-! Helper lemmas for C12: BinaryNode (two slots, possibly empty) against its generic view. -/

namespace Query

theorem toTrees_nil : BTree.nil.toTrees = [] := rfl

theorem toTrees_node (i : Nat) (n : Str) (a : Attrs) (l r : BTree) :
    (BTree.node i n a l r).toTrees = [.node i n a (l.toTrees ++ r.toTrees)] := rfl

theorem toTrees_eq_nil_iff (b : BTree) : b.toTrees = [] ↔ b = .nil := by
  cases b <;> simp [BTree.toTrees]

theorem isLeafB_node (i : Nat) (n : Str) (a : Attrs) (l r : BTree) :
    isLeafB (.node i n a l r) = (l.toTrees ++ r.toTrees).isEmpty := by
  cases l <;> cases r <;> rfl

theorem eq_node_of_toTrees {b : BTree} {t : Tree} (h : b.toTrees = [t]) :
    ∃ i n a l r, b = .node i n a l r ∧ t = .node i n a (l.toTrees ++ r.toTrees) := by
  cases b with
  | nil => cases h
  | node i n a l r => exact ⟨i, n, a, l, r, rfl, (List.singleton_inj.1 h).symm⟩

theorem recDiamB_eq : ∀ (b : BTree) (t : Tree), b.toTrees = [t] → ∀ d, recDiamB d b = recDiam d t := by
  intro b
  induction b with
  | nil => intro t h; cases h
  | node i n a l r ihl ihr =>
    intro t h d
    cases List.singleton_inj.1 h
    cases l with
    | nil =>
      cases r with
      | nil => rfl
      | node i2 n2 a2 l2 r2 =>
        simp only [recDiamB, ihr _ rfl]
        rfl
    | node i1 n1 a1 l1 r1 =>
      cases r with
      | nil =>
        simp only [recDiamB, ihl _ rfl]
        rfl
      | node i2 n2 a2 l2 r2 =>
        simp only [recDiamB, ihl _ rfl, ihr _ rfl]
        rfl

end Query
