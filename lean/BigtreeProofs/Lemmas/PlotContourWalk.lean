import BigtreeModel.Plot
import BigtreeProofs.Lemmas.Plot
import BigtreeProofs.Lemmas.PlotContourLevels
/-!
# The walks of `_get_subtree_shift` against the true contours

* heights and walk lengths of shapes (`Sk.height`, `Sk.rwalk`, `Sk.lwalk`): a walk is never longer
  than the subtree is high; a level of the annotated tree is non-empty exactly below the height;
* `scanLeft` / `scanRight` find the node that carries the next level of the walk: the walk length of
  the sibling group is the walk length of the scanned node, and the next level of the scanned node is a
  suffix / prefix of the next level of the whole group.
-/

namespace Plot

/-! ## heights -/

theorem Sk.height_pos (t : Sk) : 1 ≤ t.height := by
  cases t; rw [Sk.height]; exact Nat.le_add_right 1 _

theorem Sk.heightL_le_iff {n : Nat} {cs : List Sk} : Sk.heightL cs ≤ n ↔ ∀ c ∈ cs, c.height ≤ n := by
  induction cs with
  | nil => exact ⟨fun _ _ hc => (nomatch hc), fun _ => Nat.zero_le n⟩
  | cons c cs ih => rw [Sk.heightL, Nat.max_le, List.forall_mem_cons, ih]

theorem Sk.height_le_heightL {c : Sk} {cs : List Sk} (h : c ∈ cs) : c.height ≤ Sk.heightL cs :=
  Sk.heightL_le_iff.mp (Nat.le_refl _) c h

/-- the induction step shared by `plv_eq_nil_iff` and `flv_eq_nil_iff` -/
theorem flv_eq_nil_iff_of {ks : List PT} {c : Rat} {n : Nat}
    (h : ∀ k ∈ ks, plv c k n = [] ↔ k.sk.height ≤ n) :
    flv c ks n = [] ↔ Sk.heightL (ks.map PT.sk) ≤ n := by
  rw [flv_eq_flatMap, List.flatMap_eq_nil_iff, Sk.heightL_le_iff, List.forall_mem_map]
  exact forall_congr' fun k => forall_congr' fun hk => h k hk

theorem plv_eq_nil_iff : ∀ (t : PT) (c : Rat) (n : Nat), plv c t n = [] ↔ t.sk.height ≤ n := by
  apply PT.ind
  intro x m s cs ih c n
  rw [PT.sk_node, Sk.height]
  cases n with
  | zero =>
    rw [plv, Nat.add_comm]
    exact ⟨fun h => (nomatch h), fun h => absurd h (Nat.not_succ_le_zero _)⟩
  | succ n => rw [plv, flv_eq_nil_iff_of fun k hk => ih k hk _ n, Nat.add_comm n 1, Nat.add_le_add_iff_left]

theorem flv_eq_nil_iff (ks : List PT) (c : Rat) (n : Nat) :
    flv c ks n = [] ↔ Sk.heightL (ks.map PT.sk) ≤ n :=
  flv_eq_nil_iff_of fun k _ => plv_eq_nil_iff k c n

theorem flv_ne_nil {ks : List PT} {n : Nat} (h : n < Sk.heightL (ks.map PT.sk)) (c : Rat) : flv c ks n ≠ [] :=
  fun h0 => Nat.not_le_of_lt h ((flv_eq_nil_iff ks c n).mp h0)

theorem mem_plv_height {t : PT} {c : Rat} {n : Nat} {p : Rat} (h : p ∈ plv c t n) : n < t.sk.height :=
  Nat.lt_of_not_le fun hle => List.ne_nil_of_mem h ((plv_eq_nil_iff t c n).mpr hle)

theorem PT.height_eq_sk : ∀ t : PT, t.height = t.sk.height := by
  apply PT.ind
  intro x m s cs ih
  rw [PT.sk_node, Sk.height, PT.height]
  congr 1
  induction cs with
  | nil => rfl
  | cons c cs ihc =>
    rw [List.forall_mem_cons] at ih
    rw [PT.height.heightL, List.map_cons, Sk.heightL, ih.1, ihc ih.2]

/-! ## the walks are not longer than the subtrees are high -/

theorem PT.rwalk_sk (t : PT) : t.sk.rwalk = 1 + Sk.rwalkL (t.children.map PT.sk) := by
  rw [PT.sk_eq, Sk.rwalk]

theorem PT.lwalk_sk (t : PT) : t.sk.lwalk = 1 + Sk.lwalkL (t.children.map PT.sk) := by
  rw [PT.sk_eq, Sk.lwalk]

theorem Sk.rwalkL_le (cs : List Sk) : Sk.rwalkL cs ≤ Sk.heightL cs :=
  @Sk.rec_1 (fun t => t.rwalk ≤ t.height) (fun cs => Sk.rwalkL cs ≤ Sk.heightL cs)
    (fun cs h => by rw [Sk.rwalk, Sk.height]; exact Nat.add_le_add_left h 1)
    (by rw [Sk.rwalkL]; exact Nat.zero_le _)
    (fun c cs h1 h2 => by
      rw [Sk.rwalkL, Sk.heightL]
      split
      · exact Nat.le_trans h2 (Nat.le_max_right _ _)
      · exact Nat.le_trans h1 (Nat.le_max_left _ _)) cs

theorem Sk.lwalkL_le (cs : List Sk) : Sk.lwalkL cs ≤ Sk.heightL cs :=
  @Sk.rec_1 (fun t => t.lwalk ≤ t.height) (fun cs => Sk.lwalkL cs ≤ Sk.heightL cs)
    (fun cs h => by rw [Sk.lwalk, Sk.height]; exact Nat.add_le_add_left h 1)
    (by rw [Sk.lwalkL]; exact Nat.zero_le _)
    (fun c cs h1 h2 => by
      rw [Sk.lwalkL, Sk.heightL]
      split
      · exact Nat.le_trans h1 (Nat.le_max_left _ _)
      · exact Nat.le_trans h2 (Nat.le_max_right _ _)) cs

/-! ## `scanLeft` / `scanRight` find the node that carries the next level of the walk -/

theorem PT.hasKids_sk (t : PT) : t.sk.hasKids = !t.children.isEmpty := by
  rw [PT.sk_eq, Sk.hasKids, List.isEmpty_map]

theorem Sk.rwalkL_snoc_kids (x : Sk) (hx : x.hasKids = true) (A : List Sk) :
    Sk.rwalkL (A ++ [x]) = x.rwalk := by
  induction A with
  | nil => rw [List.nil_append, Sk.rwalkL, List.any_nil, if_neg Bool.false_ne_true]
  | cons a A ih =>
    rw [List.cons_append, Sk.rwalkL, if_pos (by rw [List.any_append, List.any_cons, hx]; simp), ih]

theorem Sk.rwalkL_snoc_leaf (x : Sk) (hx : x.hasKids = false) (A : List Sk) (hA : A ≠ []) :
    Sk.rwalkL (A ++ [x]) = Sk.rwalkL A := by
  induction A with
  | nil => exact absurd rfl hA
  | cons a A ih =>
    have hany : (A ++ [x]).any Sk.hasKids = A.any Sk.hasKids := by
      rw [List.any_append, List.any_cons, hx, List.any_nil, Bool.or_false, Bool.or_false]
    rw [List.cons_append, Sk.rwalkL, Sk.rwalkL, hany]
    split
    · next h => exact ih (by rintro rfl; exact Bool.false_ne_true h)
    · rfl

/-- the group is `lsibs` nearest first, then `cur` -/
theorem rwalk_scanLeft (lsibs : List PT) : ∀ cur : PT,
    Sk.rwalkL ((lsibs.reverse ++ [cur]).map PT.sk) = (scanLeft cur lsibs).sk.rwalk := by
  induction lsibs with
  | nil =>
    intro cur
    rw [scanLeft, List.reverse_nil, List.nil_append, List.map_singleton, Sk.rwalkL, List.any_nil,
      if_neg Bool.false_ne_true]
  | cons l ls ih =>
    intro cur
    have hk := PT.hasKids_sk cur
    rw [scanLeft, List.map_append, List.map_singleton]
    split
    · next h =>
      rw [h] at hk
      rw [← ih l, List.reverse_cons, Sk.rwalkL_snoc_leaf _ hk _ (by simp)]
    · next h =>
      rw [Bool.not_eq_true] at h
      rw [h] at hk
      exact Sk.rwalkL_snoc_kids _ hk _

theorem lwalk_scanRight (rsibs : List PT) : ∀ cur : PT,
    Sk.lwalkL ((cur :: rsibs).map PT.sk) = (scanRight cur rsibs).sk.lwalk := by
  induction rsibs with
  | nil =>
    intro cur
    rw [scanRight, List.map_singleton, Sk.lwalkL, List.isEmpty_nil, Bool.or_true, if_pos rfl]
  | cons r rs ih =>
    intro cur
    have hk := PT.hasKids_sk cur
    rw [scanRight]
    split
    · next h =>
      rw [h, Bool.not_true] at hk
      rw [← ih r, List.map_cons, Sk.lwalkL, hk, List.map_cons, List.isEmpty_cons, Bool.or_false,
        if_neg Bool.false_ne_true]
    · next h =>
      rw [Bool.not_eq_true] at h
      rw [h, Bool.not_false] at hk
      rw [List.map_cons, Sk.lwalkL, hk, Bool.true_or, if_pos rfl]

theorem flv_scanLeft (c : Rat) (n : Nat) (lsibs : List PT) : ∀ cur : PT,
    ∃ pre, flv c (lsibs.reverse ++ [cur]) (n + 1) = pre ++ plv c (scanLeft cur lsibs) (n + 1) := by
  induction lsibs with
  | nil =>
    intro cur
    refine ⟨[], ?_⟩
    rw [scanLeft, List.reverse_nil, List.nil_append, flv, flv, List.append_nil, List.nil_append]
  | cons l ls ih =>
    intro cur
    rw [scanLeft, flv_append, flv, flv, List.append_nil]
    split
    · next h =>
      obtain ⟨pre, hpre⟩ := ih l
      rw [List.reverse_cons, hpre, plv_succ c cur, List.isEmpty_iff.mp h, flv, List.append_nil]
      exact ⟨pre, rfl⟩
    · exact ⟨_, rfl⟩

theorem flv_scanRight (c : Rat) (n : Nat) (rsibs : List PT) : ∀ cur : PT,
    ∃ post, flv c (cur :: rsibs) (n + 1) = plv c (scanRight cur rsibs) (n + 1) ++ post := by
  induction rsibs with
  | nil => exact fun cur => ⟨[], by rw [scanRight, flv, flv]⟩
  | cons r rs ih =>
    intro cur
    rw [scanRight, flv]
    split
    · next h =>
      obtain ⟨post, hpost⟩ := ih r
      rw [hpost, plv_succ c cur, List.isEmpty_iff.mp h, flv, List.nil_append]
      exact ⟨post, rfl⟩
    · exact ⟨_, rfl⟩

end Plot
