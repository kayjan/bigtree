import BigtreeProofs.Lemmas.DiffDefs
/-!
# C15 (get_tree_diff): marks (`relabel`, `markFull`, suffixes, `unmark`) and attribute comparison
-/
namespace Helper

/-! ## relabel -/

@[simp] theorem relabel_nil (fn : List Str → Str → Str) (anc : List Str) : relabel fn anc [] = [] := rfl

@[simp] theorem relabel_cons (fn : List Str → Str → Str) (anc : List Str) (n : Str) (q : List Str) :
    relabel fn anc (n :: q) = fn (anc ++ [n]) n :: relabel fn (anc ++ [n]) q := rfl

theorem relabel_length (fn : List Str → Str → Str) (anc q : List Str) :
    (relabel fn anc q).length = q.length := by
  induction q generalizing anc with
  | nil => rfl
  | cons n q ih => rw [relabel_cons, List.length_cons, ih, List.length_cons]

theorem relabel_append (fn : List Str → Str → Str) (anc q r : List Str) :
    relabel fn anc (q ++ r) = relabel fn anc q ++ relabel fn (anc ++ q) r := by
  induction q generalizing anc with
  | nil => rw [List.nil_append, relabel_nil, List.nil_append, List.append_nil]
  | cons n q ih => rw [List.cons_append, relabel_cons, ih, relabel_cons, List.cons_append,
      List.append_assoc, List.singleton_append]

theorem relabel_take (fn : List Str → Str → Str) (anc q : List Str) (k : Nat) :
    (relabel fn anc q).take k = relabel fn anc (q.take k) := by
  induction q generalizing anc k with
  | nil => rw [List.take_nil, relabel_nil, List.take_nil]
  | cons n q ih =>
    cases k with
    | zero => rfl
    | succ k => rw [relabel_cons, List.take_succ_cons, ih, List.take_succ_cons, relabel_cons]

theorem relabel_congr_prefix (fn gn : List Str → Str → Str) (anc q : List Str)
    (h : ∀ r n, r ++ [n] <+: q → fn (anc ++ (r ++ [n])) n = gn (anc ++ (r ++ [n])) n) :
    relabel fn anc q = relabel gn anc q := by
  induction q generalizing anc with
  | nil => rfl
  | cons m q ih =>
    have h0 : fn (anc ++ [m]) m = gn (anc ++ [m]) m := h [] m (List.cons_prefix_cons.mpr ⟨rfl, List.nil_prefix⟩)
    rw [relabel_cons, relabel_cons, h0, ih (anc ++ [m]) fun r n hr => ?_]
    have := h (m :: r) n (List.cons_prefix_cons.mpr ⟨rfl, hr⟩)
    rwa [List.cons_append, ← List.singleton_append, ← List.append_assoc] at this

theorem relabel_congr (fn gn : List Str → Str → Str) (anc q : List Str)
    (h : ∀ i, i < q.length →
      fn (anc ++ q.take (i + 1)) (q.getD i []) = gn (anc ++ q.take (i + 1)) (q.getD i [])) :
    relabel fn anc q = relabel gn anc q := by
  induction q generalizing anc with
  | nil => rfl
  | cons m q ih =>
    rw [relabel_cons, relabel_cons, ih (anc ++ [m]) fun i hi => ?_]
    · exact congrArg (· :: _) (h 0 (Nat.succ_pos _))
    · have := h (i + 1) (Nat.succ_lt_succ hi)
      rwa [List.take_succ_cons, List.getD_cons_succ, List.append_cons] at this

theorem relabel_eq_self (fn : List Str → Str → Str) (anc q : List Str) (h : ∀ r, ∀ n ∈ q, fn r n = n) :
    relabel fn anc q = q := by
  induction q generalizing anc with
  | nil => rfl
  | cons m q ih =>
    rw [relabel_cons, h _ m (List.mem_cons_self ..), ih _ fun r n hn => h r n (List.mem_cons_of_mem _ hn)]

theorem mem_relabel (fn : List Str → Str → Str) (anc q : List Str) (m : Str) (h : m ∈ relabel fn anc q) :
    ∃ r, ∃ n ∈ q, m = fn r n := by
  induction q generalizing anc with
  | nil => nomatch h
  | cons x q ih =>
    rcases List.mem_cons.mp h with rfl | h
    · exact ⟨_, x, List.mem_cons_self .., rfl⟩
    · obtain ⟨r, n, hn, e⟩ := ih _ h
      exact ⟨r, n, List.mem_cons_of_mem _ hn, e⟩

theorem map_relabel (g : Str → Str) (fn : List Str → Str → Str) (anc q : List Str) :
    (relabel fn anc q).map g = relabel (fun r n => g (fn r n)) anc q := by
  induction q generalizing anc with
  | nil => rfl
  | cons m q ih => rw [relabel_cons, List.map_cons, ih, relabel_cons]

/-- the outer function sees the relabelled prefix -/
theorem relabel_relabel (g f : List Str → Str → Str) (anc q : List Str) :
    relabel g (relabel f [] anc) (relabel f anc q) =
      relabel (fun r n => g (relabel f [] r) (f r n)) anc q := by
  induction q generalizing anc with
  | nil => rfl
  | cons m q ih =>
    have := ih (anc ++ [m])
    rw [relabel_append, List.nil_append, relabel_cons, relabel_nil] at this
    rw [relabel_cons, relabel_cons, this, relabel_cons, relabel_append, List.nil_append, relabel_cons,
      relabel_nil]

/-! ## markFull -/

theorem markFull_eq_relabel (st : List Str → Status) (p : List Str) :
    markFull st p = relabel (fun q n => n ++ (st q).suffix) [] p := by
  suffices h : ∀ anc, (List.range p.length).map (fun i => p.getD i [] ++ (st (anc ++ p.take (i + 1))).suffix) =
      relabel (fun q n => n ++ (st q).suffix) anc p from h []
  induction p with
  | nil => intro _; rfl
  | cons n p ih =>
    intro anc
    rw [relabel_cons, ← ih, List.length_cons, List.range_succ_eq_map, List.map_cons, List.map_map]
    simp only [List.getD_cons_zero, List.take_succ_cons, List.take_zero, Function.comp_def,
      List.getD_cons_succ, List.append_assoc, List.singleton_append]

theorem markFull_length (st : List Str → Status) (p : List Str) :
    (markFull st p).length = p.length := by
  rw [markFull_eq_relabel, relabel_length]

theorem prefix_markFull_iff (st : List Str → Status) (p m : List Str) :
    m <+: markFull st p ↔ ∃ p', p' <+: p ∧ m = markFull st p' := by
  simp only [markFull_eq_relabel]
  constructor
  · intro h
    exact ⟨p.take m.length, List.take_prefix _ _, relabel_take .. ▸ List.prefix_iff_eq_take.mp h⟩
  · rintro ⟨p', ⟨r, rfl⟩, rfl⟩
    rw [relabel_append]
    exact List.prefix_append _ _

theorem markFull_eq_nil (st : List Str → Status) (p : List Str) : markFull st p = [] ↔ p = [] := by
  rw [← List.length_eq_zero_iff, markFull_length, List.length_eq_zero_iff]

theorem markFull_concat (st : List Str → Status) (q : List Str) (n : Str) :
    markFull st (q ++ [n]) = markFull st q ++ [n ++ (st (q ++ [n])).suffix] := by
  simp only [markFull_eq_relabel, relabel_append, relabel_cons, relabel_nil, List.nil_append]

theorem mem_markFull (st : List Str → Status) (p : List Str) (m : Str) (h : m ∈ markFull st p) :
    ∃ n ∈ p, ∃ s : Status, m = n ++ s.suffix := by
  rw [markFull_eq_relabel] at h
  obtain ⟨r, n, hn, e⟩ := mem_relabel _ _ _ _ h
  exact ⟨n, hn, st r, e⟩

theorem markFull_congr (st st' : List Str → Status) (p : List Str)
    (h : ∀ k, 0 < k → k ≤ p.length → st (p.take k) = st' (p.take k)) :
    markFull st p = markFull st' p := by
  refine List.map_congr_left fun i hi => ?_
  have hi := List.mem_range.mp hi
  rw [h (i + 1) (Nat.succ_pos i) hi]

theorem markFull_same (st : List Str → Status) (p : List Str)
    (h : ∀ r, r <+: p → r ≠ [] → st r = .same) : markFull st p = p := by
  rw [markFull_eq_relabel, relabel_congr_prefix _ (fun _ n => n) [] p fun r n hr => ?_]
  · exact relabel_eq_self _ _ _ fun _ _ _ => rfl
  · rw [List.nil_append, h _ hr (List.append_ne_nil_of_right_ne_nil _ (List.cons_ne_nil _ _))]
    exact List.append_nil n

/-! ## marks as suffixes -/

theorem suffix_eq_nil_iff (s : Status) : s.suffix = [] ↔ s = .same := by
  cases s <;> decide

theorem suffix_length (s : Status) (h : s ≠ .same) : s.suffix.length = 4 := by
  cases s with
  | same => exact absurd rfl h
  | _ => rfl

theorem suffix_inj (s s' : Status) (h : s.suffix = s'.suffix) : s = s' := by
  cases s <;> cases s' <;> first | rfl | exact absurd h (by decide)

theorem not_mem_marked (c : Char) (n : Str) (s : Status) (hc : c ∉ [' ', '(', ')', '-', '+', '~'])
    (hn : c ∉ n) : c ∉ n ++ s.suffix := by
  have hs : ∀ x ∈ s.suffix, x ∈ [' ', '(', ')', '-', '+', '~'] := by cases s <;> decide
  exact fun h => (List.mem_append.mp h).elim hn fun h => hc (hs c h)

theorem endsWithMark_iff (n : Str) : endsWithMark n ↔ ∃ s : Status, s ≠ .same ∧ s.suffix <:+ n := by
  constructor
  · rintro (h | h | h)
    · exact ⟨.removed, by decide, h⟩
    · exact ⟨.added, by decide, h⟩
    · exact ⟨.changed, by decide, h⟩
  · rintro ⟨s, hs, h⟩
    cases s with
    | same => exact absurd rfl hs
    | removed => exact .inl h
    | added => exact .inr (.inl h)
    | changed => exact .inr (.inr h)

theorem suffix_suffix_iff (n : Str) (s s' : Status) (hs : s ≠ .same) (h : ¬ endsWithMark n) :
    s.suffix <:+ n ++ s'.suffix ↔ s' = s := by
  by_cases hs' : s' = .same
  · subst hs'
    exact ⟨fun hsuf => absurd ((endsWithMark_iff n).mpr ⟨s, hs, List.append_nil n ▸ hsuf⟩) h,
      fun e => absurd e.symm hs⟩
  · -- two marks have the same length, so a mark that ends `n ++ s'.suffix` is `s'.suffix`
    have hl := (suffix_length s hs).trans (suffix_length s' hs').symm
    exact ⟨fun ⟨_, ht⟩ => (suffix_inj _ _ (List.append_inj' ht hl).2).symm, fun e => e ▸ List.suffix_append _ _⟩

theorem markFull_good (c : Char) (st : List Str → Status) (p : List Str)
    (hc : c ∉ [' ', '(', ')', '-', '+', '~']) (hp : ∀ n ∈ p, n ≠ [] ∧ c ∉ n) :
    ∀ m ∈ markFull st p, m ≠ [] ∧ c ∉ m := by
  intro m hm
  obtain ⟨n, hn, s, rfl⟩ := mem_markFull st p m hm
  exact ⟨List.append_ne_nil_of_left_ne_nil (hp n hn).1 _, not_mem_marked c n s hc (hp n hn).2⟩

/-! ## unmark -/

theorem unmark1_unmarked (n : Str) (h : ¬ endsWithMark n) : unmark1 n = n := by
  unfold unmark1
  rw [if_neg]
  simpa [endsWithMark, List.isSuffixOf_iff_suffix, or_assoc, and_assoc] using h

theorem unmark1_marked (n : Str) (s : Status) (h : ¬ endsWithMark n) :
    unmark1 (n ++ s.suffix) = n := by
  by_cases hs : s = .same
  · subst hs
    exact (List.append_nil n).symm ▸ unmark1_unmarked n h
  · have hm : endsWithMark (n ++ s.suffix) := (endsWithMark_iff _).mpr ⟨s, hs, List.suffix_append _ _⟩
    unfold unmark1
    rw [if_pos (by simpa [endsWithMark, List.isSuffixOf_iff_suffix, or_assoc] using hm),
      List.length_append, suffix_length s hs, Nat.add_sub_cancel, List.take_left]

theorem marked_inj (n n' : Str) (s s' : Status) (h : ¬ endsWithMark n) (h' : ¬ endsWithMark n')
    (he : n ++ s.suffix = n' ++ s'.suffix) : n = n' ∧ s = s' := by
  have hn : n = n' := by rw [← unmark1_marked n s h, he, unmark1_marked n' s' h']
  subst hn
  exact ⟨rfl, suffix_inj _ _ (List.append_cancel_left he)⟩

theorem unmark_markFull (st : List Str → Status) (p : List Str) (h : ∀ n ∈ p, ¬ endsWithMark n) :
    unmark (markFull st p) = p := by
  rw [unmark, markFull_eq_relabel, map_relabel]
  exact relabel_eq_self _ _ _ fun r n hn => unmark1_marked n _ (h n hn)

theorem markFull_inj (st : List Str → Status) (p q : List Str) (hp : ∀ n ∈ p, ¬ endsWithMark n)
    (hq : ∀ n ∈ q, ¬ endsWithMark n) (h : markFull st p = markFull st q) : p = q := by
  rw [← unmark_markFull st p hp, ← unmark_markFull st q hq, h]

/-! ## attribute comparison -/

theorem changedAttrs_eq_nil_iff (attrList : List Str) (a1 a2 : Attrs) :
    changedAttrs attrList a1 a2 = [] ↔ ∀ k ∈ attrList, getAttr a1 k = getAttr a2 k := by
  simp [changedAttrs, List.filterMap_eq_nil_iff]

theorem changedAttrs_ne_nil_iff (attrList : List Str) (a1 a2 : Attrs) :
    changedAttrs attrList a1 a2 ≠ [] ↔ ∃ k ∈ attrList, getAttr a1 k ≠ getAttr a2 k := by
  rw [Ne, changedAttrs_eq_nil_iff]
  simp

end Helper
