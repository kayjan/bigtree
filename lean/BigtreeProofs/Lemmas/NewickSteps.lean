import BigtreeModel.Newick
/-! Helper lemmas for C06 (Newick): the parser loop with exactly enough fuel (`go`), one pass of it
on each of the eight constants and on any other character, reading `_serialize(text)`.
Core Lean only. -/

namespace Newick
open Export

/-! ### fuel -/

theorem run_nil (c : Chars) (la pre : Str) (f : Nat) (s : PState) : run c la pre f s [] = some s := by
  cases f <;> rfl

theorem run_fuel (c : Chars) (la pre : Str) : ∀ (f g : Nat) (s : PState) (inp : Str),
    inp.length ≤ f → inp.length ≤ g → run c la pre f s inp = run c la pre g s inp := by
  intro f
  induction f with
  | zero =>
    intro g s inp h _
    rw [List.eq_nil_of_length_eq_zero (Nat.le_zero.mp h), run_nil, run_nil]
  | succ f ih =>
    intro g s inp hf hg
    cases inp with
    | nil => rw [run_nil, run_nil]
    | cons ch rest =>
      cases g with
      | zero => simp at hg
      | succ g =>
        simp only [run]
        cases step c la pre s ch rest with
        | none => rfl
        | some p =>
          have hl : (rest.drop p.2).length ≤ rest.length := by rw [List.length_drop]; exact Nat.sub_le _ _
          exact ih g p.1 _ (Nat.le_trans hl (Nat.le_of_succ_le_succ hf)) (Nat.le_trans hl (Nat.le_of_succ_le_succ hg))

/-- the parser loop with exactly enough fuel -/
def go (c : Chars) (la pre : Str) (s : PState) (inp : Str) : Option PState := run c la pre inp.length s inp

theorem go_nil (c : Chars) (la pre : Str) (s : PState) : go c la pre s [] = some s := rfl

theorem go_cons (c : Chars) (la pre : Str) (s : PState) (ch : Char) (rest : Str) :
    go c la pre s (ch :: rest) =
      match step c la pre s ch rest with
      | none => none
      | some (s', k) => go c la pre s' (rest.drop k) := by
  unfold go
  simp only [List.length_cons, run]
  cases step c la pre s ch rest with
  | none => rfl
  | some p => exact run_fuel c la pre _ _ p.1 _ (by rw [List.length_drop]; exact Nat.sub_le _ _) (Nat.le_refl _)

theorem go_step {c : Chars} {la pre : Str} {s s' : PState} {ch : Char} {rest : Str} {k : Nat}
    (h : step c la pre s ch rest = some (s', k)) : go c la pre s (ch :: rest) = go c la pre s' (rest.drop k) := by
  rw [go_cons, h]

/-- a pass that skips nothing, on a constant `ch` that the writer emits as the literal `x` -/
theorem go_lit {c : Chars} {la pre : Str} {s s' : PState} {ch x : Char} {rest : Str} (hx : ch = x)
    (h : step c la pre s ch rest = some (s', 0)) : go c la pre s (x :: rest) = go c la pre s' rest :=
  hx ▸ go_step h

/-! ### updates of `depth_nodes` -/

theorem upd_same (dn : Int → List Tree) (k : Int) (l : List Tree) : upd dn k l k = l := by simp [upd]

theorem upd_other (dn : Int → List Tree) (k j : Int) (l : List Tree) (h : j ≠ k) : upd dn k l j = dn j := by
  simp [upd, h]

theorem upd_self_eq (dn : Int → List Tree) (k : Int) (l : List Tree) (h : dn k = l) : upd dn k l = dn := by
  funext j
  by_cases hj : j = k
  · subst hj; simp [upd, h]
  · simp [upd, hj]

theorem upd_upd (dn : Int → List Tree) (k : Int) (l l' : List Tree) : upd (upd dn k l) k l' = upd dn k l' := by
  funext j
  by_cases hj : j = k <;> simp [upd, hj]

theorem upd_comm (dn : Int → List Tree) (k k' : Int) (l l' : List Tree) (h : k ≠ k') :
    upd (upd dn k l) k' l' = upd (upd dn k' l') k l := by
  funext j
  by_cases hj : j = k
  · subst hj; simp [upd, h]
  · by_cases hj' : j = k'
    · subst hj'; simp [upd, hj]
    · simp [upd, hj, hj']

/-! ### the eight constants: pairwise distinct, and the writer's punctuation -/

namespace Chars

/-- the entries at two different places `i`, `j` of `NewickCharacter.values()`; which entries these
    are is read off the inequality asked for -/
theorem ne_of_nodup (c : Chars) (h : c.values.Nodup) (i j : Nat) {x y : Char} (hx : c.values[i]? = some x := by rfl)
    (hy : c.values[j]? = some y := by rfl) (hij : i ≠ j := by decide) : x ≠ y := by
  rintro rfl
  exact hij ((List.getElem?_inj (List.getElem?_eq_some_iff.1 hx).1 h).1 (hx.trans hy.symm))

theorem sep_ne (c : Chars) (hc : c.values.Nodup) :
    c.sep ≠ c.openB ∧ c.sep ≠ c.closeB ∧ c.sep ≠ c.attrStart ∧ c.sep ≠ c.attrEnd ∧ c.sep ≠ c.keyValue ∧
      c.sep ≠ c.quote ∧ c.sep ≠ c.nodeSep :=
  ⟨c.ne_of_nodup hc 6 0, c.ne_of_nodup hc 6 1, c.ne_of_nodup hc 6 2, c.ne_of_nodup hc 6 3, c.ne_of_nodup hc 6 4,
    c.ne_of_nodup hc 6 5, c.ne_of_nodup hc 6 7⟩

variable {c : Chars} (h : c.OK)
include h

theorem OK.nodup : c.values.Nodup := h.1
theorem OK.openB_eq : c.openB = '(' := h.2.1
theorem OK.closeB_eq : c.closeB = ')' := h.2.2.1
theorem OK.attrStart_eq : c.attrStart = '[' := h.2.2.2.1
theorem OK.attrEnd_eq : c.attrEnd = ']' := h.2.2.2.2.1
theorem OK.keyValue_eq : c.keyValue = '=' := h.2.2.2.2.2.1
theorem OK.quote_eq : c.quote = '\'' := h.2.2.2.2.2.2.1
theorem OK.sep_eq : c.sep = ':' := h.2.2.2.2.2.2.2.1
theorem OK.nodeSep_eq : c.nodeSep = ',' := h.2.2.2.2.2.2.2.2

end Chars

/-- a character that is none of the eight constants -/
def Plain (c : Chars) (x : Char) : Prop := x ∉ c.values

theorem ne_of_plain {c : Chars} {x : Char} (h : Plain c x) :
    x ≠ c.openB ∧ x ≠ c.closeB ∧ x ≠ c.attrStart ∧ x ≠ c.attrEnd ∧ x ≠ c.keyValue ∧ x ≠ c.quote ∧ x ≠ c.sep ∧ x ≠ c.nodeSep := by
  simpa only [Plain, Chars.values, List.mem_cons, List.not_mem_nil, or_false, not_or] using h

/-! ### small facts the passes use -/

theorem create_of_cur (la : Str) (s : PState) (h : s.cur = true) : create la s = createExisting la s := by
  rw [create, if_pos h]

theorem create_of_not_cur (la : Str) (s : PState) (h : s.cur = false) : create la s = createNew s := by
  rw [create, h]
  rfl

theorem startsWith_append : ∀ (p r : Str), startsWith (p ++ r) p = true
  | [], r => by cases r <;> rfl
  | x :: xs, r => by simp [startsWith, startsWith_append xs r]

theorem takeWhile_quote (q : Char) (w rest : Str) (hw : q ∉ w) :
    (w ++ q :: rest).takeWhile (· != q) = w := by
  induction w with
  | nil => simp
  | cons x xs ih =>
    simp only [List.mem_cons, not_or] at hw
    have : (x != q) = true := by simp [Ne.symm hw.1]
    simp [this, ih hw.2]

/-! ### text

Any other character goes to `cumulative_string_value` in the attribute-value state and to
`cumulative_string` otherwise; a quoted stretch goes there in one pass, if that buffer is empty. -/

namespace PState

def buf (s : PState) : Str := if s.st = .attrVal then s.cumVal else s.cum

def push (s : PState) (w : Str) : PState :=
  if s.st = .attrVal then { s with cumVal := s.cumVal ++ w } else { s with cum := s.cum ++ w }

theorem push_nil (s : PState) : s.push [] = s := by
  unfold push
  split <;> simp only [List.append_nil]

theorem push_push (s : PState) (v w : Str) : (s.push v).push w = s.push (v ++ w) := by
  by_cases h : s.st = .attrVal <;> simp only [push, h, ↓reduceIte, List.append_assoc]

end PState

/-! ### one pass on each constant

Where the pass calls `_create_node` the lemma is stated with `create`, whether or not the node exists. -/

section
variable {c : Chars} {la pre : Str} {s : PState} {rest : Str}

theorem step_open (h1 : s.st = .str) (h2 : s.cur = false) (h3 : s.cum = []) (h4 : s.cumVal = []) :
    step c la pre s c.openB rest = some ({ s with depth := s.depth + 1 }, 0) := by
  simp [step, h1, h2, h3, h4]

theorem step_closeB {s2 : PState} (hc : c.values.Nodup) (h1 : s.st ≠ .attrVal) (hn : create la s = some s2)
    (h4 : s2.cumVal = []) :
    step c la pre s c.closeB rest = some ({ s2 with depth := s2.depth - 1, cur := false, cum := [] }, 0) := by
  have a : c.closeB ≠ c.openB := c.ne_of_nodup hc 1 0
  have b : c.closeB ≠ c.attrStart := c.ne_of_nodup hc 1 2
  have d : c.closeB ≠ c.nodeSep := c.ne_of_nodup hc 1 7
  simp [step, a, b, d, h1, hn, h4]

theorem step_nodeSep {s2 : PState} (hc : c.values.Nodup) (h1 : s.st ≠ .attrVal) (hn : create la s = some s2)
    (h4 : s2.cumVal = []) :
    step c la pre s c.nodeSep rest = some ({ s2 with cur := false, cum := [] }, 0) := by
  have a : c.nodeSep ≠ c.openB := c.ne_of_nodup hc 7 0
  have b : c.nodeSep ≠ c.attrStart := c.ne_of_nodup hc 7 2
  have d : c.nodeSep ≠ c.closeB := c.ne_of_nodup hc 7 1
  simp [step, a, b, d, h1, hn, h4]

theorem step_attrStart {s2 : PState} (hc : c.values.Nodup) (h1 : s.st ≠ .attrVal)
    (hn : create la { s with st := .attrName } = some s2) (h4 : s2.cumVal = []) :
    step c la pre s c.attrStart (pre ++ rest) = some ({ s2 with cum := [] }, pre.length) := by
  have a : c.attrStart ≠ c.openB := c.ne_of_nodup hc 2 0
  have b : c.attrStart ≠ c.closeB := c.ne_of_nodup hc 2 1
  have g : c.attrStart ≠ c.nodeSep := c.ne_of_nodup hc 2 7
  simp [step, a, b, g, h1, hn, h4, startsWith_append]

theorem step_attrEnd {s1 : PState} (hc : c.values.Nodup) (h1 : s.st = .attrVal)
    (hs : setCurAttr { s with st := .str } = some s1) : step c la pre s c.attrEnd rest = some (s1, 0) := by
  have a : c.attrEnd ≠ c.openB := c.ne_of_nodup hc 3 0
  have b : c.attrEnd ≠ c.closeB := c.ne_of_nodup hc 3 1
  have d : c.attrEnd ≠ c.attrStart := c.ne_of_nodup hc 3 2
  have g : c.attrEnd ≠ c.nodeSep := c.ne_of_nodup hc 3 7
  simp [step, a, b, d, g, h1, hs]

theorem step_keyValue (hc : c.values.Nodup) (h1 : s.st = .attrName) (h2 : s.cur = true) (h3 : s.cum ≠ [])
    (h4 : s.cumVal = []) : step c la pre s c.keyValue rest = some ({ s with st := .attrVal }, 0) := by
  have a : c.keyValue ≠ c.openB := c.ne_of_nodup hc 4 0
  have b : c.keyValue ≠ c.closeB := c.ne_of_nodup hc 4 1
  have d : c.keyValue ≠ c.attrStart := c.ne_of_nodup hc 4 2
  have e : c.keyValue ≠ c.attrEnd := c.ne_of_nodup hc 4 3
  have g : c.keyValue ≠ c.nodeSep := c.ne_of_nodup hc 4 7
  simp [step, a, b, d, e, g, h1, h2, h3, h4]

/-- `:` after a name: the node is created, the length follows -/
theorem step_sep_str {s1 : PState} (hc : c.values.Nodup) (h1 : s.st = .str) (h2 : s.cur = false)
    (hn : createNew s = some s1) (h4 : s1.cumVal = []) :
    step c la pre s c.sep rest = some ({ s1 with cum := [] }, 0) := by
  simp [step, c.sep_ne hc, h1, h2, hn, h4]

/-- `:` after an attribute value: the attribute is set, the next key follows -/
theorem step_sep_val {s1 : PState} (hc : c.values.Nodup) (h1 : s.st = .attrVal)
    (hs : setCurAttr { s with st := .attrName } = some s1) : step c la pre s c.sep rest = some (s1, 0) := by
  simp [step, c.sep_ne hc, h1, hs]

theorem step_plain {x : Char} (hx : Plain c x) : step c la pre s x rest = some (s.push [x], 0) := by
  obtain ⟨a1, a2, a3, a4, a5, a6, a7, a8⟩ := ne_of_plain hx
  rw [step, if_neg a1, if_neg (not_or.2 ⟨a2, not_or.2 ⟨a3, a8⟩⟩), if_neg a4, if_neg a5, if_neg a6, if_neg a7]
  unfold PState.push
  split <;> rfl

theorem step_quote {w : Str} (hc : c.values.Nodup) (hw : c.quote ∉ w) (h3 : s.buf = []) :
    step c la pre s c.quote (w ++ c.quote :: rest) = some (s.push w, w.length + 1) := by
  have a : c.quote ≠ c.openB := c.ne_of_nodup hc 5 0
  have b : c.quote ≠ c.closeB := c.ne_of_nodup hc 5 1
  have d : c.quote ≠ c.attrStart := c.ne_of_nodup hc 5 2
  have e : c.quote ≠ c.attrEnd := c.ne_of_nodup hc 5 3
  have f : c.quote ≠ c.keyValue := c.ne_of_nodup hc 5 4
  have g : c.quote ≠ c.nodeSep := c.ne_of_nodup hc 5 7
  rw [step, if_neg a, if_neg (not_or.2 ⟨b, not_or.2 ⟨d, g⟩⟩), if_neg e, if_neg f, if_pos rfl,
    takeWhile_quote c.quote w rest hw]
  unfold PState.buf at h3
  unfold PState.push
  split at h3 <;> simp [*]

end

theorem step_close_cur (c : Chars) (hc : c.values.Nodup) (la pre : Str) (s s2 : PState) (rest : Str)
    (h1 : s.st = .str) (h2 : s.cur = true) (hn : createExisting la s = some s2) (h4 : s2.cumVal = []) :
    step c la pre s c.closeB rest = some ({ s2 with depth := s2.depth - 1, cur := false, cum := [] }, 0) :=
  step_closeB hc (by simp [h1]) ((create_of_cur la s h2).trans hn) h4

theorem step_nodeSep_cur (c : Chars) (hc : c.values.Nodup) (la pre : Str) (s s2 : PState) (rest : Str)
    (h1 : s.st = .str) (h2 : s.cur = true) (hn : createExisting la s = some s2) (h4 : s2.cumVal = []) :
    step c la pre s c.nodeSep rest = some ({ s2 with cur := false, cum := [] }, 0) :=
  step_nodeSep hc (by simp [h1]) ((create_of_cur la s h2).trans hn) h4

/-! ### reading text -/

theorem go_plain {c : Chars} {la pre : Str} : ∀ (w : Str) (s : PState) (rest : Str),
    (∀ x ∈ w, Plain c x) → go c la pre s (w ++ rest) = go c la pre (s.push w) rest
  | [], s, rest, _ => by rw [s.push_nil, List.nil_append]
  | x :: xs, s, rest, hw => by
    rw [List.cons_append, go_lit rfl (step_plain (hw x List.mem_cons_self)),
      go_plain xs _ rest (fun y hy => hw y (List.mem_cons_of_mem _ hy)), s.push_push, List.singleton_append]

/-- how `_serialize` writes a text without the quote character -/
theorem serialize_cases {c : Chars} (hc : c.OK) {n : Str} (hq : c.quote ∉ n) :
    (serialize c n = c.quote :: n ++ [c.quote]) ∨ (serialize c n = n ∧ ∀ x ∈ n, Plain c x) := by
  by_cases hany : (n.any fun ch => c.values.contains ch) = true
  · have hmap : n.map (fun ch => if ch = c.quote then '"' else ch) = n :=
      (List.map_congr_left fun x hx => if_neg fun (e : x = c.quote) => hq (e ▸ hx)).trans (List.map_id n)
    rw [serialize, if_pos hany, hmap, hc.quote_eq]
    exact .inl rfl
  · rw [serialize, if_neg hany]
    exact .inr ⟨rfl, fun x hx hmem => hany (List.any_eq_true.2 ⟨x, hx, List.contains_iff_mem.2 hmem⟩)⟩

/-- reading `_serialize(text)` into the empty buffer -/
theorem go_text {c : Chars} (hc : c.OK) {la pre : Str} (w : Str) (s : PState) (rest : Str)
    (hq : c.quote ∉ w) (h3 : s.buf = []) :
    go c la pre s (serialize c w ++ rest) = go c la pre (s.push w) rest := by
  rcases serialize_cases hc hq with h | ⟨h, hpl⟩
  · rw [h, List.append_assoc, List.singleton_append, List.cons_append, go_step (step_quote hc.nodup hq h3)]
    simp
  · rw [h, go_plain w s rest hpl]

end Newick
