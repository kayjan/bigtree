import BigtreeProofs.Lemmas.DagClosure
/-! `go_to`: the recursion collects exactly the directed paths to the target, each once. -/

namespace Dag
open List

theorem path_to_self {g : Dag} (wf : g.DWF) {a : Nat} {q : List Nat} (ha : a ∈ g.nodes)
    (hp : g.IsPath (a :: q)) (hl : (a :: q).getLast? = some a) : q = [] := by
  cases q with
  | nil => rfl
  | cons b q =>
    exact absurd (mem_of_getLast? (getLast?_cons_cons ▸ hl))
      (nodup_cons.1 (path_nodup_subset wf ha hp).1).1

theorem pathFromTo_self {g : Dag} (wf : g.DWF) {u : Nat} (hu : u ∈ g.nodes) {l : List Nat} :
    g.PathFromTo u u l ↔ l = [u] := by
  refine ⟨fun ⟨hp, hh, hl⟩ => ?_, fun h => h ▸ ⟨trivial, rfl, rfl⟩⟩
  cases l with
  | nil => exact absurd hp not_isPath_nil
  | cons a q =>
    obtain rfl := Option.some.inj hh
    rw [path_to_self wf hu hp hl]

/-- everything one call of `_recursive_path` contributes to `self.__path` (directly or through
    the `ans` its caller appends) -/
def goAll (g : Dag) (tgt : Nat) (f cur : Nat) (path : List Nat) : List (List Nat) :=
  (g.goRec tgt f cur path).2 ++ (g.goRec tgt f cur path).1.toList

theorem goAll_succ {g : Dag} {tgt f cur : Nat} {path : List Nat} :
    g.goAll tgt (f + 1) cur path =
      if cur = tgt then [path ++ [cur]]
      else (g.children cur).flatMap fun c => g.goAll tgt f c (path ++ [cur]) := by
  rw [goAll, goRec]
  split
  · rfl
  · exact append_nil _

theorem goRec_snd_of_ne {g : Dag} {tgt f cur : Nat} {path : List Nat} (h : cur ≠ tgt) :
    (g.goRec tgt (f + 1) cur path).2 = g.goAll tgt (f + 1) cur path := by
  rw [goAll, goRec, if_neg h]
  exact (append_nil _).symm

theorem mem_goAll {g : Dag} (wf : g.DWF) {tgt : Nat} : ∀ {f cur : Nat} {path l : List Nat},
    cur ∈ g.nodes → (l ∈ g.goAll tgt f cur path ↔
      ∃ q, l = path ++ cur :: q ∧ g.IsPath (cur :: q) ∧ (cur :: q).getLast? = some tgt ∧
        q.length < f) := by
  intro f
  induction f with
  | zero => intro cur path l _; exact ⟨(nomatch ·), fun ⟨_, _, _, _, h⟩ => nomatch h⟩
  | succ f ih =>
    intro cur path l hcur
    rw [goAll_succ]
    split
    · rename_i hc
      subst hc
      rw [mem_singleton]
      constructor
      · rintro rfl; exact ⟨[], rfl, trivial, rfl, f.succ_pos⟩
      · rintro ⟨q, rfl, hp, hlast, -⟩; rw [path_to_self wf hcur hp hlast]
    · rename_i hne
      rw [mem_flatMap]
      constructor
      · rintro ⟨c, hc, hl⟩
        obtain ⟨q, rfl, hp, hlast, hlen⟩ := (ih (wf.chi_closed _ hcur _ hc).1).1 hl
        exact ⟨c :: q, append_assoc path [cur] (c :: q), ⟨hc, hp⟩, getLast?_cons_cons.trans hlast,
          Nat.succ_lt_succ hlen⟩
      · rintro ⟨q, rfl, hp, hlast, hlen⟩
        cases q with
        | nil => exact absurd (Option.some.inj hlast) hne
        | cons c q =>
          exact ⟨c, hp.1, (ih (wf.chi_closed _ hcur _ hp.1).1).2 ⟨q,
            (append_assoc path [cur] (c :: q)).symm, hp.2, getLast?_cons_cons.symm.trans hlast,
            Nat.lt_of_succ_lt_succ hlen⟩⟩

theorem nodup_goAll {g : Dag} (wf : g.DWF) {tgt : Nat} : ∀ {f cur : Nat} {path : List Nat},
    cur ∈ g.nodes → (g.goAll tgt f cur path).Nodup := by
  intro f
  induction f with
  | zero => intro cur path _; exact nodup_nil
  | succ f ih =>
    intro cur path hcur
    rw [goAll_succ]
    split
    · exact nodup_cons.2 ⟨not_mem_nil, nodup_nil⟩
    · refine nodup_flatMap_of (wf.nodup_chi _ hcur) (fun c hc => ih (wf.chi_closed _ hcur _ hc).1)
        fun c hc c' hc' hne l hl hl' => ?_
      -- lists collected below different children differ right after `path ++ [cur]`
      obtain ⟨q, rfl, -⟩ := (mem_goAll wf (wf.chi_closed _ hcur _ hc).1).1 hl
      obtain ⟨q', hq', -⟩ := (mem_goAll wf (wf.chi_closed _ hcur _ hc').1).1 hl'
      exact hne (cons.inj (append_cancel_left hq')).1

/-- the list `go_to` returns for a target other than the start consists of the directed paths -/
theorem mem_goRec {g : Dag} (wf : g.DWF) {u w : Nat} (hu : u ∈ g.nodes) (huw : u ≠ w)
    {l : List Nat} : l ∈ (g.goRec w g.fuel u []).2 ↔ g.PathFromTo u w l := by
  rw [fuel, goRec_snd_of_ne huw, mem_goAll wf hu]
  constructor
  · rintro ⟨q, rfl, hp, hlast, -⟩; exact ⟨hp, rfl, hlast⟩
  · rintro ⟨hp, hh, hlast⟩
    cases l with
    | nil => exact absurd hp not_isPath_nil
    | cons a q =>
      obtain rfl := Option.some.inj hh
      exact ⟨q, rfl, hp, hlast, Nat.lt_succ_of_le (Nat.le_of_succ_le (path_length_le wf hu hp))⟩

theorem nodup_goRec {g : Dag} (wf : g.DWF) {u w : Nat} (hu : u ∈ g.nodes) (huw : u ≠ w) :
    (g.goRec w g.fuel u []).2.Nodup := by
  rw [fuel, goRec_snd_of_ne huw]
  exact nodup_goAll wf hu

end Dag
