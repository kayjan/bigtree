import BigtreeProofs.Lemmas.ExportBasic
import BigtreeProofs.Lemmas.StringsBridge
/-! Helper lemmas for C06: the insertion fold that rebuilds a tree from its pre-order list of
(path, attributes), and path strings (split / join / strip are those of `Strings`). Core Lean only. -/

namespace Export

theorem insertAt_name (a : Attrs) : ∀ (p : List Str) (t : Tree), (insertAt a p t).name = t.name
  | [], .node _ _ _ _ => rfl
  | _ :: _, .node _ _ _ _ => rfl

/-- `find_child_by_name` passes over the children not named `c` -/
theorem insertIn_append (a : Attrs) (c : Str) (rest : List Str) : ∀ (cs ds : List Tree),
    (∀ t ∈ cs, t.name ≠ c) → insertIn a c rest (cs ++ ds) = cs ++ insertIn a c rest ds
  | [], _, _ => rfl
  | t :: ts, ds, h => by
    rw [List.cons_append, insertIn, if_neg (h t List.mem_cons_self),
      insertIn_append a c rest ts ds (fun u hu => h u (List.mem_cons_of_mem _ hu)), List.cons_append]

/-- a new child with attributes `a` (`Node(name, **a)` followed by `set_attrs(a)`) goes last -/
theorem insertAt_new (a : Attrs) (ha : (a.map Prod.fst).Nodup) (m : Str) (i : Nat) (n : Str) (at' : Attrs)
    (cs0 : List Tree) (h0 : ∀ t ∈ cs0, t.name ≠ m) :
    insertAt a [m] (.node i n at' cs0) = .node i n at' (cs0 ++ [.node 0 m a []]) := by
  have h := insertIn_append a m [] cs0 [] h0
  rw [List.append_nil, insertIn, mkChain, dupdate_self a ha] at h
  rw [insertAt, h]

/-- the constructors' loop: one `add_path_to_tree` per entry (components below `t`, attributes) -/
def foldAt (t : Tree) (es : List (List Str × Attrs)) : Tree := es.foldl (fun t e => insertAt e.2 e.1 t) t

theorem foldAt_nil (t : Tree) : foldAt t [] = t := rfl
theorem foldAt_cons (t : Tree) (e : List Str × Attrs) (es : List (List Str × Attrs)) :
    foldAt t (e :: es) = foldAt (insertAt e.2 e.1 t) es := rfl
theorem foldAt_append (t : Tree) (e₁ e₂ : List (List Str × Attrs)) :
    foldAt t (e₁ ++ e₂) = foldAt (foldAt t e₁) e₂ := List.foldl_append ..

theorem foldAt_name (es : List (List Str × Attrs)) : ∀ (t : Tree), (foldAt t es).name = t.name := by
  induction es with
  | nil => intro t; rfl
  | cons e es ih => intro t; rw [foldAt_cons, ih, insertAt_name]

theorem foldAt_lift (i : Nat) (n : Str) (at' : Attrs) (cs0 : List Tree) (m : Str)
    (h0 : ∀ t ∈ cs0, t.name ≠ m) (es : List (List Str × Attrs)) : ∀ (x : Tree), x.name = m →
    foldAt (.node i n at' (cs0 ++ [x])) (es.map fun e => (m :: e.1, e.2))
      = .node i n at' (cs0 ++ [foldAt x es]) := by
  induction es with
  | nil => intro x _; rfl
  | cons e es ih =>
    intro x hx
    rw [List.map_cons, foldAt_cons, foldAt_cons, insertAt, insertIn_append e.2 m e.1 cs0 [x] h0, insertIn,
      if_pos hx, ih (insertAt e.2 e.1 x) (by rw [insertAt_name, hx])]

mutual
/-- the pre-order list of a tree relative to its parent: (names from this node down to the entry's node,
`g` of its attributes) -/
def entries (g : Attrs → Attrs) : Tree → List (List Str × Attrs)
  | .node _ n a cs => ([n], g a) :: (entriesL g cs).map fun e => (n :: e.1, e.2)
def entriesL (g : Attrs → Attrs) : List Tree → List (List Str × Attrs)
  | [] => []
  | t :: ts => entries g t ++ entriesL g ts
end

theorem canonWith_name (g : Attrs → Attrs) : ∀ (t : Tree), (canonWith g t).name = t.name
  | .node _ _ _ _ => rfl

theorem canonL_names (g : Attrs → Attrs) : ∀ (ts : List Tree), (canonWithL g ts).map Tree.name = ts.map Tree.name
  | [] => rfl
  | t :: ts => by rw [canonWithL, List.map_cons, List.map_cons, canonWith_name, canonL_names g ts]

theorem canonL_append (g : Attrs → Attrs) : ∀ (a b : List Tree), canonWithL g (a ++ b) = canonWithL g a ++ canonWithL g b
  | [], b => rfl
  | t :: ts, b => by rw [List.cons_append, canonWithL, canonWithL, canonL_append g ts b, List.cons_append]

mutual
/-- inserting the entries of `u` under a node none of whose children has `u`'s name appends
`canonWith g u`: the first entry creates the child (`insertAt_new`), the rest pass through it (`foldAt_lift`) -/
theorem foldAt_entries (g : Attrs → Attrs) (hg : ∀ a, (a.map Prod.fst).Nodup → ((g a).map Prod.fst).Nodup) :
    ∀ (u : Tree) (i : Nat) (n : Str) (at' : Attrs) (cs0 : List Tree),
    (∀ c ∈ cs0, c.name ≠ u.name) → AllNodes NodeOK u →
    foldAt (.node i n at' cs0) (entries g u) = .node i n at' (cs0 ++ [canonWith g u])
  | .node j m b ds => by
    intro i n at' cs0 h0 hu
    obtain ⟨⟨_, hkeys, hnames⟩, hds⟩ := (allNodes_node ..).mp hu
    rw [entries, foldAt_cons, insertAt_new (g b) (hg b hkeys) m i n at' cs0 h0,
      foldAt_lift i n at' cs0 m h0 (entriesL g ds) (.node 0 m (g b) []) rfl,
      foldAt_entriesL g hg ds 0 m (g b) [] (fun _ h => nomatch h) hnames hds, canonWith]
    rfl
theorem foldAt_entriesL (g : Attrs → Attrs) (hg : ∀ a, (a.map Prod.fst).Nodup → ((g a).map Prod.fst).Nodup) :
    ∀ (ds : List Tree) (i : Nat) (n : Str) (at' : Attrs) (cs0 : List Tree),
    (∀ c ∈ cs0, ∀ d ∈ ds, c.name ≠ d.name) → (ds.map Tree.name).Nodup → AllNodesL NodeOK ds →
    foldAt (.node i n at' cs0) (entriesL g ds) = .node i n at' (cs0 ++ canonWithL g ds)
  | [] => by intro i n at' cs0 _ _ _; rw [canonWithL, List.append_nil]; rfl
  | d :: ds => by
    intro i n at' cs0 h0 hn hds
    rw [allNodesL_cons] at hds
    rw [List.map_cons, List.nodup_cons] at hn
    rw [entriesL, foldAt_append, foldAt_entries g hg d i n at' cs0 (fun c hc => h0 c hc d List.mem_cons_self) hds.1,
      foldAt_entriesL g hg ds i n at' (cs0 ++ [canonWith g d]) ?_ hn.2 hds.2, canonWithL, List.append_assoc]
    · rfl
    · intro c hc d' hd'
      rcases List.mem_append.mp hc with h | h
      · exact h0 c h d' (List.mem_cons_of_mem _ hd')
      · rw [List.mem_singleton.mp h, canonWith_name]
        exact fun e => hn.1 (e ▸ List.mem_map_of_mem hd')
end

mutual
theorem preCtx_entries (g : Attrs → Attrs) :
    ∀ (u : Tree) (anc : List Str),
    (preCtx anc u).map (fun x => (x.1 ++ [x.2.name], g x.2.attrs)) = (entries g u).map fun e => (anc ++ e.1, e.2)
  | .node j m b ds => by
    intro anc
    rw [preCtx, entries, List.map_cons, List.map_cons, preCtxL_entries g ds (anc ++ [m]), List.map_map]
    congr 2
    funext e
    exact congrArg (·, e.2) (List.append_assoc anc [m] e.1)
theorem preCtxL_entries (g : Attrs → Attrs) :
    ∀ (ds : List Tree) (anc : List Str),
    (preCtxL anc ds).map (fun x => (x.1 ++ [x.2.name], g x.2.attrs)) = (entriesL g ds).map fun e => (anc ++ e.1, e.2)
  | [] => fun _ => rfl
  | d :: ds => by
    intro anc
    rw [preCtxL, entriesL, List.map_append, List.map_append, preCtx_entries g d anc, preCtxL_entries g ds anc]
end

/-- the export's pre-order list, paths encoded by `f`, as the root's entry followed by `entriesL` of the
children: the shape `foldInsert_enc` consumes -/
theorem preCtx_root_entries {α : Type} (f : List Str → α) (g : Attrs → Attrs) (i : Nat) (n : Str) (a : Attrs)
    (cs : List Tree) :
    (preCtx [] (.node i n a cs)).map (fun x => (f (x.1 ++ [x.2.name]), g x.2.attrs))
      = (([], g a) :: entriesL g cs).map fun e => (f (n :: e.1), e.2) := by
  have h := congrArg (List.map fun e : List Str × Attrs => (f e.1, e.2)) (preCtx_entries g (.node i n a cs) [])
  rw [entries, List.map_map, List.map_map, List.map_cons, List.map_map] at h
  exact h

theorem entries_head (g : Attrs → Attrs) : ∀ (u : Tree), ∀ e ∈ entries g u, ∃ p, e.1 = u.name :: p
  | .node j m b ds, e, he => by
    rw [entries] at he
    rcases List.mem_cons.mp he with h | h
    · exact ⟨[], congrArg Prod.fst h⟩
    · obtain ⟨e', _, rfl⟩ := List.mem_map.mp h
      exact ⟨e'.1, rfl⟩

theorem entriesL_head (g : Attrs → Attrs) : ∀ (ds : List Tree), ∀ e ∈ entriesL g ds, ∃ d ∈ ds, ∃ p, e.1 = d.name :: p
  | [], e, he => by rw [entriesL] at he; cases he
  | d :: ds, e, he => by
    rw [entriesL] at he
    rcases List.mem_append.mp he with h | h
    · exact ⟨d, List.mem_cons_self, entries_head g d e h⟩
    · obtain ⟨d', hd', hp⟩ := entriesL_head g ds e h
      exact ⟨d', List.mem_cons_of_mem _ hd', hp⟩

mutual
/-- entry paths are pairwise distinct: the node's own path is the only one of length 1, the others
differ below the head by induction, and paths of different children differ at the head -/
theorem entries_nodup (sep : Char) (g : Attrs → Attrs) : ∀ (u : Tree), AllNodes NodeOK u → AllNodes (SepFree sep) u →
    ((entries g u).map Prod.fst).Nodup
  | .node j m b ds => by
    intro h1 h2
    rw [allNodes_node] at h1 h2
    rw [entries, List.map_cons, List.nodup_cons, List.map_map]
    constructor
    · intro hmem
      obtain ⟨e, he, heq⟩ := List.mem_map.mp hmem
      obtain ⟨_, _, p, hp⟩ := entriesL_head g ds e he
      exact nomatch hp ▸ (List.cons.inj heq).2
    · have : (((entriesL g ds).map Prod.fst).map fun p => m :: p).Nodup :=
        List.Pairwise.map _ (fun _ _ hab h => hab (List.cons.inj h).2) (entriesL_nodup sep g ds h1.1.2.2 h1.2 h2.2)
      rwa [List.map_map] at this
theorem entriesL_nodup (sep : Char) (g : Attrs → Attrs) : ∀ (ds : List Tree), (ds.map Tree.name).Nodup → AllNodesL NodeOK ds →
    AllNodesL (SepFree sep) ds → ((entriesL g ds).map Prod.fst).Nodup
  | [] => fun _ _ _ => List.nodup_nil
  | d :: ds => by
    intro hn h1 h2
    rw [allNodesL_cons] at h1 h2
    rw [List.map_cons, List.nodup_cons] at hn
    rw [entriesL, List.map_append, List.nodup_append]
    refine ⟨entries_nodup sep g d h1.1 h2.1, entriesL_nodup sep g ds hn.2 h1.2 h2.2, ?_⟩
    intro p hp q hq hpq
    obtain ⟨e, he, rfl⟩ := List.mem_map.mp hp
    obtain ⟨e', he', rfl⟩ := List.mem_map.mp hq
    obtain ⟨p, hp⟩ := entries_head g d e he
    obtain ⟨d', hd', p', hp'⟩ := entriesL_head g ds e' he'
    rw [hpq, hp'] at hp
    exact hn.1 ((List.cons.inj hp).1 ▸ List.mem_map_of_mem hd')
end

/-- every component is a possible node name: non-empty, without the separator -/
def CompsOK (sep : Char) (p : List Str) : Prop := ∀ s ∈ p, s ≠ [] ∧ sep ∉ s

mutual
theorem preCtx_comps (sep : Char) : ∀ (t : Tree) (anc : List Str), AllNodes NodeOK t → AllNodes (SepFree sep) t →
    CompsOK sep anc → ∀ x ∈ preCtx anc t, ∀ s ∈ x.1 ++ [x.2.name], s ≠ [] ∧ sep ∉ s
  | .node i n a cs => by
    intro anc h1 h2 ha x hx
    rw [allNodes_node] at h1 h2
    have hn : CompsOK sep (anc ++ [n]) := fun s hs =>
      (List.mem_append.mp hs).elim (ha s) fun h => List.mem_singleton.mp h ▸ ⟨h1.1.1, h2.1⟩
    rw [preCtx] at hx
    rcases List.mem_cons.mp hx with e | e
    · rw [e]; exact hn
    · exact preCtxL_comps sep cs (anc ++ [n]) h1.2 h2.2 hn x e
theorem preCtxL_comps (sep : Char) : ∀ (ts : List Tree) (anc : List Str), AllNodesL NodeOK ts → AllNodesL (SepFree sep) ts →
    CompsOK sep anc → ∀ x ∈ preCtxL anc ts, ∀ s ∈ x.1 ++ [x.2.name], s ≠ [] ∧ sep ∉ s
  | [] => by intro anc _ _ _ x hx; rw [preCtxL] at hx; cases hx
  | t :: ts => by
    intro anc h1 h2 ha x hx
    rw [allNodesL_cons] at h1 h2
    rw [preCtxL] at hx
    rcases List.mem_append.mp hx with e | e
    · exact preCtx_comps sep t anc h1.1 h2.1 ha x e
    · exact preCtxL_comps sep ts anc h1.2 h2.2 ha x e
end

theorem splitC_joinC (c : Char) (xs : List Str) (hne : xs ≠ []) (hs : ∀ x ∈ xs, c ∉ x) :
    splitC c (joinC c xs) = xs := by
  rw [splitC_eq_strings, joinC_eq_intercalate]
  exact Strings.split_join [c] (List.cons_ne_nil c []) xs hne fun x hx => (Store.free_singleton c x).2 (hs x hx)

theorem joinC_inj (sep : Char) (xs ys : List Str) (hx : xs ≠ []) (hy : ys ≠ [])
    (hxs : ∀ x ∈ xs, sep ∉ x) (hys : ∀ y ∈ ys, sep ∉ y) (h : joinC sep xs = joinC sep ys) : xs = ys := by
  rw [← splitC_joinC sep xs hx hxs, ← splitC_joinC sep ys hy hys, h]

theorem splitC_nosep (c : Char) (a : Str) (h : c ∉ a) : splitC c a = [a] :=
  splitC_joinC c [a] (List.cons_ne_nil a []) fun _ hx => List.mem_singleton.1 hx ▸ h

theorem CompsOK.free {sep : Char} {p : List Str} (hp : CompsOK sep p) : ∀ x ∈ p, x ≠ [] ∧ Store.Free [sep] x :=
  fun x hx => ⟨(hp x hx).1, (Store.free_singleton sep x).2 (hp x hx).2⟩

theorem stripC_joinC (c : Char) (xs : List Str) (hne : xs ≠ []) (hs : CompsOK c xs) (lead : Str)
    (hl : ∀ x ∈ lead, x ∈ [c]) : stripC c (lead ++ joinC c xs) = joinC c xs := by
  have h := (Strings.strip_join_pad [c] xs hne hs.free lead [] hl fun _ h => nomatch h).2
  rwa [List.append_nil, ← joinC_eq_intercalate, ← stripC_eq_strings] at h

/-- `enc` writes a non-empty list of good components as a path string from which `add_path_to_tree`
recovers the components -/
def Decodes (sep : Char) (enc : List Str → Str) : Prop :=
  ∀ xs, xs ≠ [] → CompsOK sep xs → enc xs ≠ [] ∧ splitC sep (stripC sep (enc xs)) = xs

/-- the joined names behind any separators decode: a dict key (`path_name`) has one in front, a DataFrame
path none -/
theorem decodes_lead (sep : Char) (lead : Str) (hl : ∀ x ∈ lead, x ∈ [sep]) :
    Decodes sep fun xs => lead ++ joinC sep xs := fun xs hne hxs => by
  refine ⟨fun (e : lead ++ joinC sep xs = []) => ?_, ?_⟩
  · obtain ⟨c, t, _, h⟩ := (Strings.join_shape [sep] xs hne hxs.free).1
    rw [joinC_eq_intercalate, h] at e
    exact nomatch (List.append_eq_nil_iff.mp e).2
  · rw [stripC_joinC sep xs hne hxs lead hl, splitC_joinC sep xs hne fun x hx => (hxs x hx).2]

theorem insertPath_of_split (sep : Char) (r : Tree) (s : Str) (p : List Str) (a : Attrs) (hs : s ≠ [])
    (hsplit : splitC sep (stripC sep s) = r.name :: p) (hp : ∀ c ∈ p, c ≠ []) :
    insertPath sep r s a = some (insertAt a p r) := by
  have hany : p.any (· == []) = false := List.any_eq_false.mpr fun c hc => by simpa using hp c hc
  rw [insertPath, if_neg hs, hsplit]
  simp only [ne_eq, not_true_eq_false, if_false, hany, Bool.false_eq_true]

theorem foldInsert_enc (sep : Char) (enc : List Str → Str) (henc : Decodes sep enc) :
    ∀ (es : List (List Str × Attrs)) (r : Tree), (∀ e ∈ es, CompsOK sep (r.name :: e.1)) →
    foldInsert sep r (es.map fun e => (enc (r.name :: e.1), e.2)) = some (foldAt r es)
  | [], r, _ => rfl
  | e :: es, r, h => by
    have he := h e List.mem_cons_self
    obtain ⟨h1, h2⟩ := henc (r.name :: e.1) (List.cons_ne_nil _ _) he
    have hn := insertAt_name e.2 e.1 r
    have ih := foldInsert_enc sep enc henc es (insertAt e.2 e.1 r)
      (hn ▸ fun e' he' => h e' (List.mem_cons_of_mem _ he'))
    rw [hn] at ih
    rw [List.map_cons, foldInsert,
      insertPath_of_split sep r _ e.1 e.2 h1 h2 (fun c hc => (he c (List.mem_cons_of_mem _ hc)).1)]
    exact ih

/-- Rebuilding: inserting the pre-order list of (encoded path, attributes as `g` shows them) of a tree
into a root made from its first entry gives the tree back, ids forgotten and attributes under `g`. -/
theorem foldInsert_preCtx (sep : Char) (enc : List Str → Str) (henc : Decodes sep enc) (g : Attrs → Attrs)
    (hg : ∀ a, (a.map Prod.fst).Nodup → ((g a).map Prod.fst).Nodup) (i : Nat) (n : Str) (a : Attrs)
    (cs : List Tree) (h1 : AllNodes NodeOK (.node i n a cs)) (h2 : AllNodes (SepFree sep) (.node i n a cs)) :
    foldInsert sep (.node 0 n (g a) [])
        ((preCtx [] (.node i n a cs)).map fun x => (enc (x.1 ++ [x.2.name]), g x.2.attrs))
      = some (canonWith g (.node i n a cs)) := by
  obtain ⟨⟨_, hkeys, hnames⟩, hcs⟩ := (allNodes_node ..).mp h1
  have hcomps : ∀ e ∈ ([], g a) :: entriesL g cs, CompsOK sep (n :: e.1) := by
    intro e he
    have hmem : (n :: e.1, e.2) ∈ (preCtx [] (.node i n a cs)).map fun x => (x.1 ++ [x.2.name], g x.2.attrs) := by
      rw [preCtx_root_entries (fun p => p) g i n a cs]
      exact List.mem_map_of_mem he
    obtain ⟨x, hx, hxe⟩ := List.mem_map.mp hmem
    exact (Prod.mk.inj hxe).1 ▸ preCtx_comps sep _ [] h1 h2 (fun _ h => nomatch h) x hx
  rw [preCtx_root_entries enc g i n a cs]
  refine (foldInsert_enc sep enc henc _ (.node 0 n (g a) []) hcomps).trans ?_
  rw [foldAt_cons, insertAt, dupdate_self (g a) (hg a hkeys),
    foldAt_entriesL g hg cs 0 n (g a) [] (fun _ h => nomatch h) hnames hcs, canonWith]
  rfl

end Export
