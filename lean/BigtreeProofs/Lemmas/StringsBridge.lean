import BigtreeModel.Str
import BigtreeModel.Search
import BigtreeModel.Modify
import BigtreeModel.Helper
import BigtreeModel.Export
import BigtreeModel.Render
import BigtreeProofs.Lemmas.Strings
/-!
# Every model's string functions are those of `Strings`

Each model file spells `sep.join`, `str.split(sep)`, `str.lstrip(chars)`, `str.rstrip(chars)` in its own way
(recursion vs `dropWhile`, `List.intercalate`, a fuel-bounded scan that drops the separator vs a skip counter,
an accumulator vs none, one-character versions).  They are the same functions, so the laws of `Strings`
hold for all of them.  Where a model's function is the `Strings` one as it stands (`lstrip` / `rstrip` of the
search and helper models, `stripL` / `stripR` of modify, `lstripChars` / `rstripChars` of render: `dropWhile` with
the same predicate) no equation is stated; a `Strings` lemma applies to it directly.  (The pointer store's are in `StoreStr`: its model file declares `Store`, `Cfg`, … at
the root, which the modules importing this one must not see.)
-/

namespace Str

theorem lstrip_eq_strings (chars s : Str) : lstrip chars s = Strings.lstrip chars s := by
  induction s with
  | nil => rfl
  | cons c cs ih =>
    rw [lstrip, Strings.lstrip, List.dropWhile_cons]
    split
    · exact ih
    · rfl

theorem rstrip_eq_strings (chars s : Str) : rstrip chars s = Strings.rstrip chars s := by
  rw [rstrip, lstrip_eq_strings]; rfl

theorem strip_eq_strings (chars s : Str) :
    strip chars s = Strings.rstrip chars (Strings.lstrip chars s) := by
  rw [strip, rstrip_eq_strings, lstrip_eq_strings]

theorem join_eq_intercalate (sep : Str) (l : List Str) : join sep l = sep.intercalate l :=
  Strings.join_unique rfl (fun _ => rfl) (fun _ _ _ => rfl) l

/-- the fuel-bounded scan that drops a matched separator is the scan with a skip counter -/
theorem splitGo_eq_strings (sp : Str) (hsp : sp ≠ []) (f : Nat) : ∀ (s cur : Str), s.length < f →
    splitGo sp f s cur = Strings.splitAux sp 0 s cur := by
  induction f with
  | zero => intro s cur h; exact absurd h (Nat.not_lt_zero _)
  | succ f ih =>
    intro s cur h
    cases s with
    | nil => rfl
    | cons c cs =>
      have hlt : cs.length < f := Nat.lt_of_succ_lt_succ h
      rw [splitGo, Strings.splitAux]
      split
      · have hd : ((c :: cs).drop sp.length).length < f := by
          have := List.length_pos_iff.2 hsp
          rw [List.length_drop, List.length_cons]; omega
        rw [Strings.splitAux_skip, ih _ [] hd]
        cases sp with
        | nil => exact absurd rfl hsp
        | cons a as => rfl
      · exact ih cs (c :: cur) hlt

theorem split_eq_strings (sp : Str) (hsp : sp ≠ []) (s : Str) : split sp s = Strings.split sp s :=
  splitGo_eq_strings sp hsp _ s [] (Nat.lt_succ_self _)

/-- the one-character split is core's `List.splitOn`, and so is `Strings.split [c]` -/
theorem splitC_eq_strings (c : Char) (s : Str) : splitC c s = Strings.split [c] s := by
  rw [Strings.split_singleton]
  induction s with
  | nil => rfl
  | cons x xs ih =>
    have := List.splitOn_ne_nil c xs
    rw [splitC, ih, List.splitOn_cons_eq_if_modifyHead]
    cases h : xs.splitOn c with
    | nil => exact absurd h this
    | cons p ps => simp

end Str

namespace Search

theorem join_eq_intercalate (sep : Str) (l : List Str) : join sep l = sep.intercalate l := rfl

theorem consHead_eq (c : Char) {l : List Str} (h : l ≠ []) : consHead c l = l.modifyHead (c :: ·) := by
  cases l with
  | nil => exact absurd rfl h
  | cons w ws => rfl

theorem splitGo_eq_strings (sep s : Str) (k : Nat) : splitGo sep k s = Strings.splitAux sep k s [] := by
  fun_induction splitGo sep k s with
  | case1 k => exact (Strings.splitAux_nil sep k []).symm
  | case2 _ _ _ ih => exact ih
  | case3 c cs h ih => rw [Strings.splitAux, if_pos h, ih]; rfl
  | case4 c cs h ih =>
    rw [Strings.splitAux, if_neg h, ih, consHead_eq c (Strings.splitAux_ne_nil sep cs 0 []),
      Strings.splitAux_acc sep cs 0 [c]]
    rfl

theorem split_eq_strings (sep s : Str) : split sep s = Strings.split sep s := splitGo_eq_strings sep s 0

end Search

namespace Modify

theorem join_eq_intercalate (sep : Str) (l : List Str) : join sep l = sep.intercalate l :=
  Strings.join_unique rfl (fun _ => rfl) (fun _ _ _ => rfl) l

theorem splitGo_eq_strings (sep : Str) (hsep : sep ≠ []) (s : Str) (k : Nat) (acc : Str) :
    splitGo sep s k acc = Strings.splitAux sep k s acc := by
  fun_induction Strings.splitAux sep k s acc with
  | case1 k acc => cases k <;> rfl
  | case2 _ _ _ _ ih => exact ih
  | case3 c cs acc h ih => rw [splitGo, if_pos ⟨hsep, h⟩, ih]
  | case4 c cs acc h ih => rw [splitGo, if_neg fun h' => h h'.2, ih]

theorem splitOn_eq_strings (sep : Str) (hsep : sep ≠ []) (s : Str) : splitOn sep s = Strings.split sep s :=
  splitGo_eq_strings sep hsep s 0 []

end Modify

namespace Helper

theorem join_eq_intercalate (sep : Str) (l : List Str) : join sep l = sep.intercalate l := rfl

theorem splitGo_eq_strings (sep s : Str) (k : Nat) (acc : Str) :
    splitGo sep k acc s = Strings.splitAux sep k s acc := by
  fun_induction Strings.splitAux sep k s acc with
  | case1 k acc => cases k <;> rfl
  | case2 _ _ _ _ ih => exact ih
  | case3 c cs acc h ih => rw [splitGo, if_pos h, ih]
  | case4 c cs acc h ih => rw [splitGo, if_neg h, ih]

theorem split_eq_strings (sep : Str) (hsep : sep ≠ []) (s : Str) : split sep s = Strings.split sep s := by
  rw [split, if_neg (by simpa using hsep)]; exact splitGo_eq_strings sep s 0 []

end Helper

namespace Export

theorem joinC_eq_intercalate (c : Char) (l : List Str) : joinC c l = [c].intercalate l :=
  Strings.join_unique rfl (fun _ => rfl) (fun a _ _ => List.append_cons a c _) l

theorem splitC_eq_strings (c : Char) (s : Str) : splitC c s = Strings.split [c] s := by
  rw [← Str.splitC_eq_strings]
  induction s with
  | nil => rfl
  | cons x xs ih => rw [splitC, Str.splitC, ih]; rfl

theorem lstripC_eq_strings (c : Char) (s : Str) : lstripC c s = Strings.lstrip [c] s := by
  rw [lstripC, Strings.lstrip]; congr 1; funext x
  simp only [List.contains_cons, List.contains_nil, Bool.or_false]

theorem rstripC_eq_strings (c : Char) (s : Str) : rstripC c s = Strings.rstrip [c] s := by
  rw [Strings.rstrip, ← lstripC_eq_strings]; rfl

theorem stripC_eq_strings (c : Char) (s : Str) : stripC c s = Strings.rstrip [c] (Strings.lstrip [c] s) := by
  rw [stripC, rstripC_eq_strings, lstripC_eq_strings]

end Export

namespace Render

theorem joinNl_eq_intercalate (l : List Str) : joinNl l = ['\n'].intercalate l :=
  Strings.join_unique rfl (fun _ => rfl) (fun a _ _ => List.append_cons a '\n' _) l

theorem splitNl_eq_strings (s : Str) : splitNl s = Strings.split ['\n'] s := by
  rw [Strings.split_singleton]
  induction s with
  | nil => rfl
  | cons c s ih =>
    have := List.splitOn_ne_nil '\n' s
    rw [splitNl, ih, List.splitOn_cons_eq_if_modifyHead]
    cases h : s.splitOn '\n' with
    | nil => exact absurd h this
    | cons p ps => simp

end Render
