import BigtreeProofs.Lemmas.DagBasic
/-! The DFS argument for `dag_iterator`.

* `Inv`: the pairs yielded so far are duplicate-free and are exactly the edges with an end point
  in the visited set (independent of the order in which nodes are entered);
* `Ext`: the visited set only grows, and every node entered during a call has all its
  neighbours visited when the call returns (given enough fuel);
* fuel: `unv` (number of unvisited nodes) bounds the recursion depth. -/

namespace Dag
open List

/-! ### the yielding loops -/

/-- on entering `v`, the two loops yield the edges at `v` whose other end point is unvisited,
    that is, the edges that touch the visited set now and did not before -/
theorem mem_emit {g : Dag} (wf : g.DWF) {v : Nat} (hv : v ∈ g.nodes) {vis : List Nat}
    (hnv : v ∉ vis) {e : Edge} :
    e ∈ g.emit v (v :: vis) ↔
      e ∈ g.edges ∧ (e.1 = v ∨ e.2 = v) ∧ ¬ (e.1 ∈ vis ∨ e.2 ∈ vis) := by
  have noloop : v ∉ g.children v := fun hc => wf.acyclic v hv (.edge hc)
  obtain ⟨a, b⟩ := e
  simp only [emit, mem_append, mem_map, mem_filter, decide_eq_true_eq, Prod.mk.injEq, mem_edges,
    mem_cons, not_or]
  constructor
  · rintro (⟨p, ⟨hp, hpv⟩, rfl, rfl⟩ | ⟨c, ⟨hc, hcv⟩, rfl, rfl⟩)
    · exact ⟨wf.par_closed _ hv _ hp, .inr rfl, hpv.2, hnv⟩
    · exact ⟨⟨hv, hc⟩, .inl rfl, hnv, hcv.2⟩
  · rintro ⟨⟨ha, hb⟩, rfl | rfl, hna, hnb⟩
    · exact .inr ⟨b, ⟨hb, fun h => noloop (h ▸ hb), hnb⟩, rfl, rfl⟩
    · exact .inl ⟨a, ⟨(wf.chi_closed _ ha _ hb).2, fun h => noloop (h ▸ hb), hna⟩, rfl, rfl⟩

theorem nodup_emit {g : Dag} (wf : g.DWF) {v : Nat} (hv : v ∈ g.nodes) {vis : List Nat}
    (hvis : v ∈ vis) : (g.emit v vis).Nodup := by
  refine nodup_append.2
    ⟨nodup_map_of_inj (fun _ _ h => (Prod.mk.inj h).1) ((wf.nodup_par v hv).filter _),
     nodup_map_of_inj (fun _ _ h => (Prod.mk.inj h).2) ((wf.nodup_chi v hv).filter _), ?_⟩
  rintro _ he _ he' rfl
  obtain ⟨p, hp, rfl⟩ := mem_map.1 he
  obtain ⟨c, _, hc⟩ := mem_map.1 he'
  exact of_decide_eq_true (mem_filter.1 hp).2 ((Prod.mk.inj hc).1 ▸ hvis)

def Inv (g : Dag) (st : St) : Prop :=
  st.out.Nodup ∧ (∀ x ∈ st.vis, x ∈ g.nodes) ∧
  ∀ e, e ∈ st.out ↔ (e ∈ g.edges ∧ (e.1 ∈ st.vis ∨ e.2 ∈ st.vis))

theorem inv_enter {g : Dag} (wf : g.DWF) {v : Nat} (hv : v ∈ g.nodes) {st : St}
    (hnv : v ∉ st.vis) (h : Inv g st) :
    Inv g { vis := v :: st.vis, out := st.out ++ g.emit v (v :: st.vis) } := by
  obtain ⟨hnd, hsub, hmem⟩ := h
  refine ⟨nodup_append.2 ⟨hnd, nodup_emit wf hv mem_cons_self, ?_⟩,
    forall_mem_cons.2 ⟨hv, hsub⟩, fun e => ?_⟩
  · rintro e he _ he' rfl
    exact ((mem_emit wf hv hnv).1 he').2.2 ((hmem e).1 he).2
  · rw [mem_append, hmem, mem_emit wf hv hnv, mem_cons, mem_cons]
    constructor
    · rintro (⟨he, h1 | h1⟩ | ⟨he, h1 | h1, _⟩)
      · exact ⟨he, .inl (.inr h1)⟩
      · exact ⟨he, .inr (.inr h1)⟩
      · exact ⟨he, .inl (.inl h1)⟩
      · exact ⟨he, .inr (.inl h1)⟩
    · rintro ⟨he, hto⟩
      by_cases ht : e.1 ∈ st.vis ∨ e.2 ∈ st.vis
      · exact .inl ⟨he, ht⟩
      · refine .inr ⟨he, ?_, ht⟩
        rcases hto with (h1 | h1) | (h1 | h1)
        · exact .inl h1
        · exact absurd (.inl h1) ht
        · exact .inr h1
        · exact absurd (.inr h1) ht

/-! ### the recursing loops -/

theorem visitAll_keeps (P : St → Prop) (Q : Nat → Prop) (rec : Nat → St → St)
    (hrec : ∀ m st, Q m → m ∉ st.vis → P st → P (rec m st)) :
    ∀ ms st, (∀ m ∈ ms, Q m) → P st → P (visitAll rec ms st) := by
  intro ms
  induction ms with
  | nil => intro st _ h; exact h
  | cons m ms ih =>
    intro st hms h
    obtain ⟨hm, hms⟩ := forall_mem_cons.1 hms
    rw [visitAll]
    refine ih _ hms ?_
    split
    · exact h
    · exact hrec m st hm ‹_› h

theorem visitAll_congr (P : St → Prop) (Q : Nat → Prop) (rec rec' : Nat → St → St)
    (hrec : ∀ m st, Q m → m ∉ st.vis → P st → P (rec m st))
    (heq : ∀ m st, Q m → m ∉ st.vis → P st → rec' m st = rec m st) :
    ∀ ms st, (∀ m ∈ ms, Q m) → P st → visitAll rec' ms st = visitAll rec ms st := by
  intro ms
  induction ms with
  | nil => intro st _ _; rfl
  | cons m ms ih =>
    intro st hms h
    obtain ⟨hm, hms⟩ := forall_mem_cons.1 hms
    rw [visitAll, visitAll]
    split
    · exact ih st hms h
    · rw [heq m st hm ‹_› h]
      exact ih _ hms (hrec m st hm ‹_› h)

/-- a property of states that entering a node keeps (for the nodes in `Q`, a set closed under
    neighbours) is kept by a call -/
theorem visit_keeps {g : Dag} (P : St → Prop) (Q : Nat → Prop)
    (hQ : ∀ v, Q v → ∀ m, m ∈ g.parents v ∨ m ∈ g.children v → Q m)
    (henter : ∀ v st, Q v → v ∉ st.vis → P st →
      P { vis := v :: st.vis, out := st.out ++ g.emit v (v :: st.vis) }) :
    ∀ f v st, Q v → v ∉ st.vis → P st → P (visit g f v st) := by
  intro f
  induction f with
  | zero => intro v st _ _ h; exact h
  | succ f ih =>
    intro v st hv hnv h
    exact visitAll_keeps P Q (visit g f) ih _ _ (fun c hc => hQ v hv c (.inr hc))
      (visitAll_keeps P Q (visit g f) ih _ _ (fun p hp => hQ v hv p (.inl hp)) (henter v st hv hnv h))

theorem visit_inv {g : Dag} (wf : g.DWF) : ∀ f v st, v ∈ g.nodes → v ∉ st.vis →
    Inv g st → Inv g (visit g f v st) :=
  visit_keeps (Inv g) (· ∈ g.nodes)
    (fun v hv m hm => hm.elim (fun h => (wf.par_closed v hv m h).1) fun h => (wf.chi_closed v hv m h).1)
    fun _ _ hv hnv h => inv_enter wf hv hnv h

theorem visit_sound {g : Dag} (v0 : Nat) : ∀ f v st, g.UReach v0 v → v ∉ st.vis →
    (∀ x ∈ st.vis, g.UReach v0 x) → ∀ x ∈ (visit g f v st).vis, g.UReach v0 x :=
  visit_keeps (fun st => ∀ x ∈ st.vis, g.UReach v0 x) (g.UReach v0) (fun _ hv _ hm => .step hv hm)
    fun _ _ hv _ h => forall_mem_cons.2 ⟨hv, h⟩

theorem visit_vis_mono {g : Dag} {x : Nat} : ∀ f v st, v ∉ st.vis → x ∈ st.vis →
    x ∈ (visit g f v st).vis := fun f v st =>
  visit_keeps (fun s => x ∈ s.vis) (fun _ => True) (fun _ _ _ _ => trivial)
    (fun _ _ _ _ h => mem_cons_of_mem _ h) f v st trivial

/-! ### growth, neighbour-closure, fuel -/

/-- number of nodes not yet visited -/
def unv (g : Dag) (vis : List Nat) : Nat := g.nodes.countP fun x => decide (x ∉ vis)

theorem unv_mono {g : Dag} {vis vis' : List Nat} (h : ∀ x ∈ vis, x ∈ vis') :
    g.unv vis' ≤ g.unv vis :=
  countP_mono_left fun x _ hx => decide_eq_true fun hc => of_decide_eq_true hx (h x hc)

theorem unv_enter {g : Dag} {v : Nat} (hv : v ∈ g.nodes) {vis : List Nat} (hnv : v ∉ vis) :
    g.unv (v :: vis) + 1 ≤ g.unv vis := by
  unfold unv
  generalize g.nodes = l at hv
  induction l with
  | nil => cases hv
  | cons a l ih =>
    rw [countP_cons, countP_cons]
    by_cases ha : a = v
    · subst ha
      rw [if_neg (by simp), if_pos (decide_eq_true hnv)]
      exact Nat.succ_le_succ (countP_mono_left fun x _ hx =>
        decide_eq_true fun hc => of_decide_eq_true hx (mem_cons_of_mem _ hc))
    · have h1 : decide (a ∉ v :: vis) = decide (a ∉ vis) := by simp [ha]
      rw [h1, Nat.add_right_comm]
      exact Nat.add_le_add_right (ih ((mem_cons.1 hv).resolve_left fun h => ha h.symm)) _

theorem unv_enter_le {g : Dag} {v : Nat} (hv : v ∈ g.nodes) {vis : List Nat} (hnv : v ∉ vis) {f : Nat}
    (hf : g.unv vis ≤ f + 1) : g.unv (v :: vis) ≤ f :=
  Nat.le_of_succ_le_succ (Nat.le_trans (unv_enter hv hnv) hf)

theorem unv_nil_le (g : Dag) : g.unv [] ≤ g.fuel :=
  Nat.le_succ_of_le countP_le_length

/-- `st'` extends `st`: visited grows; nodes entered in between are neighbour-closed in `st'` -/
def Ext (g : Dag) (st st' : St) : Prop :=
  (∀ x ∈ st.vis, x ∈ st'.vis) ∧
  ∀ x ∈ st'.vis, x ∉ st.vis → ∀ y, (y ∈ g.parents x ∨ y ∈ g.children x) → y ∈ st'.vis

theorem Ext.refl (g : Dag) (st : St) : Ext g st st :=
  ⟨fun _ h => h, fun _ hx hnx => absurd hx hnx⟩

theorem Ext.trans {g : Dag} {a b c : St} (h₁ : Ext g a b) (h₂ : Ext g b c) : Ext g a c := by
  refine ⟨fun x hx => h₂.1 x (h₁.1 x hx), fun x hx hnx y hy => ?_⟩
  by_cases hb : x ∈ b.vis
  · exact h₂.1 y (h₁.2 x hb hnx y hy)
  · exact h₂.2 x hx hb y hy

/-- a recursing loop whose calls extend the state and enter their node extends the state and has
    all of `ms` visited; `P`: what the calls need (enough fuel) -/
theorem visitAll_ext {g : Dag} (P : St → Prop) (Q : Nat → Prop) (rec : Nat → St → St)
    (hP : ∀ st st', Ext g st st' → P st → P st')
    (hrec : ∀ m st, Q m → m ∉ st.vis → P st → Ext g st (rec m st) ∧ m ∈ (rec m st).vis) :
    ∀ ms st, (∀ m ∈ ms, Q m) → P st →
      Ext g st (visitAll rec ms st) ∧ ∀ m ∈ ms, m ∈ (visitAll rec ms st).vis := by
  intro ms
  induction ms with
  | nil => intro st _ _; exact ⟨.refl g st, fun _ h => nomatch h⟩
  | cons m ms ih =>
    intro st hms h
    obtain ⟨hm, hms⟩ := forall_mem_cons.1 hms
    rw [visitAll]
    have h1 : Ext g st (if m ∈ st.vis then st else rec m st) ∧
        m ∈ (if m ∈ st.vis then st else rec m st).vis := by
      split
      · exact ⟨.refl g st, ‹_›⟩
      · exact hrec m st hm ‹_› h
    obtain ⟨hext2, hms2⟩ := ih _ hms (hP _ _ h1.1 h)
    exact ⟨h1.1.trans hext2, forall_mem_cons.2 ⟨hext2.1 _ h1.2, hms2⟩⟩

theorem visit_ext {g : Dag} (wf : g.DWF) : ∀ f v st, v ∈ g.nodes → v ∉ st.vis →
    g.unv st.vis ≤ f → Ext g st (visit g f v st) ∧ v ∈ (visit g f v st).vis := by
  intro f
  induction f with
  | zero =>
    intro v st hv hnv hf
    exact absurd (Nat.le_trans (unv_enter hv hnv) hf) (Nat.not_succ_le_zero _)
  | succ f ih =>
    intro v st hv hnv hf
    have hf0 := unv_enter_le hv hnv hf
    have loop := visitAll_ext (g := g) (fun s => g.unv s.vis ≤ f) (· ∈ g.nodes) (visit g f)
      (fun _ _ he h => Nat.le_trans (unv_mono he.1) h) ih
    rw [visit]
    obtain ⟨hext1, hps⟩ := loop (g.parents v)
      { vis := v :: st.vis, out := st.out ++ g.emit v (v :: st.vis) }
      (fun p hp => (wf.par_closed _ hv _ hp).1) hf0
    obtain ⟨hext2, hcs⟩ := loop (g.children v) _ (fun c hc => (wf.chi_closed _ hv _ hc).1)
      (Nat.le_trans (unv_mono hext1.1) hf0)
    have hext := hext1.trans hext2
    refine ⟨⟨fun x hx => hext.1 x (mem_cons_of_mem _ hx), fun x hx hnx y hy => ?_⟩,
      hext.1 v mem_cons_self⟩
    by_cases hxv : x = v
    · subst hxv
      exact hy.elim (fun hy => hext2.1 y (hps y hy)) (hcs y)
    · exact hext.2 x hx (fun h => (mem_cons.1 h).elim hxv hnx) y hy

theorem visit_fuel {g : Dag} (wf : g.DWF) : ∀ f v st, v ∈ g.nodes → v ∉ st.vis →
    g.unv st.vis ≤ f → ∀ f', f ≤ f' → visit g f' v st = visit g f v st := by
  intro f
  induction f with
  | zero =>
    intro v st hv hnv hf
    exact absurd (Nat.le_trans (unv_enter hv hnv) hf) (Nat.not_succ_le_zero _)
  | succ f ih =>
    intro v st hv hnv hf f' hle
    cases f' with
    | zero => exact absurd hle (Nat.not_succ_le_zero _)
    | succ f' =>
      have hkeep : ∀ m (s : St), m ∈ g.nodes → m ∉ s.vis → g.unv s.vis ≤ f →
          g.unv (visit g f m s).vis ≤ f := fun m s _ hnm h =>
        Nat.le_trans (unv_mono fun _ => visit_vis_mono f m s hnm) h
      have hcongr := visitAll_congr (fun s => g.unv s.vis ≤ f) (· ∈ g.nodes) (visit g f) (visit g f')
        hkeep fun m s hm hnm hs => ih m s hm hnm hs f' (Nat.le_of_succ_le_succ hle)
      have hpar : ∀ p ∈ g.parents v, p ∈ g.nodes := fun p hp => (wf.par_closed _ hv _ hp).1
      have hf0 : g.unv (St.mk (v :: st.vis) (st.out ++ g.emit v (v :: st.vis))).vis ≤ f :=
        unv_enter_le hv hnv hf
      -- loop 3 agrees, so loop 4 starts from the same state, and agrees
      rw [visit, visit, hcongr (g.parents v) _ hpar hf0]
      exact hcongr (g.children v) _ (fun c hc => (wf.chi_closed _ hv _ hc).1)
        (visitAll_keeps _ _ _ hkeep (g.parents v) _ hpar hf0)

/-! ### the result of a whole run -/

theorem dagRun_inv {g : Dag} (wf : g.DWF) {v : Nat} (hv : v ∈ g.nodes) : Inv g (g.dagRun v) :=
  visit_inv wf _ v _ hv not_mem_nil ⟨nodup_nil, fun _ h => (nomatch h),
    fun _ => ⟨(nomatch ·), fun h => h.2.elim (nomatch ·) (nomatch ·)⟩⟩

theorem dagRun_vis_sound {g : Dag} {v u : Nat} (h : u ∈ (g.dagRun v).vis) : g.UReach v u :=
  visit_sound v _ v _ (.refl v) not_mem_nil (fun _ h => absurd h not_mem_nil) u h

theorem dagRun_vis_iff {g : Dag} (wf : g.DWF) {v : Nat} (hv : v ∈ g.nodes) {u : Nat} :
    u ∈ (g.dagRun v).vis ↔ g.UReach v u := by
  refine ⟨dagRun_vis_sound, fun h => ?_⟩
  -- along an undirected path from the start: the final visited set is closed under neighbours
  obtain ⟨hext, hv'⟩ := visit_ext wf _ v ⟨[], []⟩ hv not_mem_nil (unv_nil_le g)
  induction h with
  | refl => exact hv'
  | step _ hy ih => exact hext.2 _ ih not_mem_nil _ hy

/-- the yielded pairs are exactly the edges of the weakly connected component of the start -/
theorem mem_dagIter {g : Dag} (wf : g.DWF) {v : Nat} (hv : v ∈ g.nodes) {e : Edge} :
    e ∈ g.dagIter v ↔ e ∈ g.edges ∧ g.UReach v e.1 := by
  rw [dagIter, (dagRun_inv wf hv).2.2, dagRun_vis_iff wf hv, dagRun_vis_iff wf hv]
  refine and_congr_right fun he => ⟨fun h => h.elim id fun h2 => ?_, .inl⟩
  obtain ⟨h1, hc⟩ := mem_edges.1 he
  exact .step h2 (.inl (wf.chi_closed _ h1 _ hc).2)

theorem nodup_dagIter {g : Dag} (wf : g.DWF) {v : Nat} (hv : v ∈ g.nodes) : (g.dagIter v).Nodup :=
  (dagRun_inv wf hv).1

end Dag
