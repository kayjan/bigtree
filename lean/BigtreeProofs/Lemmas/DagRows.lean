import BigtreeProofs.Lemmas.DagExport
import BigtreeProofs.Lemmas.DagExportAttrs
/-! DataFrame format: what `dag_to_dataframe` lists and what `dataframe_to_dag` builds. -/

namespace Dag
open List

/-- the (parent, child) pairs a row list mentions -/
def rowsRel (rows : List Row) : List Edge :=
  rows.filterMap fun r => r.parent.map fun p => (p, r.name)

theorem mem_rowsRel {rows : List Row} {e : Edge} :
    e ∈ rowsRel rows ↔ ∃ r ∈ rows, r.parent = some e.1 ∧ r.name = e.2 := by
  simp only [rowsRel, mem_filterMap, Option.map_eq_some_iff]
  exact ⟨fun ⟨r, hr, _, hq, h⟩ => h ▸ ⟨r, hr, hq, rfl⟩,
    fun ⟨r, hr, hq, hn⟩ => ⟨r, hr, _, hq, Prod.ext rfl hn⟩⟩

theorem rowsRel_cons (r : Row) (rows : List Row) :
    rowsRel (r :: rows) = (match r.parent with | none => [] | some p => [(p, r.name)]) ++ rowsRel rows := by
  unfold rowsRel
  cases h : r.parent <;> simp [h]

theorem rowsRel_append (a b : List Row) : rowsRel (a ++ b) = rowsRel a ++ rowsRel b :=
  filterMap_append

theorem rowsRel_single (r : Row) :
    rowsRel [r] = match r.parent with | none => [] | some p => [(p, r.name)] :=
  (rowsRel_cons r []).trans (append_nil _)

/-! ### drop_duplicates -/

theorem mem_dropDups {l : List Row} {a : Row} : a ∈ dropDups l ↔ a ∈ l := by
  induction l with
  | nil => exact Iff.rfl
  | cons x xs ih =>
    rw [dropDups, mem_cons, mem_cons, mem_filter, ih, bne_iff_ne]
    exact ⟨fun h => h.imp_right And.left, fun h => (Decidable.em (a = x)).imp_right fun hne =>
      ⟨h.resolve_left hne, hne⟩⟩

theorem nodup_dropDups (l : List Row) : (dropDups l).Nodup := by
  induction l with
  | nil => exact nodup_nil
  | cons x xs ih =>
    exact nodup_cons.2 ⟨fun h => by simpa using (mem_filter.1 h).2, ih.filter _⟩

/-! ### the export -/

/-- the row written for the edge `e` (before column alignment) -/
def edgeRow (g : Dag) (sel : AttrSel) (e : Edge) : Row :=
  { name := e.2, parent := some e.1, attrs := expAttrs g sel e.2 }

/-- the row written for a parent-less node `x` (before column alignment) -/
def rootRow (g : Dag) (sel : AttrSel) (x : Nat) : Row :=
  { name := x, parent := none, attrs := expAttrs g sel x }

theorem mem_rawRows {g : Dag} {sel : AttrSel} {v : Nat} {r : Row} :
    r ∈ g.rawRows sel v ↔
      ∃ e ∈ g.dagIter v, (g.parents e.1 = [] ∧ r = g.rootRow sel e.1) ∨ r = g.edgeRow sel e := by
  simp only [rawRows, mem_flatMap, mem_append, mem_singleton]
  refine exists_congr fun e => and_congr_right fun _ => or_congr_left ?_
  split
  · rw [mem_singleton]; exact (and_iff_right (isEmpty_iff.1 ‹_›)).symm
  · exact ⟨(nomatch ·), fun h => absurd (isEmpty_iff.2 h.1) ‹_›⟩

theorem mem_dagToRows {g : Dag} {sel : AttrSel} {v : Nat} {r : Row} :
    r ∈ g.dagToRows sel v ↔
      ∃ r0 ∈ g.rawRows sel v, r = r0.align (columnsOf (g.rawRows sel v)) := by
  simp only [dagToRows, mem_dropDups, mem_map]
  exact exists_congr fun _ => and_congr_right fun _ => eq_comm

theorem edge_rows_dagToRows {g : Dag} {sel : AttrSel} {v : Nat} {r : Row}
    (hr : r ∈ g.dagToRows sel v) {p : Nat} (hp : r.parent = some p) :
    (p, r.name) ∈ g.dagIter v ∧
      r = (g.edgeRow sel (p, r.name)).align (columnsOf (g.rawRows sel v)) := by
  obtain ⟨r0, hr0, rfl⟩ := mem_dagToRows.1 hr
  obtain ⟨e, he, ⟨_, rfl⟩ | rfl⟩ := mem_rawRows.1 hr0
  · cases hp
  · cases hp; exact ⟨he, rfl⟩

theorem mem_rowsRel_dagToRows {g : Dag} {sel : AttrSel} {v : Nat} {e : Edge} :
    e ∈ rowsRel (g.dagToRows sel v) ↔ e ∈ g.dagIter v := by
  obtain ⟨p, c⟩ := e
  rw [mem_rowsRel]
  constructor
  · rintro ⟨r, hr, hp, rfl⟩; exact (edge_rows_dagToRows hr hp).1
  · intro he
    exact ⟨_, mem_dagToRows.2 ⟨_, mem_rawRows.2 ⟨(p, c), he, .inr rfl⟩, rfl⟩, rfl, rfl⟩

theorem nodup_rowsRel_dagToRows {g : Dag} {sel : AttrSel} {v : Nat} :
    (rowsRel (g.dagToRows sel v)).Nodup := by
  refine nodup_filterMap_of_inj (nodup_dropDups _) fun a ha b hb y hya hyb => ?_
  obtain ⟨p, hpa, rfl⟩ := Option.map_eq_some_iff.1 hya
  obtain ⟨q, hpb, hq⟩ := Option.map_eq_some_iff.1 hyb
  obtain ⟨rfl, hn⟩ := Prod.mk.inj hq
  exact (edge_rows_dagToRows ha hpa).2.trans (hn ▸ (edge_rows_dagToRows hb hpb).2.symm)

theorem root_rows_dagToRows {g : Dag} {sel : AttrSel} {v : Nat} {r : Row}
    (hr : r ∈ g.dagToRows sel v) (hp : r.parent = none) :
    g.parents r.name = [] ∧ ∃ e ∈ g.dagIter v, e.1 = r.name := by
  obtain ⟨r0, hr0, rfl⟩ := mem_dagToRows.1 hr
  obtain ⟨e, he, ⟨hroot, rfl⟩ | rfl⟩ := mem_rawRows.1 hr0
  · exact ⟨hroot, e, he, rfl⟩
  · cases hp

theorem attrs_of_mem_dagToRows {g : Dag} {sel : AttrSel} {v : Nat} {r : Row}
    (hr : r ∈ g.dagToRows sel v) :
    r.attrs = (columnsOf (g.rawRows sel v)).map (fun k =>
        (k, ((expAttrs g sel r.name).lookup k).getD .null)) ∧
      ∀ k ∈ keysOf (expAttrs g sel r.name), k ∈ columnsOf (g.rawRows sel v) := by
  obtain ⟨r0, hr0, rfl⟩ := mem_dagToRows.1 hr
  obtain ⟨e, _, ⟨_, rfl⟩ | rfl⟩ := mem_rawRows.1 hr0
  · exact ⟨rfl, fun _ => mem_columnsOf hr0⟩
  · exact ⟨rfl, fun _ => mem_columnsOf hr0⟩

/-- the export always passes `assert_dataframe_no_duplicate_attribute`: rows of one name carry
    the same attribute tuple -/
theorem rowsConsistent_dagToRows (g : Dag) (sel : AttrSel) (v : Nat) :
    rowsConsistent (g.dagToRows sel v) = true := by
  rw [rowsConsistent, all_eq_true]
  intro r hr
  rw [all_eq_true]
  intro r' hr'
  by_cases hn : r.name = r'.name
  · rw [(attrs_of_mem_dagToRows hr).1, (attrs_of_mem_dagToRows hr').1, hn, beq_self_eq_true,
      Bool.or_true]
  · rw [bne_iff_ne.2 hn, Bool.true_or]

/-! ### the constructor -/

theorem rowStep_error (err : Err) (r : Row) : rowStep (.error err) r = .error err := rfl

/-- the first half of the loop body: the row's own node, written with its non-null cells -/
def rowNode (g : Dag) (r : Row) : Dag :=
  (g.newNode r.name (nonNull r.attrs)).setAttrs r.name (nonNull r.attrs)

theorem rowStep_ok (b : Built) (r : Row) : rowStep (.ok b) r =
    match r.parent with
    | none => .ok { b with dag := rowNode b.dag r }
    | some p => (((rowNode b.dag r).newNode p []).setParent r.name p).map
        fun g' => { dag := g', ret := some p } := rfl

theorem nodes_rowNode {g : Dag} {r : Row} {x : Nat} :
    x ∈ (rowNode g r).nodes ↔ x ∈ g.nodes ∨ x = r.name := nodes_newNode

theorem AttrInv.rowNode {A : Nat → Attrs} {names : List Nat} {g : Dag} (h : AttrInv A names g)
    {r : Row} (hA : nonNull r.attrs = A r.name) (hnd : (keysOf (A r.name)).Nodup) :
    AttrInv A (names ++ [r.name]) (rowNode g r) := by
  refine h.write (nodes_rowNode.2 (.inr rfl)) (fun y hy => nodes_rowNode.2 (.inl hy))
    (fun y hy => ?_) fun k => ?_
  · show (if y = r.name then _ else (g.newNode r.name (nonNull r.attrs)).attrs y) = _
    rw [if_neg hy, attrs_newNode, if_neg hy, ite_self]
  · show (if r.name = r.name then attrUpdate ((g.newNode r.name (nonNull r.attrs)).attrs r.name)
      (nonNull r.attrs) else _).lookup k = _
    rw [if_pos rfl, hA, lookup_attrUpdate_nodup _ hnd, attrs_newNode, if_pos rfl]
    split
    · rfl
    · rename_i hx; rw [h.out hx, lookup_nil, Option.or_self, Option.or_none]

theorem Stores.rowNode {S : Nat → Prop} {A : Nat → Attrs} {H H' : Prop} {rel : List Edge}
    {names : List Nat} {g : Dag} (h : Stores S A H rel names g) {r : Row} (hS : S r.name)
    (hH : H' → H ∧ nonNull r.attrs = A r.name ∧ (keysOf (A r.name)).Nodup) :
    Stores S A H' rel (names ++ [r.name]) (rowNode g r) :=
  ⟨(h.tracks.newNode _ _).setAttrs _ _, fun x hx => (nodes_rowNode.1 hx).elim (h.nodes x) (· ▸ hS),
    fun h' => (h.attrs (hH h').1).rowNode (hH h').2.1 (hH h').2.2⟩

/-- **constructor lemma** for `dataframe_to_dag` (rows with one attribute tuple per name); `S`: any
    property of the names in the frame; `A`: the attributes the rows of a name agree on, if they do -/
theorem rowsToDag_spec {S : Nat → Prop} (A : Nat → Attrs) (rows : List Row) (hne : rows ≠ [])
    (hcons : rowsConsistent rows = true)
    (hrows : ∀ r ∈ rows, S r.name ∧ ∀ p, r.parent = some p → S p) :
    Outcome (fun b => Stores S A (∀ r ∈ rows, nonNull r.attrs = A r.name ∧ (keysOf (A r.name)).Nodup)
        (rowsRel rows) (rows.map (·.name)) b.dag)
      (rowsRel rows) (rowsToDag rows) := by
  rw [rowsToDag, if_neg (by simpa using hne), hcons, if_neg (by simp)]
  refine foldl_outcome (step := rowStep) rowsRel []
    (fun done b => Stores S A (∀ r ∈ done, nonNull r.attrs = A r.name ∧ (keysOf (A r.name)).Nodup)
      (rowsRel done) (done.map (·.name)) b.dag)
    (fun r => S r.name ∧ ∀ p, r.parent = some p → S p) rowsRel_append rowStep_error ?_ rows []
    { dag := empty, ret := none } hrows (stores_empty ..) relAcyclic_nil
  rintro done b r ⟨hSn, hSp⟩ h ha
  have h1 : Stores S A (∀ r' ∈ done ++ [r], nonNull r'.attrs = A r'.name ∧ (keysOf (A r'.name)).Nodup)
      (rowsRel done) ((done ++ [r]).map (·.name)) (rowNode b.dag r) :=
    map_append ▸ h.rowNode hSn fun hA =>
      ⟨fun r' hr' => hA r' (mem_append_left _ hr'), hA r (mem_append_right _ (mem_singleton.2 rfl))⟩
  rw [rowsRel_append, rowStep_ok, rowsRel_single]
  cases hpar : r.parent with
  | none =>
    dsimp only
    rw [append_nil]
    exact .ok ha h1
  | some p =>
    dsimp only
    exact (h1.newLink ha (nodes_rowNode.2 (.inr rfl)) (hSp p hpar)).mono fun _ h => h.1

end Dag
