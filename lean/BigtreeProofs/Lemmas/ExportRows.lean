import BigtreeProofs.Lemmas.ExportRoundtrip
/-! Helper lemmas for C06: the DataFrame round trip (columns, normalised rows, null dropping).
Core Lean only. -/

namespace Export

/-- the step of `columnsOf`: a key not seen yet becomes the last column -/
def addKey (cs : List Str) (k : Str) : List Str := if cs.contains k then cs else cs ++ [k]

theorem columnsOf_eq (rows : List Rec) : columnsOf rows = (rows.flatten.map Prod.fst).foldl addKey [] := by
  rw [List.foldl_map, List.foldl_flatten]; rfl

theorem mem_addKey {cs : List Str} {k x : Str} : x ∈ addKey cs k ↔ x ∈ cs ∨ x = k := by
  rw [addKey]
  split
  next h => exact ⟨Or.inl, fun h' => h'.elim id fun e => e ▸ List.contains_iff_mem.mp h⟩
  next => exact List.mem_append.trans (or_congr Iff.rfl List.mem_singleton)

theorem addKey_nodup (cs : List Str) (k : Str) (h : cs.Nodup) : (addKey cs k).Nodup := by
  rw [addKey]
  split
  next => exact h
  next hk =>
    refine List.nodup_append.mpr ⟨h, List.pairwise_singleton .., fun a ha b hb e => ?_⟩
    exact hk (List.contains_iff_mem.mpr (List.mem_singleton.mp hb ▸ e ▸ ha))

theorem prefix_addKey (cs : List Str) (k : Str) : cs <+: addKey cs k := by
  rw [addKey]
  split
  · exact List.prefix_refl cs
  · exact List.prefix_append cs [k]

theorem foldl_addKey_nodup : ∀ (ks cs : List Str), cs.Nodup → (ks.foldl addKey cs).Nodup
  | [], _, h => h
  | k :: ks, cs, h => foldl_addKey_nodup ks _ (addKey_nodup cs k h)

theorem mem_foldl_addKey : ∀ (ks cs : List Str) (x : Str), x ∈ ks.foldl addKey cs ↔ x ∈ cs ∨ x ∈ ks
  | [], cs, x => by rw [List.foldl_nil]; exact ⟨Or.inl, fun h => h.elim id fun h => nomatch h⟩
  | k :: ks, cs, x => by rw [List.foldl_cons, mem_foldl_addKey ks, mem_addKey, List.mem_cons, or_assoc]

theorem prefix_foldl_addKey : ∀ (ks cs : List Str), cs <+: ks.foldl addKey cs
  | [], cs => List.prefix_refl cs
  | k :: ks, cs => (prefix_addKey cs k).trans (prefix_foldl_addKey ks _)

theorem columnsOf_nodup (rows : List Rec) : (columnsOf rows).Nodup := by
  rw [columnsOf_eq]; exact foldl_addKey_nodup _ [] List.nodup_nil

theorem columnsOf_mem (rows : List Rec) (r : Rec) (k : Str) (hr : r ∈ rows) (hk : k ∈ r.map Prod.fst) :
    k ∈ columnsOf rows := by
  obtain ⟨kv, hkv, rfl⟩ := List.mem_map.mp hk
  rw [columnsOf_eq, mem_foldl_addKey]
  exact Or.inr (List.mem_map_of_mem (List.mem_flatten_of_mem hr hkv))

theorem columnsOf_head (k0 : Str) (v0 : Val) (r : Rec) (rows : List Rec) :
    (columnsOf (((k0, v0) :: r) :: rows)).head? = some k0 := by
  rw [columnsOf_eq]
  -- `addKey` only appends, so `[k0]` stays a prefix
  obtain ⟨t, ht⟩ := prefix_foldl_addKey ((r ++ rows.flatten).map Prod.fst) [k0]
  exact ht ▸ rfl

theorem dget_filter_keep (g : Str → Val) (p : Str × Val → Bool) (k : Str) : ∀ (cols : List Str),
    k ∈ cols → p (k, g k) = true → dget ((cols.map fun c => (c, g c)).filter p) k = some (g k)
  | c :: cs, h, hp => by
    rw [List.map_cons, List.filter_cons]
    by_cases e : c = k
    · rw [e, if_pos hp, dget_cons_self]
    · have ih := dget_filter_keep g p k cs ((List.mem_cons.mp h).resolve_left (Ne.symm e)) hp
      split
      · rw [dget, if_neg e, ih]
      · exact ih

theorem dget_filter_drop (g : Str → Val) (p : Str × Val → Bool) (k : Str) (cols : List Str)
    (h : ¬(k ∈ cols ∧ p (k, g k) = true)) : dget ((cols.map fun c => (c, g c)).filter p) k = none := by
  apply dget_of_not_mem
  intro hm
  obtain ⟨kv, hkv, rfl⟩ := List.mem_map.mp hm
  obtain ⟨hmem, hp⟩ := List.mem_filter.mp hkv
  obtain ⟨c, hc, rfl⟩ := List.mem_map.mp hmem
  exact h ⟨hc, hp⟩

theorem dget_map_cols (g : Str → Val) (k : Str) (cols : List Str) (h : k ∈ cols) :
    dget (cols.map fun c => (c, g c)) k = some (g k) := by
  have := dget_filter_keep g (fun _ => true) k cols h rfl
  rwa [List.filter_eq_self.mpr fun _ _ => rfl] at this

/-- the row predicate of `filter_attributes(row, omit_keys=["name", path_col], omit_null_values=True)` -/
def rowKeep (pc : Str) (kv : Str × Val) : Bool := kv.2 != Val.null && kv.1 != strName && kv.1 != pc

theorem filterRowAttrs_eq (pc : Str) (r : Rec) : filterRowAttrs pc r = r.filter (rowKeep pc) := rfl

theorem rowAttrs_get (pc : Str) (cols : List Str) (a : Attrs)
    (hsub : ∀ k ∈ (describe a).map Prod.fst, k ∈ cols) (hpc : pc ∉ (describe a).map Prod.fst) (k : Str) :
    getAttr (rowAttrs pc cols a) k = getAttr (describe a) k := by
  rw [rowAttrs, filterRowAttrs_eq, getAttr]
  by_cases h : k ∈ cols ∧ rowKeep pc (k, getAttr (describe a) k) = true
  · rw [dget_filter_keep _ _ k cols h.1 h.2]; rfl
  · -- the cell is dropped: the column is missing, or the value is null, or the key is `name` or `pc`
    rw [dget_filter_drop _ _ k cols h, Option.getD_none, getAttr]
    by_cases hk : k ∈ cols
    · have hr : rowKeep pc (k, getAttr (describe a) k) = false := Bool.eq_false_iff.mpr fun hh => h ⟨hk, hh⟩
      simp only [rowKeep, Bool.and_eq_false_iff, bne_eq_false_iff_eq] at hr
      rcases hr with (hr | hr) | hr
      · exact hr.symm
      · rw [hr, dget_of_not_mem _ _ (describe_no_name a)]; rfl
      · rw [hr, dget_of_not_mem _ _ hpc]; rfl
    · rw [dget_of_not_mem _ _ (fun hmem => hk (hsub k hmem))]; rfl

theorem rowAttrs_keys_nodup (pc : Str) (cols : List Str) (hn : cols.Nodup) (a : Attrs) :
    ((rowAttrs pc cols a).map Prod.fst).Nodup := by
  have h : ((cols.map fun c => (c, getAttr (describe a) c)).map Prod.fst) = cols := by
    rw [List.map_map]; exact List.map_id' _
  exact List.Nodup.sublist (List.filter_sublist.map Prod.fst) (h.symm ▸ hn)

/-- the row a full export contributes for a node -/
def fullRow (sep : Char) (pc : Str) (x : List Str × Tree) : Rec :=
  (pc, .str (pathName sep x.1 x.2.name)) :: (strName, .str x.2.name) :: describe x.2.attrs

theorem record_full_rows (sep : Char) (pc : Str) (anc : List Str) (t : Tree) (hpc : pc ≠ [] ∧ pc ≠ strName)
    (h : NodeOK t) (hk : pc ∉ t.attrs.map Prod.fst) :
    record (fullOpts pc) sep anc t = fullRow sep pc (anc, t) := by
  unfold record
  simp only [fullOpts, ne_eq, hpc.1, not_false_eq_true, if_true, strName_ne_nil, not_true_eq_false, if_false, dset,
    if_neg hpc.2]
  refine addAttrs_full _ _ _ rfl h.2.1 fun k hk1 hk2 => ?_
  rcases List.mem_cons.mp hk2 with e | e
  · obtain ⟨kv, hkv, rfl⟩ := List.mem_map.mp hk1
    exact hk (List.mem_map.mpr ⟨kv, describe_mem _ _ hkv, e⟩)
  · exact describe_no_name t.attrs ((List.mem_singleton.mp e : k = strName) ▸ hk1)

theorem treeToRows_full (sep : Char) (pc : Str) (t : Tree) (anc : List Str) (hpc : pc ≠ [] ∧ pc ≠ strName)
    (h1 : AllNodes NodeOK t) (h3 : AllNodes (fun u => pc ∉ u.attrs.map Prod.fst) t) :
    treeToRows (fullOpts pc) sep anc t = (preCtx anc t).map (fullRow sep pc) := by
  rw [treeToRows, appendRows_eq, List.nil_append, rowsSpec, List.filter_eq_self.mpr (fun x _ => selected_full pc x)]
  exact List.map_congr_left fun x hx =>
    record_full_rows sep pc x.1 x.2 hpc (allNodes_preCtx NodeOK t anc h1 x hx) (allNodes_preCtx _ t anc h3 x hx)

/-- a row of `frame`: one cell per column, null where the record has no such key -/
def normRow (cols : List Str) (r : Rec) : Rec := cols.map fun c => (c, (dget r c).getD .null)

theorem frame_eq (rows : List Rec) : frame rows = (columnsOf rows, rows.map (normRow (columnsOf rows))) := rfl

theorem filterRowAttrs_norm (sep : Char) (pc : Str) (cols : List Str) (x : List Str × Tree) :
    filterRowAttrs pc (normRow cols (fullRow sep pc x)) = rowAttrs pc cols x.2.attrs := by
  rw [rowAttrs, filterRowAttrs_eq, filterRowAttrs_eq, normRow]
  induction cols with
  | nil => rfl
  | cons c cs ih =>
    rw [List.map_cons, List.map_cons, List.filter_cons, List.filter_cons, ih]
    by_cases e1 : c = pc
    · simp [rowKeep, e1]
    · by_cases e2 : c = strName
      · simp [rowKeep, e2]
      · rw [show (dget (fullRow sep pc x) c).getD Val.null = getAttr (describe x.2.attrs) c by
          rw [fullRow, dget, if_neg (Ne.symm e1), dget, if_neg (Ne.symm e2)]; rfl]

theorem rowPaths_full (sep : Char) (pc : Str) (cols : List Str) (hpc : pc ∈ cols) :
    ∀ (l : List (List Str × Tree)), (∀ x ∈ l, CompsOK sep (x.1 ++ [x.2.name])) →
    rowPaths sep pc ((l.map (fullRow sep pc)).map (normRow cols))
      = some (l.map fun x => joinC sep (x.1 ++ [x.2.name]))
  | [], _ => rfl
  | x :: xs, h => by
    have : rowPath sep pc (normRow cols (fullRow sep pc x)) = some (joinC sep (x.1 ++ [x.2.name])) := by
      rw [rowPath, normRow, dget_map_cols _ pc cols hpc, fullRow, dget_cons_self]
      exact congrArg some
        (stripC_joinC sep (x.1 ++ [x.2.name]) (List.concat_ne_nil _ _) (h x List.mem_cons_self) [sep] fun _ h => h)
    rw [List.map_cons, List.map_cons, rowPaths, this,
      rowPaths_full sep pc cols hpc xs (fun y hy => h y (List.mem_cons_of_mem _ hy))]
    rfl

/-- `dataframe_to_tree` on a frame whose first column is `pc` and whose first path is the bare root
name `n`: the root attributes come from the first row, and the rest is the insertion loop -/
theorem rowsToTree_of_head (sep : Char) (pc : Str) (cols : List Str) (rows : List Rec) (paths : List Str) (n : Str)
    (r0 : Rec) (hn : n ≠ []) (hsep : sep ∉ n) (hc : cols.head? = some pc) (hr : rows.head? = some r0)
    (hp : rowPaths sep pc rows = some paths) (hp0 : paths.head? = some n) :
    rowsToTree sep (cols, rows)
      = foldInsert sep (.node 0 n (filterRowAttrs pc r0) []) ((rows.zip paths).map fun x => (x.2, filterRowAttrs pc x.1)) := by
  cases cols with
  | nil => cases hc
  | cons c cols' =>
    cases rows with
    | nil => cases hr
    | cons r rows' =>
      cases paths with
      | nil => cases hp0
      | cons p paths' =>
        cases Option.some.inj hc
        cases Option.some.inj hr
        cases Option.some.inj hp0
        have hfind : ((r0, n) :: rows'.zip paths').find? (fun x => x.2 == n) = some (r0, n) :=
          List.find?_cons_of_pos (beq_self_eq_true n)
        rw [rowsToTree]
        simp only [hp, List.headD_cons, splitC_nosep sep n hsep, List.zip_cons_cons, if_neg hn, hfind]

theorem rowsToTree_full (sep : Char) (pc : Str) (i : Nat) (n : Str) (a : Attrs) (cs : List Tree)
    (hpc : pc ≠ [] ∧ pc ≠ strName)
    (h1 : AllNodes NodeOK (.node i n a cs)) (h2 : AllNodes (SepFree sep) (.node i n a cs))
    (h3 : AllNodes (fun u => pc ∉ u.attrs.map Prod.fst) (.node i n a cs)) :
    rowsToTree sep (frame (treeToRows (fullOpts pc) sep [] (.node i n a cs)))
      = some (canonWith (rowAttrs pc (columnsOf (treeToRows (fullOpts pc) sep [] (.node i n a cs)))) (.node i n a cs)) := by
  have hn : n ≠ [] ∧ sep ∉ n := ⟨h1.1.1, h2.1⟩
  rw [treeToRows_full sep pc _ [] hpc h1 h3, frame_eq]
  generalize hcols : columnsOf ((preCtx [] (.node i n a cs)).map (fullRow sep pc)) = cols
  have hnd : cols.Nodup := hcols ▸ columnsOf_nodup _
  have hhead : cols.head? = some pc := by rw [← hcols, preCtx]; exact columnsOf_head ..
  rw [rowsToTree_of_head sep pc cols _ _ n (normRow cols (fullRow sep pc ([], .node i n a cs))) hn.1 hn.2 hhead
      (by rw [preCtx]; rfl)
      (rowPaths_full sep pc cols (List.mem_of_mem_head? hhead) _ (preCtx_comps sep _ [] h1 h2 (fun _ h => nomatch h)))
      (by rw [preCtx]; rfl),
    List.map_map, List.zip_map', List.map_map]
  simp only [Function.comp_def, filterRowAttrs_norm]
  exact foldInsert_preCtx sep (joinC sep) (decodes_lead sep [] fun _ h => nomatch h) (rowAttrs pc cols)
    (fun b _ => rowAttrs_keys_nodup pc cols hnd b) i n a cs h1 h2

end Export
