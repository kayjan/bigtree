import BigtreeProofs.Lemmas.DiffJoin
/-!
# C15: attribute differences, the deque of changed paths and the kept rows, at component level
-/
namespace Helper

/-! ## marked paths -/

theorem markPM_both (t1 t2 : Tree) (p : List Str) (hp : p ∈ allPaths t1 t2) (hb : indC t1 t2 p = .both) :
    markPM t1 t2 p = p := by
  obtain ⟨h1, h2⟩ := (indC_both_iff t1 t2 p hp).mp hb
  rw [compPaths_eq] at h1 h2
  refine markFull_same _ p fun r hr hne => (stPM_eq_iff t1 t2 r .both).mpr (indC_of_mem t1 t2 r ?_ ?_)
  · exact compPaths_eq t1 ▸ keys_prefix_closed t1 p r h1 hr hne
  · exact compPaths_eq t2 ▸ keys_prefix_closed t2 p r h2 hr hne

theorem markPM_eq_both (c : Char) (t1 t2 : Tree) (h : DiffOK c t1 t2) (p q : List Str)
    (hp : p ∈ allPaths t1 t2) (hq : q ∈ allPaths t1 t2) (hb : indC t1 t2 q = .both)
    (he : markPM t1 t2 p = q) : p = q := by
  rw [← markPM_both t1 t2 q hq hb] at he
  exact markFull_inj _ p q (fun n hn => ((allPaths_good c t1 t2 h p hp).2 n hn).2.2)
    (fun n hn => ((allPaths_good c t1 t2 h q hq).2 n hn).2.2) he

theorem markPM_head (c : Char) (t1 t2 : Tree) (h : DiffOK c t1 t2) (p : List Str) (hp : p ∈ allPaths t1 t2) :
    ∃ rest, markPM t1 t2 p = t1.name :: rest := by
  have hroot : stPM t1 t2 [t1.name] = .same :=
    (stPM_eq_iff _ _ _ .both).mpr (indC_of_mem t1 t2 _ (compPaths_eq t1 ▸ root_mem_keys t1)
      (compPaths_eq t2 ▸ h.root ▸ root_mem_keys t2))
  have hhead : ∃ rest, p = t1.name :: rest := by
    rw [mem_allPaths, compPaths_eq, compPaths_eq] at hp
    exact hp.elim (keys_head t1 p) fun hp => h.root ▸ keys_head t2 p hp
  obtain ⟨rest, rfl⟩ := hhead
  rw [markPM, markFull_eq_relabel, relabel_cons, List.nil_append, hroot]
  exact ⟨_, congrArg (· :: _) (List.append_nil _)⟩

/-! ## attribute differences -/

/-- the row filter of the per-attribute comparison: `p` is in both trees and column `k` differs -/
def diffAt (t1 t2 : Tree) (k : Str) (p : List Str) : Bool :=
  valAt t1 k p != valAt t2 k p && indC t1 t2 p == .both

/-- the `(old, new)` value pair recorded for attribute `k` at `p` -/
def pairOf (t1 t2 : Tree) (k : Str) (p : List Str) : Upd := .pair k (valAt t1 k p) (valAt t2 k p)

/-- the value-pair updates, at component level -/
def pairUpdsC (attrList : List Str) (t1 t2 : Tree) : List (List Str × Upd) :=
  attrList.flatMap fun k => ((allPaths t1 t2).filter (diffAt t1 t2 k)).map fun p => (p, pairOf t1 t2 k p)

/-- the `(~x.isnull() | ~y.isnull())` part of bigtree's row filter is implied by `x != y` -/
theorem notnull_guard_redundant (x y : Val) : ((x != .null || y != .null) && x != y) = (x != y) := by
  by_cases h : x = y
  · rw [h, bne_self_eq_false, Bool.and_false]
  · have : (x != .null || y != .null) = true := by
      rw [Bool.or_eq_true, bne_iff_ne, bne_iff_ne]
      exact Classical.not_and_iff_not_or_not.mp fun ⟨hx, hy⟩ => h (hx.trans hy.symm)
    rw [this, Bool.true_and]

theorem valsAt_getD (attrList : List Str) (t : Tree) (p : List Str) (k : Str) (j : Nat)
    (h : attrList[j]? = some k) : (valsAt attrList t p).getD j .null = valAt t k p := by
  rw [valsAt, List.getD_eq_getElem?_getD, List.getElem?_map, h]; rfl

theorem zipIdx_flatMap_congr {α β} (l : List α) (g : α × Nat → List β) (g' : α → List β)
    (h : ∀ k j, l[j]? = some k → g (k, j) = g' k) : l.zipIdx.flatMap g = l.flatMap g' := by
  have h1 : l.zipIdx.map g = l.zipIdx.map (g' ∘ Prod.fst) :=
    List.map_congr_left fun x hx => h x.1 x.2 (List.mem_zipIdx_iff_getElem?.mp hx)
  rw [List.flatMap_def, h1, ← List.map_map, List.zipIdx_map_fst, ← List.flatMap_def]

theorem attrDiffRows_eq (c : Char) (attrList : List Str) (t1 t2 : Tree) (k : Str) (j : Nat)
    (hj : attrList[j]? = some k) (l : List (List Str)) :
    attrDiffRows j (l.map (mrow c attrList t1 t2)) = (l.filter (diffAt t1 t2 k)).map (mrow c attrList t1 t2) := by
  rw [attrDiffRows, List.filter_map]
  refine congrArg _ (List.filter_congr fun p _ => ?_)
  simp only [Function.comp_apply, mrow, jrow, valsAt_getD _ _ _ _ _ hj, notnull_guard_redundant, diffAt]

theorem attrDiffs_flatten (c : Char) (attrList : List Str) (t1 t2 : Tree) :
    (attrDiffs attrList ((allPaths t1 t2).map (mrow c attrList t1 t2))).flatten =
      (pairUpdsC attrList t1 t2).map fun pu => (pathName [c] pu.1, pu.2) := by
  rw [attrDiffs, pairUpdsC, List.flatten_filter_not_isEmpty, ← List.flatMap_def, List.map_flatMap]
  refine zipIdx_flatMap_congr _ _ _ fun k j hj => ?_
  dsimp only
  rw [attrDiffRows_eq c attrList t1 t2 k j hj, List.map_map, List.map_map]
  refine List.map_congr_left fun p hp => ?_
  have hb : indC t1 t2 p = .both :=
    beq_iff_eq.mp (Bool.and_eq_true_iff.mp (List.mem_filter.mp hp).2).2
  simp only [Function.comp_apply, mrow, jrow, valsAt_getD _ _ _ _ _ hj, pairOf,
    markPM_both t1 t2 p (List.mem_filter.mp hp).1 hb]

/-- the changed paths (component level), in deque order -/
def dequeC (attrList : List Str) (t1 t2 : Tree) : List (List Str) := (pairUpdsC attrList t1 t2).map (·.1)

theorem mem_dequeC (attrList : List Str) (t1 t2 : Tree) (q : List Str) :
    q ∈ dequeC attrList t1 t2 ↔ q ∈ allPaths t1 t2 ∧ ∃ k ∈ attrList, diffAt t1 t2 k q = true := by
  simp only [dequeC, pairUpdsC, List.map_flatMap, List.map_map, Function.comp_def, List.map_id',
    List.mem_flatMap, List.mem_filter]
  exact ⟨fun ⟨k, hk, hq, hd⟩ => ⟨hq, k, hk, hd⟩, fun ⟨hq, k, hk, hd⟩ => ⟨k, hk, hq, hd⟩⟩

theorem deque_eq_dequeC (c : Char) (attrList : List Str) (t1 t2 : Tree) :
    ((attrDiffs attrList ((allPaths t1 t2).map (mrow c attrList t1 t2))).flatMap fun d => d.map (·.1)) =
      (dequeC attrList t1 t2).map (pathName [c]) := by
  rw [List.flatMap_def, ← List.map_flatten, attrDiffs_flatten c attrList t1 t2, dequeC, List.map_map,
    List.map_map]
  rfl

theorem dequeC_both (attrList : List Str) (t1 t2 : Tree) (q : List Str) (hq : q ∈ dequeC attrList t1 t2) :
    q ∈ allPaths t1 t2 ∧ indC t1 t2 q = .both := by
  obtain ⟨hq, k, _, hd⟩ := (mem_dequeC attrList t1 t2 q).mp hq
  exact ⟨hq, beq_iff_eq.mp (Bool.and_eq_true_iff.mp hd).2⟩

theorem markPM_mem_dequeC (c : Char) (attrList : List Str) (t1 t2 : Tree) (h : DiffOK c t1 t2)
    (p : List Str) (hp : p ∈ allPaths t1 t2) :
    markPM t1 t2 p ∈ dequeC attrList t1 t2 ↔ p ∈ dequeC attrList t1 t2 := by
  constructor
  · intro hm
    obtain ⟨hma, hmb⟩ := dequeC_both attrList t1 t2 _ hm
    exact markPM_eq_both c t1 t2 h p _ hp hma hmb rfl ▸ hm
  · intro hq
    obtain ⟨hqa, hqb⟩ := dequeC_both attrList t1 t2 p hq
    rwa [markPM_both t1 t2 p hqa hqb]

theorem deque_contains_eq_dequeC (c : Char) (attrList : List Str) (t1 t2 : Tree) (h : DiffOK c t1 t2)
    (p : List Str) (hp : p ∈ allPaths t1 t2) :
    ((dequeC attrList t1 t2).map (pathName [c])).contains (pathName [c] (markPM t1 t2 p)) =
      (dequeC attrList t1 t2).contains p := by
  rw [Bool.eq_iff_iff, List.contains_iff_mem, List.contains_iff_mem,
    ← markPM_mem_dequeC c attrList t1 t2 h p hp, List.mem_map]
  have gp := allPaths_good c t1 t2 h p hp
  have gm := markFull_good c (stPM t1 t2) p h.sepOK (fun n hn => ⟨(gp.2 n hn).1, (gp.2 n hn).2.1⟩)
  refine ⟨fun ⟨q, hq, he⟩ => ?_, fun hm => ⟨_, hm, rfl⟩⟩
  have gq := allPaths_good c t1 t2 h q (dequeC_both attrList t1 t2 q hq).1
  exact pathName_inj c q (markPM t1 t2 p) gq.1 (mt (markFull_eq_nil _ p).mp gp.1)
    (fun x hx => (gq.2 x hx).2.1) (fun x hx => (gm x hx).2) he ▸ hq

/-! ## status -/

theorem contains_compPaths (t : Tree) (p : List Str) : (compPaths t).contains p = (attrsAt t p).isSome := by
  rw [Bool.eq_iff_iff, List.contains_iff_mem, ← attrsAt_isSome_iff, Option.isSome_iff_exists]

theorem mem_dequeC_iff_changedAttrs (attrList : List Str) (t1 t2 : Tree) (p : List Str) :
    p ∈ dequeC attrList t1 t2 ↔ ∃ a1 a2, attrsAt t1 p = some a1 ∧ attrsAt t2 p = some a2 ∧
      changedAttrs attrList a1 a2 ≠ [] := by
  rw [mem_dequeC]
  constructor
  · rintro ⟨hp, k, hk, hd⟩
    obtain ⟨hv, hb⟩ := Bool.and_eq_true_iff.mp hd
    obtain ⟨h1, h2⟩ := (indC_both_iff t1 t2 p hp).mp (beq_iff_eq.mp hb)
    obtain ⟨a1, h1⟩ := (attrsAt_isSome_iff t1 p).mpr h1
    obtain ⟨a2, h2⟩ := (attrsAt_isSome_iff t2 p).mpr h2
    rw [valAt_some t1 k p a1 h1, valAt_some t2 k p a2 h2] at hv
    exact ⟨a1, a2, h1, h2, (changedAttrs_ne_nil_iff ..).mpr ⟨k, hk, bne_iff_ne.mp hv⟩⟩
  · rintro ⟨a1, a2, h1, h2, hc⟩
    obtain ⟨k, hk, hv⟩ := (changedAttrs_ne_nil_iff ..).mp hc
    have m1 := (attrsAt_isSome_iff t1 p).mp ⟨a1, h1⟩
    have m2 := (attrsAt_isSome_iff t2 p).mp ⟨a2, h2⟩
    refine ⟨(mem_allPaths t1 t2 p).mpr (.inl m1), k, hk, ?_⟩
    rw [diffAt, valAt_some t1 k p a1 h1, valAt_some t2 k p a2 h2, indC_of_mem t1 t2 p m1 m2]
    exact Bool.and_eq_true_iff.mpr ⟨bne_iff_ne.mpr hv, rfl⟩

theorem status_eq (attrList : List Str) (t1 t2 : Tree) (p : List Str) :
    status attrList t1 t2 p = if p ∈ dequeC attrList t1 t2 then .changed else stPM t1 t2 p := by
  by_cases hd : p ∈ dequeC attrList t1 t2
  · obtain ⟨a1, a2, h1, h2, hc⟩ := (mem_dequeC_iff_changedAttrs ..).mp hd
    rw [if_pos hd, status, h1, h2]
    exact if_neg hc
  · rw [if_neg hd, stPM, indC, contains_compPaths, contains_compPaths, status]
    cases h1 : attrsAt t1 p with
    | none => cases attrsAt t2 p <;> rfl
    | some a1 =>
      cases h2 : attrsAt t2 p with
      | none => rfl
      | some a2 =>
        exact if_pos (Classical.not_not.mp fun hc => hd ((mem_dequeC_iff_changedAttrs ..).mpr ⟨a1, a2, h1, h2, hc⟩))

theorem status_changed_iff (attrList : List Str) (t1 t2 : Tree) (p : List Str) :
    status attrList t1 t2 p = .changed ↔ p ∈ dequeC attrList t1 t2 := by
  rw [status_eq]
  by_cases hd : p ∈ dequeC attrList t1 t2
  · rw [if_pos hd]; exact iff_of_true rfl hd
  · rw [if_neg hd]; exact iff_of_false (stPM_ne_changed t1 t2 p) hd

theorem status_bne_same (attrList : List Str) (t1 t2 : Tree) (p : List Str) :
    (status attrList t1 t2 p != .same) =
      (indC t1 t2 p != .both || (dequeC attrList t1 t2).contains p) := by
  rw [status_eq]
  by_cases hd : p ∈ dequeC attrList t1 t2
  · rw [if_pos hd, List.contains_iff_mem.mpr hd, Bool.or_true]; rfl
  · rw [if_neg hd, Bool.eq_false_iff.mpr (mt List.contains_iff_mem.mp hd), Bool.or_false, stPM]
    cases indC t1 t2 p <;> rfl

theorem status_eq_iff_indC (attrList : List Str) (t1 t2 : Tree) (p : List Str) (i : Ind) (hi : i ≠ .both) :
    status attrList t1 t2 p = i.status ↔ indC t1 t2 p = i := by
  rw [status_eq, ← stPM_eq_iff]
  by_cases hd : p ∈ dequeC attrList t1 t2
  · rw [if_pos hd]
    exact iff_of_false (fun e => by cases i <;> cases e)
      fun e => hi (((stPM_eq_iff ..).mp e).symm.trans (dequeC_both _ _ _ _ hd).2)
  · rw [if_neg hd]

/-! ## the kept rows and the kept paths -/

/-- component-level kept rows (before closing under prefixes) -/
def keptC (attrList : List Str) (t1 t2 : Tree) (onlyDiff : Bool) : List (List Str) :=
  if onlyDiff then (allPaths t1 t2).filter fun p => status attrList t1 t2 p != .same else allPaths t1 t2

theorem keptRows_eq (c : Char) (attrList : List Str) (t1 t2 : Tree) (h : DiffOK c t1 t2) (onlyDiff : Bool) :
    keptRows onlyDiff ((dequeC attrList t1 t2).map (pathName [c])) ((allPaths t1 t2).map (mrow c attrList t1 t2)) =
      (keptC attrList t1 t2 onlyDiff).map (mrow c attrList t1 t2) := by
  cases onlyDiff with
  | false => rfl
  | true =>
    rw [keptRows, keptC, if_pos rfl, if_pos rfl, List.filter_map]
    refine congrArg _ (List.filter_congr fun p hp => ?_)
    rw [Function.comp_apply, status_bne_same]
    exact congrArg _ (deque_contains_eq_dequeC c attrList t1 t2 h p hp)

theorem keptC_sub (attrList : List Str) (t1 t2 : Tree) (onlyDiff : Bool) (p : List Str)
    (h : p ∈ keptC attrList t1 t2 onlyDiff) : p ∈ allPaths t1 t2 := by
  cases onlyDiff with
  | false => exact h
  | true => exact (List.mem_filter.mp h).1

theorem mem_keptPaths_iff (attrList : List Str) (t1 t2 : Tree) (onlyDiff : Bool) (p : List Str) :
    p ∈ keptPaths attrList t1 t2 onlyDiff ↔
      p ∈ allPaths t1 t2 ∧ ∃ q ∈ keptC attrList t1 t2 onlyDiff, p <+: q := by
  cases onlyDiff with
  | false => exact ⟨fun h => ⟨h, p, h, List.prefix_refl _⟩, fun h => h.1⟩
  | true =>
    simp only [keptPaths, keptC, if_true, List.mem_filter, List.any_eq_true, Bool.and_eq_true,
      List.isPrefixOf_iff_prefix, and_assoc]

theorem keptPaths_nodup (c : Char) (attrList : List Str) (t1 t2 : Tree) (h : DiffOK c t1 t2) (onlyDiff : Bool) :
    (keptPaths attrList t1 t2 onlyDiff).Nodup := by
  cases onlyDiff with
  | false => exact allPaths_nodup c t1 t2 h
  | true => exact (allPaths_nodup c t1 t2 h).filter _

theorem keptPaths_eq_nil_iff (attrList : List Str) (t1 t2 : Tree) (onlyDiff : Bool) :
    keptPaths attrList t1 t2 onlyDiff = [] ↔ keptC attrList t1 t2 onlyDiff = [] := by
  simp only [List.eq_nil_iff_forall_not_mem, mem_keptPaths_iff]
  exact ⟨fun h p hp => h p ⟨keptC_sub _ _ _ _ p hp, p, hp, List.prefix_refl _⟩,
    fun h p ⟨_, q, hq, _⟩ => h q hq⟩

/-! ## carried values -/

theorem changedAttrs_flatMap (attrList : List Str) (a1 a2 : Attrs) :
    ((changedAttrs attrList a1 a2).flatMap fun kxy => [(kxy.1, kxy.2.1), (kxy.1, kxy.2.2)]) =
      (attrList.filter fun k => getAttr a1 k != getAttr a2 k).flatMap fun k =>
        [(k, getAttr a1 k), (k, getAttr a2 k)] := by
  induction attrList with
  | nil => rfl
  | cons k l ih =>
    rw [changedAttrs, List.filterMap_cons, List.filter_cons]
    by_cases hk : getAttr a1 k = getAttr a2 k
    · rw [if_pos hk, if_neg (mt bne_iff_ne.mp (not_not_intro hk))]; exact ih
    · rw [if_neg hk, if_pos (bne_iff_ne.mpr hk), List.flatMap_cons, List.flatMap_cons]
      exact congrArg _ ih

theorem carried_of_some (attrList : List Str) (t1 t2 : Tree) (p : List Str) (a1 a2 : Attrs)
    (h1 : attrsAt t1 p = some a1) (h2 : attrsAt t2 p = some a2) :
    carried attrList t1 t2 p =
      (attrList.filter fun k => diffAt t1 t2 k p).flatMap fun k => [(k, valAt t1 k p), (k, valAt t2 k p)] := by
  have hd : ∀ k, diffAt t1 t2 k p = (getAttr a1 k != getAttr a2 k) := fun k => by
    rw [diffAt, valAt_some t1 k p a1 h1, valAt_some t2 k p a2 h2,
      indC_of_mem t1 t2 p ((attrsAt_isSome_iff t1 p).mp ⟨a1, h1⟩) ((attrsAt_isSome_iff t2 p).mp ⟨a2, h2⟩)]
    exact Bool.and_true _
  simp only [carried, h1, h2, changedAttrs_flatMap, hd, valAt_some _ _ _ _ h1, valAt_some _ _ _ _ h2]

theorem carried_of_not_mem (attrList : List Str) (t1 t2 : Tree) (p : List Str)
    (hd : p ∉ dequeC attrList t1 t2) : carried attrList t1 t2 p = [] := by
  rw [carried]
  cases h1 : attrsAt t1 p with
  | none => rfl
  | some a1 =>
    cases h2 : attrsAt t2 p with
    | none => rfl
    | some a2 =>
      have : changedAttrs attrList a1 a2 = [] :=
        Classical.not_not.mp fun hc => hd ((mem_dequeC_iff_changedAttrs ..).mpr ⟨a1, a2, h1, h2, hc⟩)
      show (changedAttrs attrList a1 a2).flatMap _ = []
      rw [this]; rfl

end Helper
