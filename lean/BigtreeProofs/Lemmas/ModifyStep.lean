import BigtreeModel.Modify
import BigtreeProofs.Lemmas.ModifyFold
import BigtreeProofs.Lemmas.ModifyTree
import BigtreeProofs.Lemmas.ModifyStr
/-!
# C08 helper lemmas: one pair with a printed full to-path, separator `c` everywhere

What the public call does with such a pair, without strings: the call is `decideTo` followed by `attach`
(`copyOrShift_move`), the destination decision looks the address up in the tree (`decideTo_pathStr`), and
`attach` hands one definite object to each of its branches.
-/
namespace Modify

variable {cfg : Cfg} {c : Char}

/-! ### a to-path that is not the empty string -/

theorem normTo_some {p : Str} (h : p ≠ []) :
    normTo cfg (some p) = some (replace cfg.sep cfg.tsep (stripR cfg.sep p)) := by
  cases p with
  | nil => exact absurd rfl h
  | cons _ _ => rfl

theorem isDelete_some {p : Str} (h : p ≠ []) : isDelete (some p) = false := by
  cases p with
  | nil => exact absurd rfl h
  | cons _ _ => rfl

theorem nameOk_some {fs tp : Str} (h : tp ≠ []) :
    nameOk cfg (fs, some tp) = (lastComp cfg.fsep fs == lastComp cfg.tsep tp) := by
  cases tp with
  | nil => exact absurd rfl h
  | cons _ _ => rfl

theorem toRootOk_some {r x tp : Str} (h : tp ≠ []) :
    toRootOk cfg r (x, some tp) = (headComp cfg.tsep tp == r) := by
  cases tp with
  | nil => exact absurd rfl h
  | cons _ _ => rfl

/-! ### printed paths -/

theorem pathStr_ne_nil (r : Str) (p : List Str) : pathStr c r p ≠ [] :=
  List.cons_ne_nil c _

theorem stripR_pathStr {r : Str} {p : List Str} (hg : GoodNames c (r :: p)) :
    stripR [c] (pathStr c r p) = pathStr c r p :=
  stripR_pathName _ (List.cons_ne_nil _ _) hg

theorem lastComp_pathStr {r : Str} {p : List Str} {l : Str} (hg : GoodNames c (r :: p ++ [l])) :
    lastComp [c] (pathStr c r (p ++ [l])) = l :=
  (lastComp_pathName (r :: p ++ [l]) (by simp) hg).trans List.getLast_concat

theorem headComp_pathStr {r : Str} {p : List Str} (hg : GoodNames c (r :: p)) :
    headComp [c] (pathStr c r p) = r :=
  headComp_pathName _ _ hg

theorem normFrom_pathStr (hc : cfg.Plain c) (r : Str) (p : List Str) (hg : GoodNames c (r :: p)) :
    normFrom cfg (pathStr c r p) = pathStr c r p := by
  unfold normFrom
  rw [hc.sep, hc.fsep, replace_self, stripR_pathStr hg]

theorem normTo_pathStr (hc : cfg.Plain c) (r : Str) (p : List Str) (hg : GoodNames c (r :: p)) :
    normTo cfg (some (pathStr c r p)) = some (pathStr c r p) := by
  rw [normTo_some (pathStr_ne_nil r p), hc.sep, hc.tsep, replace_self, stripR_pathStr hg]

theorem findFullPath_pathStr (t : Tree) (p : List Str) (hg : GoodNames c (t.name :: p)) :
    findFullPath [c] t (pathStr c t.name p) = .ok ((getRel p t).map (fun x => (p, x))) := by
  unfold findFullPath pathStr
  rw [comps_pathName _ _ hg]
  simp

theorem nameOk_pathStr (hc : cfg.Plain c) (r r' : Str) (p p' : List Str) (l : Str)
    (hg : GoodNames c (r :: p ++ [l])) (hg' : GoodNames c (r' :: p' ++ [l])) :
    nameOk cfg (pathStr c r (p ++ [l]), some (pathStr c r' (p' ++ [l]))) = true := by
  rw [nameOk_some (pathStr_ne_nil _ _), hc.fsep, hc.tsep, lastComp_pathStr hg, lastComp_pathStr hg',
    beq_self_eq_true]

theorem fromRootOk_pathStr (hc : cfg.Plain c) (r : Str) (p : List Str) (x : Option Str)
    (hg : GoodNames c (r :: p)) : fromRootOk cfg r (pathStr c r p, x) = true := by
  unfold fromRootOk
  rw [hc.fsep, headComp_pathStr hg, beq_self_eq_true]

theorem toRootOk_pathStr (hc : cfg.Plain c) (r : Str) (p : List Str) (x : Str)
    (hg : GoodNames c (r :: p)) : toRootOk cfg r (x, some (pathStr c r p)) = true := by
  rw [toRootOk_some (pathStr_ne_nil _ _), hc.tsep, headComp_pathStr hg, beq_self_eq_true]

/-- a printed full path with `with_full_path=True` -/
theorem FromOK.full (hc : cfg.Plain c) (hfull : cfg.withFullPath = true) (t : Tree) (fpar : List Str)
    (l : Str) (F : Tree) (hg : GoodNames c (t.name :: fpar ++ [l])) (hF : getRel (fpar ++ [l]) t = some F) :
    FromOK cfg t (pathStr c t.name (fpar ++ [l])) (fpar ++ [l]) F l where
  norm := normFrom_pathStr hc _ _ hg
  res := by rw [if_pos hfull, hc.fsep, findFullPath_pathStr t (fpar ++ [l]) hg, hF]; rfl
  found := hF
  last := by rw [hc.fsep, lastComp_pathStr hg]
  root := fun _ => by rw [hc.fsep, headComp_pathStr (p := fpar ++ [l]) hg]

/-! ### the validation of a single pair -/

theorem copyOrShift_single (st : St) (pr : Str × Option Str) (hv : valid cfg st [pr] = true) :
    copyOrShift cfg st [pr] = step cfg st (norm cfg pr) := by
  simp only [copyOrShift, hv, if_true, List.map_cons, List.map_nil, loop]
  cases step cfg st (norm cfg pr) <;> rfl

theorem loop_of_copyOrShift {st st' : St} {ps : List (Str × Option Str)}
    (h : copyOrShift cfg st ps = .ok st') : loop cfg st (ps.map (norm cfg)) = .ok st' := by
  unfold copyOrShift at h
  split at h
  · exact h
  · cases h

theorem valid_single (st : St) (pr : Str × Option Str)
    (h1 : (cfg.mergeChildren && cfg.mergeLeaves) = false)
    (h2 : (cfg.copy && isDelete pr.2) = false)
    (h3 : nameOk cfg (norm cfg pr) = true)
    (h4 : cfg.withFullPath = true → fromRootOk cfg st.tree.name (norm cfg pr) = true)
    (h5 : toRootOk cfg st.dst.name (norm cfg pr) = true) : valid cfg st [pr] = true := by
  unfold valid
  simp only [List.any_cons, List.any_nil, Bool.or_false, List.map_cons, List.map_nil, List.all_cons,
    List.all_nil, Bool.and_true, h1, h2, h3, h5]
  cases hw : cfg.withFullPath with
  | false => rfl
  | true => rw [h4 hw]; rfl

@[simp] theorem st0_tree (t k) : (st0 t k).tree = t := rfl

theorem fromRootOk_of {tree : Tree} {fs : Str} {fp : List Str} {F : Tree} {l : Str}
    (hfr : FromOK cfg tree fs fp F l) (hw : cfg.withFullPath = true) (x : Option Str) :
    fromRootOk cfg tree.name (fs, x) = true := by
  unfold fromRootOk
  rw [hfr.root hw, beq_self_eq_true]

/-! ### the step on a printed to-path -/

theorem addPath_parent (t : Tree) (k : Nat) (tpar : List Str) (l : Str)
    (hg : GoodNames c (t.name :: tpar ++ [l])) :
    addPath [c] t k (join [c] (splitOn [c] (pathStr c t.name (tpar ++ [l]))).dropLast)
      = match grow tpar k t with
        | .ok x => .ok (x.1, x.2, tpar)
        | .error e => .error e := by
  have hg' : GoodNames c (t.name :: tpar) := fun n hn => hg n (List.mem_append_left _ hn)
  have hp : join [c] (splitOn [c] (pathStr c t.name (tpar ++ [l]))).dropLast = pathName [c] (t.name :: tpar) :=
    parent_pathName _ _ _ hg
  rw [hp]
  unfold addPath
  rw [if_neg (show pathName [c] (t.name :: tpar) ≠ [] from List.cons_ne_nil c _), comps_pathName_rl _ _ hg']
  simp only [ne_eq, not_true_eq_false, if_false]
  cases grow tpar k t <;> rfl

theorem decideTo_pathStr (hc : cfg.Plain c) (st : St) (fp tpar : List Str) (l : Str)
    (hg : GoodNames c (st.dst.name :: tpar ++ [l])) :
    decideTo cfg st fp (some (pathStr c st.dst.name (tpar ++ [l]))) =
      match getRel (tpar ++ [l]) st.dst with
      | some _ => decideExisting cfg st fp (tpar ++ [l])
      | none =>
        match grow tpar st.next st.dst with
        | .ok x => .ok ⟨x.1, x.2, some tpar, cfg.mergeChildren⟩
        | .error e => .error e := by
  unfold decideTo
  simp only [if_neg (pathStr_ne_nil (c := c) st.dst.name (tpar ++ [l])), hc.tsep]
  rw [findFullPath_pathStr st.dst (tpar ++ [l]) hg]
  cases getRel (tpar ++ [l]) st.dst with
  | some D => rfl
  | none =>
    simp only [Option.map_none, decideMissing, hc.tsep, addPath_parent st.dst st.next tpar l hg]
    cases grow tpar st.next st.dst <;> rfl

theorem decideTo_missing (hc : cfg.Plain c) (st : St) (fp tpar : List Str) (l : Str)
    (hg : GoodNames c (st.dst.name :: tpar ++ [l])) (hD : getRel (tpar ++ [l]) st.dst = none)
    {t1 : Tree} {k1 : Nat} (hgrow : grow tpar st.next st.dst = .ok (t1, k1)) :
    decideTo cfg st fp (some (pathStr c st.dst.name (tpar ++ [l])))
      = .ok ⟨t1, k1, some tpar, cfg.mergeChildren⟩ := by
  rw [decideTo_pathStr hc st fp tpar l hg, hD, hgrow]

theorem parentOf_snoc (p : List Str) (l : Str) : parentOf (p ++ [l]) = some p := by
  unfold parentOf
  rw [if_neg (List.append_ne_nil_of_right_ne_nil _ (List.cons_ne_nil _ _)), List.dropLast_concat]

/-- the destination exists, is not the from-node itself, and `overriding` is set without a merge flag:
the old destination is detached; the new parent is its parent -/
theorem decideTo_over (hc : cfg.Plain c) (hmc : cfg.mergeChildren = false) (hml : cfg.mergeLeaves = false)
    (hov : cfg.overriding = true) (st : St) (fp tpar : List Str) (l : Str)
    (hg : GoodNames c (st.dst.name :: tpar ++ [l])) {D : Tree} (hD : getRel (tpar ++ [l]) st.dst = some D)
    (hne : fp ≠ tpar ++ [l]) :
    decideTo cfg st fp (some (pathStr c st.dst.name (tpar ++ [l])))
      = .ok ⟨removeAt (tpar ++ [l]) st.dst, st.next, some tpar, false⟩ := by
  rw [decideTo_pathStr hc st fp tpar l hg, hD]
  simp only [decideExisting, beq_false_of_ne hne, Bool.and_false, Bool.false_eq_true, if_false, hmc, hml, hov,
    Bool.not_true, parentOf_snoc]

/-- the destination exists, is not the from-node itself, a merge flag is set and `overriding` is not:
the destination itself is the new parent -/
theorem decideTo_merge (hc : cfg.Plain c) (hov : cfg.overriding = false)
    (hm : (cfg.mergeChildren || cfg.mergeLeaves) = true) (st : St) (fp tpar : List Str) (l : Str)
    (hg : GoodNames c (st.dst.name :: tpar ++ [l])) {D : Tree} (hD : getRel (tpar ++ [l]) st.dst = some D)
    (hne : fp ≠ tpar ++ [l]) :
    decideTo cfg st fp (some (pathStr c st.dst.name (tpar ++ [l])))
      = .ok ⟨st.dst, st.next, some (tpar ++ [l]), cfg.mergeChildren⟩ := by
  rw [decideTo_pathStr hc st fp tpar l hg, hD]
  cases hmc : cfg.mergeChildren with
  | true => simp only [decideExisting, beq_false_of_ne hne, Bool.and_false, Bool.false_eq_true, if_false, hmc,
      hov, Bool.not_false, if_true]
  | false =>
    rw [hmc, Bool.false_or] at hm
    simp only [decideExisting, beq_false_of_ne hne, Bool.and_false, Bool.false_eq_true, if_false, hmc, hm,
      hov, Bool.not_false, if_true]

/-- A single (from, printed to-path) pair, any flags, same tree or tree-to-tree: the call validates,
normalises both strings to themselves, finds the from-node, and is then the destination decision
followed by `attach`. -/
theorem copyOrShift_move (hc : cfg.Plain c) (hm : (cfg.mergeChildren && cfg.mergeLeaves) = false)
    (st : St) {fs : Str} {fp : List Str} {F : Tree} {l : Str} (hfr : FromOK cfg st.tree fs fp F l)
    (tpar : List Str) (hgt : GoodNames c (st.dst.name :: tpar ++ [l])) {d : Dest} {r : Tree × Nat}
    (hd : decideTo cfg st fp (some (pathStr c st.dst.name (tpar ++ [l]))) = .ok d)
    (ha : attach cfg st.src.isNone d fp F = .ok r) :
    copyOrShift cfg st [(fs, some (pathStr c st.dst.name (tpar ++ [l])))]
      = .ok { st with dst := r.1, next := r.2 } := by
  have hne := pathStr_ne_nil (c := c) st.dst.name (tpar ++ [l])
  have hn : norm cfg (fs, some (pathStr c st.dst.name (tpar ++ [l])))
      = (fs, some (pathStr c st.dst.name (tpar ++ [l]))) :=
    Prod.ext hfr.norm (normTo_pathStr hc _ _ hgt)
  have hv : valid cfg st [(fs, some (pathStr c st.dst.name (tpar ++ [l])))] = true := by
    apply valid_single
    · exact hm
    · rw [isDelete_some hne, Bool.and_false]
    · rw [hn, nameOk_some hne, hfr.last, hc.tsep, lastComp_pathStr hgt, beq_self_eq_true]
    · intro hw; rw [hn]; exact fromRootOk_of hfr hw _
    · rw [hn]; exact toRootOk_pathStr hc _ _ _ hgt
  have hr : resolveFrom cfg st fs = .ok (some (fp, F)) := hfr.res
  rw [copyOrShift_single _ _ hv, hn]
  unfold step
  simp only [hr, hd, ha]

/-! `attach` branch by branch. For a shift within one tree (`copy = false`) the object handed on is the node
`F1` that sits at `fp` now; for a copy it is a relabelled copy, and nothing is detached. -/

/-- plain shift: `from_node.parent = to_node` -/
theorem attach_live_node (hcp : cfg.copy = false) (hml : cfg.mergeLeaves = false) {d : Dest}
    (hmc : d.mc = false) {fp : List Str} {F1 : Tree} (F0 : Tree) (hF1 : getRel fp d.dst = some F1) {t' : Tree}
    (h : attachNode true fp (stripIf cfg.deleteChildren F1)
      (if cfg.deleteChildren then modifyAt fp (setKids []) d.dst else d.dst) d.parent = .ok t') :
    attach cfg true d fp F0 = .ok (t', d.next) := by
  unfold attach
  simp only [if_true, hF1, Option.getD_some, Option.isSome_some, hcp, Bool.not_false, Bool.and_true,
    Bool.false_eq_true, if_false, Bool.true_and, hmc, hml]
  exact h ▸ rfl

theorem attach_live_children (hcp : cfg.copy = false) {d : Dest} (hmc : d.mc = true) {fp : List Str}
    {F1 : Tree} (F0 : Tree) (hF1 : getRel fp d.dst = some F1) {t' : Tree}
    (h : attachChildren cfg true fp F1 d = .ok t') : attach cfg true d fp F0 = .ok (t', d.next) := by
  unfold attach
  simp only [if_true, hF1, Option.getD_some, Option.isSome_some, hcp, Bool.not_false, Bool.and_true,
    Bool.false_eq_true, if_false, hmc, h]

theorem attach_live_leaves (hcp : cfg.copy = false) (hml : cfg.mergeLeaves = true) {d : Dest}
    (hmc : d.mc = false) {fp : List Str} {F1 : Tree} (F0 : Tree) (hF1 : getRel fp d.dst = some F1) {t' : Tree}
    (h : attachLeaves true fp F1 d = .ok t') : attach cfg true d fp F0 = .ok (t', d.next) := by
  unfold attach
  simp only [if_true, hF1, Option.getD_some, Option.isSome_some, hcp, Bool.not_false, Bool.and_true,
    Bool.false_eq_true, if_false, hmc, hml, h]

/-- plain copy: the relabelled copy becomes a child of `to_node` -/
theorem attach_copy_node (hcp : cfg.copy = true) (hml : cfg.mergeLeaves = false) {d : Dest}
    (hmc : d.mc = false) {pp : List Str} (hp : d.parent = some pp) (sn : Bool) (fp : List Str) (F0 : Tree)
    {F : Tree} (hF : (if sn then getRel fp d.dst else none).getD F0 = F) {t' : Tree}
    (h : attachOne pp (stripIf cfg.deleteChildren (relabel d.next F).1) d.dst = .ok t') :
    attach cfg sn d fp F0 = .ok (t', (relabel d.next F).2) := by
  unfold attach
  simp only [hF, hcp, Bool.not_true, Bool.and_false, if_true, Bool.false_and, Bool.false_eq_true, if_false,
    hmc, hml, hp, attachNode, loops]
  exact h ▸ rfl

/-! ### deletion: the to-path is `None` -/

/-- `shift_nodes(tree, [from], [None])` -/
theorem delete_step (hcp : cfg.copy = false) (hmc : cfg.mergeChildren = false)
    (hml : cfg.mergeLeaves = false) (hdc : cfg.deleteChildren = false)
    (t : Tree) (k : Nat) (fs : Str) (fp : List Str) (F : Tree) (l : Str)
    (hfr : FromOK cfg t fs fp F l) :
    copyOrShift cfg (st0 t k) [(fs, none)] = .ok (st0 (removeAt fp t) k) := by
  have hv : valid cfg (st0 t k) [(fs, none)] = true :=
    valid_single _ _ (by rw [hmc]; rfl) (by rw [hcp]; rfl) rfl
      (fun hw => fromRootOk_of (hfr.norm.symm ▸ hfr) hw _) rfl
  rw [copyOrShift_single _ _ hv]
  have hr : resolveFrom cfg (st0 t k) fs = .ok (some (fp, F)) := hfr.res
  have ha : attach cfg true ⟨t, k, none, false⟩ fp F = .ok (removeAt fp t, k) :=
    attach_live_node hcp hml rfl F hfr.found (by rw [hdc]; rfl)
  simp only [norm, normTo, hfr.norm, step, hr, decideTo, hmc, Option.isNone_none, ha]

/-! ### partial from-paths: `find_path` -/

/-- a partial path (or node name) that matches exactly one node, with `with_full_path=False` -/
theorem FromOK.partial (hc : cfg.Plain c) (hfull : cfg.withFullPath = false) (t : Tree) (fs : Str)
    (fp : List Str) (F : Tree) (l : Str) (hu : SibUnique t) (hF : getRel fp t = some F)
    (hnorm : stripR [c] fs = fs) (hlast : lastComp [c] fs = l)
    (huniq : ∀ q ∈ paths t, fs.isSuffixOf (pathStr c t.name q) = true ↔ q = fp) :
    FromOK cfg t fs fp F l where
  norm := by
    unfold normFrom
    rw [hc.sep, hc.fsep, replace_self, hnorm]
  res := by
    rw [hfull, hc.fsep]
    simp only [Bool.false_eq_true, if_false]
    unfold findPath
    simp only [hnorm]
    have : (nodesRel t).filter (fun pr => fs.isSuffixOf (pathName [c] (t.name :: pr.1)))
        = (nodesRel t).filter (fun pr => pr.1 == fp) := by
      apply List.filter_congr
      intro pr hpr
      exact Bool.eq_iff_iff.2 ((huniq pr.1 (mem_paths_of_mem_nodesRel hpr)).trans beq_iff_eq.symm)
    rw [this, nodesRel_filter_path hu hF]
  found := hF
  last := by rw [hc.fsep]; exact hlast
  root := fun h => by rw [hfull] at h; cases h

end Modify
