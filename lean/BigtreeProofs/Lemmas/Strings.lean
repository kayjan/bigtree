import BigtreeModel.Basic
/-!
# Strings: `sep.join`, `str.split(sep)`, `str.lstrip(chars)`, `str.rstrip(chars)` on `List Char`

Core Lean only.  `join` is core's `List.intercalate`; `split`, `lstrip`, `rstrip` are defined here the way
the model files define them, and their laws are proved for every non-empty separator `sp`
(`"/"`, `"::"`, `"->"`, …).  The pieces are assumed to share **no character** with the separator
(`Store.Free sp x`).  That hypothesis is the exact domain on which bigtree's string handling is sound:
`lstrip`/`rstrip` strip the *character set* of `sp`, so a name that merely starts or ends with one of
its characters is already mis-parsed (known finding K7).  For a one-character separator `Free [d] x`
is `d ∉ x` (`Store.free_singleton`).

Every model file spells these functions in its own way; `StringsBridge` (and `StoreStr` for the pointer
store) proves each spelling equal to the functions of this file, so that every string fact of the
development is an instance of a lemma proved here.
-/

namespace Store

/-- `x` shares no character with the separator -/
def Free (sp x : Str) : Prop := ∀ c ∈ x, c ∉ sp

theorem free_cons {sp : Str} {c : Char} {cs : Str} : Free sp (c :: cs) ↔ c ∉ sp ∧ Free sp cs :=
  List.forall_mem_cons

theorem free_singleton (d : Char) (x : Str) : Free [d] x ↔ d ∉ x :=
  ⟨fun h hd => h d hd (List.mem_singleton_self d), fun h _ hc hcd => h (List.mem_singleton.1 hcd ▸ hc)⟩

/-- the hypothesis of the one-character statements (non-empty names without `d`) in the form the laws below take -/
theorem forall_free_singleton {d : Char} {xs : List Str} (h : ∀ x ∈ xs, x ≠ [] ∧ d ∉ x) :
    ∀ x ∈ xs, x ≠ [] ∧ Free [d] x :=
  fun x hx => ⟨(h x hx).1, (free_singleton d x).2 (h x hx).2⟩

end Store

namespace Strings
open Store (Free free_cons)

/-- `str.split(sep)` for a non-empty separator: leftmost, non-overlapping.  The counter counts the remaining
characters of a separator occurrence being skipped, `acc` is the current piece reversed. -/
def splitAux (sep : Str) : Nat → Str → Str → List Str
  | _, [], acc => [acc.reverse]
  | k + 1, _ :: cs, acc => splitAux sep k cs acc
  | 0, c :: cs, acc =>
    if sep.isPrefixOf (c :: cs) then acc.reverse :: splitAux sep (sep.length - 1) cs []
    else splitAux sep 0 cs (c :: acc)

def split (sep : Str) (s : Str) : List Str := splitAux sep 0 s []

/-- `str.lstrip(chars)` -/
def lstrip (chars : Str) (s : Str) : Str := s.dropWhile fun c => chars.contains c

/-- `str.rstrip(chars)` -/
def rstrip (chars : Str) (s : Str) : Str := (lstrip chars s.reverse).reverse

/-- any function with the three equations of `sep.join` is `sep.intercalate`: so is every spelling of
`sep.join` in the models -/
theorem join_unique {sp : Str} {f : List Str → Str} (h0 : f [] = []) (h1 : ∀ a, f [a] = a)
    (h2 : ∀ a b l, f (a :: b :: l) = a ++ sp ++ f (b :: l)) (l : List Str) : f l = sp.intercalate l := by
  induction l with
  | nil => exact h0
  | cons a l ih =>
    cases l with
    | nil => rw [h1, List.intercalate_singleton]
    | cons b l => rw [h2, ih, List.intercalate_cons_cons]

theorem join_append (sp : Str) {xs ys : List Str} (hx : xs ≠ []) (hy : ys ≠ []) :
    sp.intercalate (xs ++ ys) = sp.intercalate xs ++ sp ++ sp.intercalate ys := by
  induction xs with
  | nil => exact absurd rfl hx
  | cons x xs ih =>
    cases xs with
    | nil => rw [List.singleton_append, List.intercalate_cons_of_ne_nil hy, List.intercalate_singleton]
    | cons x' xs =>
      rw [List.cons_append, List.intercalate_cons_of_ne_nil (zs := x' :: xs ++ ys) (List.cons_ne_nil _ _),
        ih (List.cons_ne_nil _ _), List.intercalate_cons_cons]
      simp only [List.append_assoc]

theorem join_cons_head (sp x : Str) (rest : List Str) : ∃ t, sp.intercalate (x :: rest) = x ++ t := by
  cases rest with
  | nil => exact ⟨[], by rw [List.intercalate_singleton, List.append_nil]⟩
  | cons y r => exact ⟨sp ++ sp.intercalate (y :: r), by rw [List.intercalate_cons_cons, List.append_assoc]⟩

theorem join_snoc_last (sp : Str) (xs : List Str) (y : Str) : ∃ t, sp.intercalate (xs ++ [y]) = t ++ y := by
  cases xs with
  | nil => exact ⟨[], List.intercalate_singleton⟩
  | cons x xs =>
    exact ⟨sp.intercalate (x :: xs) ++ sp, by
      rw [join_append sp (List.cons_ne_nil x xs) (List.cons_ne_nil y []), List.intercalate_singleton]⟩

theorem join_shape (sp : Str) (names : List Str) (hne : names ≠ [])
    (hn : ∀ x ∈ names, x ≠ [] ∧ Free sp x) :
    (∃ c t, c ∉ sp ∧ sp.intercalate names = c :: t) ∧ (∃ c t, c ∉ sp ∧ sp.intercalate names = t ++ [c]) := by
  constructor
  · cases names with
    | nil => exact absurd rfl hne
    | cons f rest =>
      obtain ⟨t, ht⟩ := join_cons_head sp f rest
      cases f with
      | nil => exact absurd rfl (hn [] List.mem_cons_self).1
      | cons c f' => exact ⟨c, f' ++ t, (hn _ List.mem_cons_self).2 c List.mem_cons_self, ht⟩
  · have hl := hn _ (List.getLast_mem hne)
    obtain ⟨t, ht⟩ := join_snoc_last sp names.dropLast (names.getLast hne)
    rw [List.dropLast_concat_getLast hne, ← List.dropLast_concat_getLast hl.1, ← List.append_assoc] at ht
    exact ⟨_, _, hl.2 _ (List.getLast_mem hl.1), ht⟩

theorem splitAux_nil (sp : Str) (k : Nat) (acc : Str) : splitAux sp k [] acc = [acc.reverse] := by
  cases k <;> rfl

theorem splitAux_skip (sp : Str) (k : Nat) (s acc : Str) :
    splitAux sp k s acc = splitAux sp 0 (s.drop k) acc := by
  induction k generalizing s with
  | zero => rfl
  | succ k ih =>
    cases s with
    | nil => exact splitAux_nil sp (k + 1) acc
    | cons c cs => exact ih cs

theorem splitAux_free {sp : Str} (hsp : sp ≠ []) {x : Str} (rest acc : Str) (hf : Free sp x) :
    splitAux sp 0 (x ++ rest) acc = splitAux sp 0 rest (x.reverse ++ acc) := by
  induction x generalizing acc with
  | nil => rfl
  | cons c cs ih =>
    have h := free_cons.1 hf
    have hp : sp.isPrefixOf (c :: (cs ++ rest)) = false := by
      cases sp with
      | nil => exact absurd rfl hsp
      | cons a as =>
        have : (a == c) = false := beq_eq_false_iff_ne.2 fun e => h.1 (e ▸ List.mem_cons_self)
        rw [List.isPrefixOf_cons_cons, this, Bool.false_and]
    rw [List.cons_append, splitAux, hp, if_neg Bool.false_ne_true, ih (c :: acc) h.2, List.reverse_cons,
      List.append_assoc]
    rfl

theorem splitAux_sep {sp : Str} (hsp : sp ≠ []) (rest acc : Str) :
    splitAux sp 0 (sp ++ rest) acc = acc.reverse :: splitAux sp 0 rest [] := by
  cases sp with
  | nil => exact absurd rfl hsp
  | cons a as =>
    have hp : (a :: as).isPrefixOf (a :: (as ++ rest)) = true := List.isPrefixOf_iff_prefix.2 ⟨rest, rfl⟩
    rw [List.cons_append, splitAux, if_pos hp, splitAux_skip, List.length_cons, Nat.add_sub_cancel,
      List.drop_left]

theorem splitAux_ne_nil (sp s : Str) (k : Nat) (acc : Str) : splitAux sp k s acc ≠ [] := by
  fun_induction splitAux sp k s acc with
  | case1 => exact List.cons_ne_nil _ _
  | case2 _ _ _ _ ih => exact ih
  | case3 => exact List.cons_ne_nil _ _
  | case4 _ _ _ _ ih => exact ih

theorem splitAux_append (sp s : Str) (k : Nat) (acc acc' : Str) :
    splitAux sp k s (acc ++ acc') = (splitAux sp k s acc).modifyHead (acc'.reverse ++ ·) := by
  fun_induction splitAux sp k s acc with
  | case1 => rw [splitAux_nil, List.reverse_append]; rfl
  | case2 _ _ _ _ ih => exact ih
  | case3 c cs acc h => rw [splitAux, if_pos h, List.reverse_append]; rfl
  | case4 c cs acc h ih => rw [splitAux, if_neg h]; exact ih

theorem splitAux_acc (sp : Str) (s : Str) (k : Nat) (acc : Str) :
    splitAux sp k s acc = (splitAux sp k s []).modifyHead (acc.reverse ++ ·) :=
  splitAux_append sp s k [] acc

theorem split_free {sp : Str} (hsp : sp ≠ []) {x : Str} (hf : Free sp x) : split sp x = [x] := by
  have := splitAux_free hsp [] [] hf
  rw [List.append_nil] at this
  rw [split, this, splitAux_nil, List.append_nil, List.reverse_reverse]

/-- `sep.join(xs).split(sep) == xs` -/
theorem split_join (sp : Str) (hsp : sp ≠ []) (xs : List Str) (hne : xs ≠ [])
    (hx : ∀ x ∈ xs, Free sp x) : split sp (sp.intercalate xs) = xs := by
  induction xs with
  | nil => exact absurd rfl hne
  | cons x l ih =>
    cases l with
    | nil => rw [List.intercalate_singleton]; exact split_free hsp (hx x List.mem_cons_self)
    | cons y l =>
      have ih := ih (List.cons_ne_nil y l) fun z hz => hx z (List.mem_cons_of_mem _ hz)
      rw [split] at ih ⊢
      rw [List.intercalate_cons_cons, List.append_assoc, splitAux_free hsp _ [] (hx x List.mem_cons_self),
        splitAux_sep hsp, ih, List.append_nil, List.reverse_reverse]

/-- a leading separator yields an empty first piece (`path_name.split(sep)`) -/
theorem split_sep_join (sp : Str) (hsp : sp ≠ []) (xs : List Str) (hne : xs ≠ [])
    (hx : ∀ x ∈ xs, Free sp x) : split sp (sp ++ sp.intercalate xs) = [] :: xs := by
  have := split_join sp hsp xs hne hx
  rw [split] at this ⊢
  rw [splitAux_sep hsp, this]; rfl

theorem join_injective (sp : Str) (hsp : sp ≠ []) (xs ys : List Str) (hx : xs ≠ []) (hy : ys ≠ [])
    (hxd : ∀ x ∈ xs, Free sp x) (hyd : ∀ y ∈ ys, Free sp y) (h : sp.intercalate xs = sp.intercalate ys) :
    xs = ys := by
  rw [← split_join sp hsp xs hx hxd, ← split_join sp hsp ys hy hyd, h]

theorem join_splitAux {sp : Str} (hsp : sp ≠ []) (s : Str) (k : Nat) (acc : Str) :
    sp.intercalate (splitAux sp k s acc) = acc.reverse ++ s.drop k := by
  fun_induction splitAux sp k s acc with
  | case1 => rw [List.drop_nil, List.intercalate_singleton, List.append_nil]
  | case2 _ _ _ _ ih => exact ih
  | case3 c cs acc h ih =>
    cases sp with
    | nil => exact absurd rfl hsp
    | cons a as =>
      obtain ⟨rest, hr⟩ := List.isPrefixOf_iff_prefix.1 h
      rw [List.cons_append] at hr
      obtain ⟨rfl, rfl⟩ := List.cons.inj hr
      rw [List.intercalate_cons_of_ne_nil (splitAux_ne_nil _ _ _ _), ih, List.length_cons, Nat.add_sub_cancel,
        List.drop_left, List.append_assoc]
      rfl
  | case4 c cs acc h ih => rw [ih, List.reverse_cons, List.append_assoc]; rfl

theorem join_split (sp : Str) (hsp : sp ≠ []) (s : Str) : sp.intercalate (split sp s) = s :=
  join_splitAux hsp s 0 []

theorem split_eq_iff {sp : Str} (hsp : sp ≠ []) {xs : List Str} (hne : xs ≠ []) (hx : ∀ x ∈ xs, Free sp x)
    (s : Str) : split sp s = xs ↔ sp.intercalate xs = s :=
  ⟨fun h => h ▸ join_split sp hsp s, fun h => h ▸ split_join sp hsp xs hne hx⟩

theorem split_singleton (d : Char) (s : Str) : split [d] s = s.splitOn d := by
  induction s with
  | nil => rfl
  | cons c cs ih =>
    rw [List.splitOn_cons_eq_if_modifyHead, ← ih]
    unfold split
    rw [splitAux, List.isPrefixOf_cons_cons, List.isPrefixOf_nil_left, Bool.and_true,
      splitAux_acc [d] cs 0 [c]]
    by_cases h : c = d
    · rw [if_pos (beq_iff_eq.2 h.symm), if_pos (beq_iff_eq.2 h)]; rfl
    · rw [if_neg (fun e => h (beq_iff_eq.1 e).symm), if_neg (fun e => h (beq_iff_eq.1 e))]; rfl

/-! `lstrip` / `rstrip` take a *set* of characters, not a prefix or suffix -/

theorem lstrip_append_of_mem {sp pre : Str} (hp : ∀ x ∈ pre, x ∈ sp) (s : Str) :
    lstrip sp (pre ++ s) = lstrip sp s :=
  List.dropWhile_append_of_pos fun a ha => List.contains_iff_mem.2 (hp a ha)

theorem lstrip_stop (sp : Str) (c : Char) (t : Str) (hc : c ∉ sp) : lstrip sp (c :: t) = c :: t :=
  List.dropWhile_cons_of_neg fun h => hc (List.contains_iff_mem.1 h)

theorem rstrip_append_of_mem {sp suf : Str} (hs : ∀ x ∈ suf, x ∈ sp) (s : Str) :
    rstrip sp (s ++ suf) = rstrip sp s := by
  rw [rstrip, List.reverse_append, lstrip_append_of_mem fun x hx => hs x (List.mem_reverse.1 hx)]; rfl

theorem rstrip_stop (sp s : Str) (c : Char) (hc : c ∉ sp) : rstrip sp (s ++ [c]) = s ++ [c] := by
  rw [rstrip, List.reverse_append, List.reverse_singleton, List.singleton_append, lstrip_stop sp c _ hc,
    List.reverse_cons, List.reverse_reverse]

theorem strip_pad {sp lead body trail : Str} (hl : ∀ x ∈ lead, x ∈ sp) (ht : ∀ x ∈ trail, x ∈ sp)
    (h0 : ∃ c t, c ∉ sp ∧ body = c :: t) (h1 : ∃ c t, c ∉ sp ∧ body = t ++ [c]) :
    lstrip sp (rstrip sp (lead ++ body ++ trail)) = body ∧
    rstrip sp (lstrip sp (lead ++ body ++ trail)) = body := by
  obtain ⟨c0, t0, hc0, h0⟩ := h0
  obtain ⟨c1, t1, hc1, h1⟩ := h1
  constructor
  · rw [h1, ← List.append_assoc, rstrip_append_of_mem ht, rstrip_stop sp _ c1 hc1, List.append_assoc, ← h1, h0,
      lstrip_append_of_mem hl, lstrip_stop sp c0 t0 hc0]
  · rw [h0, List.append_assoc, List.cons_append, lstrip_append_of_mem hl, lstrip_stop sp c0 _ hc0,
      ← List.cons_append, ← h0, h1, rstrip_append_of_mem ht, rstrip_stop sp t1 c1 hc1]

theorem strip_join_pad (sp : Str) (names : List Str) (hne : names ≠ [])
    (hn : ∀ x ∈ names, x ≠ [] ∧ Free sp x) (lead trail : Str)
    (hl : ∀ x ∈ lead, x ∈ sp) (ht : ∀ x ∈ trail, x ∈ sp) :
    lstrip sp (rstrip sp (lead ++ sp.intercalate names ++ trail)) = sp.intercalate names ∧
    rstrip sp (lstrip sp (lead ++ sp.intercalate names ++ trail)) = sp.intercalate names :=
  strip_pad hl ht (join_shape sp names hne hn).1 (join_shape sp names hne hn).2

end Strings
