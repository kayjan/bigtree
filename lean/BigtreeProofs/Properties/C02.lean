import BigtreeModel.Store
import BigtreeProofs.Lemmas.StoreStep
import BigtreeProofs.Lemmas.BinStoreThms
import BigtreeProofs.Lemmas.DagStoreThms
/-!
# C02 — a rejected or failing structural assignment changes nothing (BaseNode / Node part)

The setters of `BigtreeModel/Store.lean` execute the snapshot, the hooks, the body of the `try`
and the explicit roll-back code of the `except` branch.  The theorems say that whenever the outcome
is `rej` — guard (type, loop, repeated child), `Node`'s duplicate-name check, user hook raising
before (`Fault.pre`) or after (`Fault.post`) the assignment — the resulting store EQUALS the store
before the call (every parent, every child list in order, names, separators).
-/

namespace C02
open Store

def demoCfg : Cfg := { assertions := true, node := true }
/-- `p = 0` has children `x y z = 1 2 3`, `q = 4`, names a b c d e -/
def demo : Store :=
  run demoCfg (init 5 (fun i => [Char.ofNat (97 + i)]) ['/']) [.setChildren 0 [1, 2, 3] .none]

theorem demo_wf : WF demo := Store.wf_run (Store.wf_init _ _ _) demoCfg rfl _

/-- parent setter: whatever made the call fail, nothing changed -/
theorem setParent_rej_id (c : Cfg) (s : Store) (hw : WF s) (v : Nat) (np : Option Nat) (f : Fault)
    (h : (setParent c s v np f).2 = .rej) : (setParent c s v np f).1 = s :=
  Store.setParent_rej_id hw c v np f h

-- the hypothesis is met on a concrete store, once per guard and per hook (`demo` has no two equal names, so the
-- duplicate-name check cannot refuse there)
example : (setParent demoCfg demo 0 (some 2) .none).2 = .rej := by decide +kernel      -- loop
example : (setParent demoCfg demo 2 (some 7) .none).2 = .rej := by decide +kernel      -- not a node
example : (setParent demoCfg demo 2 (some 4) .pre).2 = .rej := by decide +kernel       -- hook before
example : (setParent demoCfg demo 2 (some 4) .post).2 = .rej := by decide +kernel      -- hook after
example : (setParent demoCfg demo 2 (some 4) .none).2 = .ok := by decide +kernel

/-- children setter (checks on): whatever made the call fail, nothing changed -/
theorem setChildren_rej_id (c : Cfg) (hc : c.assertions = true) (s : Store) (hw : WF s) (v : Nat)
    (cs : List Nat) (f : Fault) (h : (setChildren c s v cs f).2 = .rej) : (setChildren c s v cs f).1 = s :=
  Store.setChildren_rej_id hw c v cs f (by simp [hc]) h

/-- the same with the checks off, for arguments the checks accept -/
theorem setChildren_rej_id_unchecked (c : Cfg) (s : Store) (hw : WF s) (v : Nat) (cs : List Nat) (f : Fault)
    (hok : checkChildrenLoop s v cs [] = true)
    (h : (setChildren c s v cs f).2 = .rej) : (setChildren c s v cs f).1 = s :=
  Store.setChildren_rej_id hw c v cs f (fun _ => hok) h

example : (setChildren demoCfg demo 4 [2, 1] .post).2 = .rej := by decide +kernel     -- D1's failing call
example : (setChildren demoCfg demo 4 [2, 2] .none).2 = .rej := by decide +kernel     -- repeated child
example : (setChildren demoCfg demo 1 [0] .none).2 = .rej := by decide +kernel        -- ancestor

/-- every call of the API except the documented loop `extend` is atomic -/
theorem step_rej_id (c : Cfg) (hc : c.assertions = true) (s : Store) (hw : WF s) (op : Op)
    (hne : ∀ p cs f k, op ≠ .extend p cs f k) (h : (step c s op).2 = .rej) : (step c s op).1 = s :=
  step_cases (P := fun r _ => r.2 = .rej → r.1 = s) c c s op (fun _ => rfl)
    (fun v np f _ => Store.setParent_rej_id hw c v np f)
    (fun v cs f _ => Store.setChildren_rej_id hw c v cs f (by simp [hc]))
    (fun _ _ h => nomatch h) (fun p cs f k e => absurd e (hne p cs f k))
    (fun p nm f _ => delItem_cases (P := fun r _ => r.2 = .rej → r.1 = s) c c s p nm f (fun _ => rfl)
      (fun _ h => nomatch h) fun ch _ _ => Store.setParent_rej_id hw c ch none f)
    (fun _ _ _ _ h => nomatch h) (fun _ _ _ h => nomatch h) h

/-- The roll-back as it was BEFORE the D1 repair (dict insertion order instead of ascending
original index) is not the identity: `p.children = [x,y,z]`, failing `q.children = [y,x]`
leaves `p.children = [x,z,y]`. -/
theorem prefix_rollback_not_identity :
    (setChildrenPreFix demoCfg demo 4 [2, 1] .post).2 = .rej ∧
    (setChildrenPreFix demoCfg demo 4 [2, 1] .post).1.children 0 = [1, 3, 2] ∧
    demo.children 0 = [1, 2, 3] ∧
    (setChildren demoCfg demo 4 [2, 1] .post).1.children 0 = [1, 2, 3] := by decide +kernel

end C02


/-!
## BinaryNode and DAGNode parts

The same statements for the two other stores are proved next to their models and are audited
together with the theorems above (`harness/props/C02.py`, `THEOREMS`):

* `BinStore.setParent_rej_id`, `BinStore.setChildren_rej_id`, `BinStore.setChildren_rej_id_any`,
  `BinStore.setLeft_rej_id`, `BinStore.setRight_rej_id`, `BinStore.step_rej_id`,
  `BinStore.step_rej_id_any` (`Lemmas/BinStoreThms.lean`; rejection causes: type, loop, repeated
  member, full parent, hook raising before / after);
* `DagStore.setParents_rej_id`, `DagStore.setChildren_rej_id`, `DagStore.step_rej_id`
  (`Lemmas/DagStoreThms.lean`; the executed roll-back removes exactly the appended tail).
-/
#check @BinStore.setParent_rej_id
#check @BinStore.setChildren_rej_id_any
#check @BinStore.step_rej_id_any
#check @DagStore.setParents_rej_id
#check @DagStore.setChildren_rej_id
#check @DagStore.step_rej_id
