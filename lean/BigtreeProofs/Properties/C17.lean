import BigtreeModel.Dag
import BigtreeProofs.Lemmas.DagIter
import BigtreeProofs.Lemmas.DagCons
import BigtreeProofs.Lemmas.DagExport
import BigtreeProofs.Lemmas.DagRows
import BigtreeProofs.Lemmas.DagDict
import BigtreeProofs.Lemmas.DagExportAttrs
import BigtreeProofs.Properties.C16
/-! # C17 — DAG exports are complete; re-importing them reproduces the DAG

Corollaries of C16 (`dag_iter_edges`: the iterator every exporter is built on yields every edge
exactly once) and of the constructor lemma (`Tracks.setParent`: adding pairs through
`child.parents = [parent]` stores exactly the acyclic relation and refuses the first pair that
closes a cycle). Node names are the ids (distinct by hypothesis).

Where the words of the statements are defined: `RelAcyclic` in `Lemmas/DagCons`, `dictRel` and
`dictKeys` in `Lemmas/DagDict`, `rowsRel` in `Lemmas/DagRows`, `expAttrs` in `Lemmas/DagExportAttrs`
(`dict_export_each_edge_once` writes it unfolded). -/

namespace C17
open Dag List

/-! ## list format -/

/-- `dag_to_list` lists every edge exactly once, as (parent, child). -/
theorem list_export_each_edge_once {g : Dag} (wf : DWF g) (hc : g.Connected) {v : Nat}
    (hv : v ∈ g.nodes) : (g.dagToList v).Perm g.edges :=
  C16.dag_iter_edges_connected wf hc hv

/-- **Tier 1.** `list_to_dag (dag_to_list g)` succeeds and is a well-formed DAG with the same
    edge set and the same node names as `g` (weakly connected, at least one edge). -/
theorem list_roundtrip {g : Dag} (wf : DWF g) (hc : g.Connected) {v : Nat} (hv : v ∈ g.nodes)
    (hne : g.edges ≠ []) :
    ∃ b, listToDag (g.dagToList v) = .ok b ∧ b.dag.DWF ∧
      (∀ e, e ∈ b.dag.edges ↔ e ∈ g.edges) ∧ (∀ x, x ∈ b.dag.nodes ↔ x ∈ g.nodes) := by
  have hperm := list_export_each_edge_once wf hc hv
  obtain ⟨b, hb, -, h⟩ := rebuilt_of_outcome wf hc hne (fun _ => hperm.mem_iff)
    (listToDag_spec (S := (· ∈ g.nodes)) _ (fun h => hne (h ▸ hperm).symm.eq_nil)
      fun _ he => mem_nodes_of_mem_edges wf (hperm.mem_iff.1 he))
    fun _ hk => ⟨hk.1, hk.2.1⟩
  exact ⟨b, hb, h⟩

theorem diamond_connected : C16.diamond.Connected := C16.connected_of_runs (by decide +kernel)

example : ∃ b, listToDag (C16.diamond.dagToList 3) = .ok b ∧ b.dag.DWF ∧
    (∀ e, e ∈ b.dag.edges ↔ e ∈ C16.diamond.edges) ∧ (∀ x, x ∈ b.dag.nodes ↔ x ∈ C16.diamond.nodes) :=
  list_roundtrip C16.diamond_wf diamond_connected (by decide +kernel) (by decide +kernel)

/-- `list_to_dag` refuses (TreeError) every relation that contains a directed cycle … -/
theorem list_cycle_refused (rel : List Edge) (h : ¬ RelAcyclic rel) :
    listToDag rel = .error .tree :=
  (listToDag_spec (S := fun _ => True) rel (fun h0 => h (h0 ▸ relAcyclic_nil))
    fun _ _ => ⟨trivial, trivial⟩).2 h

/-- … and builds exactly the relation when it is non-empty and acyclic. -/
theorem list_acyclic_accepted (rel : List Edge) (hne : rel ≠ []) (h : RelAcyclic rel) :
    ∃ b, listToDag rel = .ok b ∧ b.dag.DWF ∧ (∀ e, e ∈ b.dag.edges ↔ e ∈ rel) :=
  let ⟨b, hb, t, _⟩ := (listToDag_spec (S := fun _ => True) rel hne fun _ _ => ⟨trivial, trivial⟩).1 h
  ⟨b, hb, t.dwf h, fun _ => t.edges_iff⟩

example : listToDag [(0, 1), (1, 2), (2, 0)] = .error .tree :=
  list_cycle_refused _ (fun h => h 0 (.step (b := 1) (by decide +kernel) (.step (b := 2) (by decide +kernel) (.edge (by decide +kernel)))))

/-! ## dictionary format -/

/-- `dag_to_dict` succeeds; its parent lists mention every edge exactly once; its keys are
    exactly the node names (each once, being dictionary keys); parent-less entries are roots;
    every entry carries the requested attributes of its node. -/
theorem dict_export_each_edge_once {g : Dag} (wf : DWF g) (hc : g.Connected) {v : Nat}
    (hv : v ∈ g.nodes) (hne : g.edges ≠ []) (sel : AttrSel) :
    ∃ d, g.dagToDict sel v = some d ∧ (dictRel d).Perm g.edges ∧ (dictKeys d).Nodup ∧
      (∀ x, x ∈ dictKeys d ↔ x ∈ g.nodes) ∧
      (∀ ent ∈ d, ent.parents = none → g.parents ent.key = []) ∧
      (∀ ent ∈ d, ent.attrs = attrUpdate [] (selAttrs sel (g.attrs ent.key))) := by
  obtain ⟨d, hd, inv⟩ := dagToDict_spec wf sel hv
  have hiter := C16.dag_iter_edges_connected wf hc hv
  have hmem : ∀ e, e ∈ dictRel d ↔ e ∈ g.edges := fun e =>
    (inv.mem_dictRel wf fun _ he => hiter.mem_iff.1 he).trans hiter.mem_iff
  refine ⟨d, hd, ?_, inv.keys_nodup, ?_, inv.none_root, inv.attrs_spec⟩
  · exact (perm_ext_iff_of_nodup inv.nodup_dictRel (nodup_edges wf)).2 hmem
  · refine fun x => ⟨fun hx => ?_, fun hx => ?_⟩
    · obtain ⟨ent, hent, rfl⟩ := mem_map.1 hx
      exact inv.key_mem ent hent
    · rcases node_has_edge wf hc hne hx with ⟨p, he⟩ | ⟨hroot, c, he⟩
      · exact inv.covers _ (hiter.mem_iff.2 he)
      · exact inv.roots _ (hiter.mem_iff.2 he) hroot

/-- **Tier 1.** `dict_to_dag (dag_to_dict g)` succeeds and is a well-formed DAG with the same
    edge set, the same node names as `g`, and every node carries exactly the attribute values
    the export wrote for it (`expAttrs`: `all_attrs` / `attr_dict` selection of its attributes). -/
theorem dict_roundtrip {g : Dag} (wf : DWF g) (hc : g.Connected) {v : Nat} (hv : v ∈ g.nodes)
    (hne : g.edges ≠ []) (sel : AttrSel) :
    ∃ d b, g.dagToDict sel v = some d ∧ dictToDag d = .ok b ∧ b.dag.DWF ∧
      (∀ e, e ∈ b.dag.edges ↔ e ∈ g.edges) ∧ (∀ x, x ∈ b.dag.nodes ↔ x ∈ g.nodes) ∧
      (∀ x ∈ g.nodes, ∀ k, (b.dag.attrs x).lookup k = (expAttrs g sel x).lookup k) := by
  obtain ⟨d, hd, hperm, _, hkeys, _, hattrs⟩ := dict_export_each_edge_once wf hc hv hne sel
  have hS : ∀ ent ∈ d, ent.key ∈ g.nodes ∧ ∀ p ∈ ent.parents.getD [], p ∈ g.nodes := fun ent hent =>
    ⟨(hkeys _).1 (mem_map_of_mem hent), fun p hp =>
      (mem_edges.1 (hperm.mem_iff.1 ((Dag.mem_dictRel (e := (p, ent.key))).2 ⟨ent, hent, rfl, hp⟩))).1⟩
  obtain ⟨b, hb, hk, h1, h2, h3⟩ := rebuilt_of_outcome wf hc hne (fun _ => hperm.mem_iff)
    (dictToDag_spec (S := (· ∈ g.nodes)) (expAttrs g sel) d (fun h => hne (h ▸ hperm).symm.eq_nil) hS)
    fun _ hk => ⟨hk.tracks, hk.nodes⟩
  exact ⟨d, b, hd, hb, h1, h2, h3, fun x hx => ((hk.attrs fun e he =>
    ⟨hattrs e he, nodup_keysOf_expAttrs g sel e.key⟩).named x ((hkeys x).2 hx)).2⟩

/-- diamond with attributes on two nodes (one private, one null) -/
def diamondA : Dag := ofEdges 4 [(0, 1), (0, 2), (1, 3), (2, 3)] fun i =>
  if i = 0 then [("s".toList, .int 1), ("_h".toList, .int 9)]
  else if i = 3 then [("z".toList, .str "x".toList), ("s".toList, .null)] else []

theorem diamondA_wf : DWF diamondA :=
  dwf_ofEdges id (by decide +kernel) (by decide +kernel)

theorem diamondA_connected : diamondA.Connected := C16.connected_of_runs (by decide +kernel)

example : ∃ d b, diamondA.dagToDict .all 3 = some d ∧ dictToDag d = .ok b ∧ b.dag.DWF ∧
    (∀ e, e ∈ b.dag.edges ↔ e ∈ diamondA.edges) ∧ (∀ x, x ∈ b.dag.nodes ↔ x ∈ diamondA.nodes) ∧
    (∀ x ∈ diamondA.nodes, ∀ k, (b.dag.attrs x).lookup k = (expAttrs diamondA .all x).lookup k) :=
  dict_roundtrip diamondA_wf diamondA_connected (by decide +kernel) (by decide +kernel) .all
example : expAttrs diamondA .all 0 = [("s".toList, .int 1)] := by decide +kernel

example : (C16.diamond.dagToDict .all 3).map (fun d => d.map fun e => (e.key, e.parents)) =
    some [(3, some [1, 2]), (0, none), (1, some [0]), (2, some [0])] := by decide +kernel

/-- `dict_to_dag` refuses (TreeError) every dictionary whose parent lists contain a cycle. -/
theorem dict_cycle_refused (d : List DEntry) (h : ¬ RelAcyclic (dictRel d)) :
    dictToDag d = .error .tree :=
  (dictToDag_spec (S := fun _ => True) (fun _ => []) d (fun h0 => h (h0 ▸ relAcyclic_nil))
    fun _ _ => ⟨trivial, fun _ _ => trivial⟩).2 h

/-! ## DataFrame format -/

/-- `dag_to_dataframe`: the rows with a parent mention every edge exactly once; no row is
    repeated; the names in the frame are exactly the node names; parent-less rows are roots. -/
theorem rows_export_each_edge_once {g : Dag} (wf : DWF g) (hc : g.Connected) {v : Nat}
    (hv : v ∈ g.nodes) (hne : g.edges ≠ []) (sel : AttrSel) :
    (rowsRel (g.dagToRows sel v)).Perm g.edges ∧ (g.dagToRows sel v).Nodup ∧
      (∀ x, (∃ r ∈ g.dagToRows sel v, r.name = x) ↔ x ∈ g.nodes) ∧
      (∀ r ∈ g.dagToRows sel v, r.parent = none → g.parents r.name = []) := by
  have hiter := C16.dag_iter_edges_connected wf hc hv
  have hmem : ∀ e, e ∈ rowsRel (g.dagToRows sel v) ↔ e ∈ g.edges := fun e =>
    mem_rowsRel_dagToRows.trans hiter.mem_iff
  refine ⟨(perm_ext_iff_of_nodup nodup_rowsRel_dagToRows (nodup_edges wf)).2 hmem,
    nodup_dropDups _, ?_, fun r hr hp => (root_rows_dagToRows hr hp).1⟩
  refine fun x => ⟨fun ⟨r, hr, hx⟩ => hx ▸ ?_, fun hx => ?_⟩
  · cases hp : r.parent with
    | none =>
      obtain ⟨_, e, he, hname⟩ := root_rows_dagToRows hr hp
      exact hname ▸ (mem_edges.1 (hiter.mem_iff.1 he)).1
    | some p =>
      exact (mem_nodes_of_mem_edges wf ((hmem (p, r.name)).1 (mem_rowsRel.2 ⟨r, hr, hp, rfl⟩))).2
  · rcases node_has_edge wf hc hne hx with ⟨p, he⟩ | ⟨hroot, c, he⟩
    · obtain ⟨r, hr, _, hn⟩ := mem_rowsRel.1 ((hmem _).2 he)
      exact ⟨r, hr, hn⟩
    · exact ⟨_, mem_dagToRows.2 ⟨_, mem_rawRows.2 ⟨(x, c), hiter.mem_iff.2 he, .inl ⟨hroot, rfl⟩⟩, rfl⟩, rfl⟩

/-- **Tier 1.** `dataframe_to_dag (dag_to_dataframe g)` succeeds and is a well-formed DAG with
    the same edge set and the same node names as `g`, and every node carries exactly the non-null
    attribute values the export wrote for it (a null cell — an `attr_dict` attribute the node
    lacks, or a column another node introduced — is read back as "no attribute"). -/
theorem rows_roundtrip {g : Dag} (wf : DWF g) (hc : g.Connected) {v : Nat} (hv : v ∈ g.nodes)
    (hne : g.edges ≠ []) (sel : AttrSel) :
    ∃ b, rowsToDag (g.dagToRows sel v) = .ok b ∧ b.dag.DWF ∧
      (∀ e, e ∈ b.dag.edges ↔ e ∈ g.edges) ∧ (∀ x, x ∈ b.dag.nodes ↔ x ∈ g.nodes) ∧
      (∀ x ∈ g.nodes, ∀ k, (b.dag.attrs x).lookup k =
        match (expAttrs g sel x).lookup k with
        | some .null => none
        | o => o) := by
  obtain ⟨hperm, _, hnames, _⟩ := rows_export_each_edge_once wf hc hv hne sel
  have hrne : g.dagToRows sel v ≠ [] := fun h => hne (h ▸ hperm).symm.eq_nil
  have hS : ∀ r ∈ g.dagToRows sel v, r.name ∈ g.nodes ∧ ∀ p, r.parent = some p → p ∈ g.nodes :=
    fun r hr => ⟨(hnames _).1 ⟨r, hr, rfl⟩, fun p hp =>
      (mem_edges.1 (hperm.mem_iff.1 ((mem_rowsRel (e := (p, r.name))).2 ⟨r, hr, hp, rfl⟩))).1⟩
  have hcols := nodup_columnsOf (g.rawRows sel v)
  obtain ⟨b, hb, hk, h1, h2, h3⟩ := rebuilt_of_outcome wf hc hne (fun _ => hperm.mem_iff)
    (rowsToDag_spec (S := (· ∈ g.nodes))
      (fun y => nonNull ((columnsOf (g.rawRows sel v)).map fun c =>
        (c, ((expAttrs g sel y).lookup c).getD .null)))
      _ hrne (rowsConsistent_dagToRows g sel v) hS)
    fun _ hk => ⟨hk.tracks, hk.nodes⟩
  refine ⟨b, hb, h1, h2, h3, fun x hx k => ?_⟩
  obtain ⟨r, hr, rfl⟩ := (hnames x).2 hx
  rw [((hk.attrs fun r' hr' => ⟨by rw [(attrs_of_mem_dagToRows hr').1], nodup_keysOf_filter
    ((keysOf_map_cols ..).symm ▸ hcols) _⟩).named r.name (mem_map.2 ⟨r, hr, rfl⟩)).2 k]
  exact lookup_nonNull_align hcols (attrs_of_mem_dagToRows hr).2 k

example : ∃ b, rowsToDag (diamondA.dagToRows .all 3) = .ok b ∧ b.dag.DWF ∧
    (∀ e, e ∈ b.dag.edges ↔ e ∈ diamondA.edges) ∧ (∀ x, x ∈ b.dag.nodes ↔ x ∈ diamondA.nodes) ∧
    (∀ x ∈ diamondA.nodes, ∀ k, (b.dag.attrs x).lookup k =
      match (expAttrs diamondA .all x).lookup k with
      | some .null => none
      | o => o) :=
  rows_roundtrip diamondA_wf diamondA_connected (by decide +kernel) (by decide +kernel) .all
example : (diamondA.dagToRows .all 3).map (·.attrs) =
    [[("s".toList, .null), ("z".toList, .str "x".toList)],
     [("s".toList, .null), ("z".toList, .str "x".toList)],
     [("s".toList, .int 1), ("z".toList, .null)],
     [("s".toList, .null), ("z".toList, .null)],
     [("s".toList, .null), ("z".toList, .null)]] := by decide +kernel

example : (C16.diamond.dagToRows .all 3).map (fun r => (r.name, r.parent)) =
    [(3, some 1), (3, some 2), (0, none), (1, some 0), (2, some 0)] := by decide +kernel

/-- `dataframe_to_dag` refuses every frame whose (parent, child) rows contain a cycle: with
    TreeError when it gets as far as building (one attribute tuple per child name), otherwise
    already with the ValueError of the attribute check. -/
theorem rows_cycle_refused (rows : List Row) (h : ¬ RelAcyclic (rowsRel rows)) :
    rowsToDag rows = .error .tree ∨
      (rowsConsistent rows = false ∧ rowsToDag rows = .error .value) := by
  have hne : rows ≠ [] := by rintro rfl; exact h relAcyclic_nil
  cases hcons : rowsConsistent rows with
  | true =>
    exact Or.inl ((rowsToDag_spec (S := fun _ => True) (fun _ => []) rows hne hcons
      (fun _ _ => ⟨trivial, fun _ _ => trivial⟩)).2 h)
  | false =>
    refine Or.inr ⟨rfl, ?_⟩
    rw [rowsToDag, if_neg (by simpa using hne), hcons]
    rfl

/-! ## what `expAttrs` is under `all_attrs=True` (dictionary and DataFrame format alike) -/

/-- with `all_attrs=True` the exported attributes of a node are exactly its public ones
    (not `name`, not `_…`), whatever their order -/
theorem all_attrs_exported {g : Dag} {x : Nat} (h : (keysOf (g.attrs x)).Nodup) (k : Str) :
    (expAttrs g .all x).lookup k =
      if k != "name".toList && k.head? != some '_' then (g.attrs x).lookup k else none :=
  lookup_expAttrs_all h k

/-! ## the two summary statements of DESIGN §6 -/

/-- **Tier 1.** Every exporter lists every edge exactly once (as a permutation of the edge
    list, read off the export the way the matching constructor reads it). -/
theorem export_each_edge_once {g : Dag} (wf : DWF g) (hc : g.Connected) {v : Nat}
    (hv : v ∈ g.nodes) (hne : g.edges ≠ []) (sel : AttrSel) :
    (g.dagToList v).Perm g.edges ∧
    (∃ d, g.dagToDict sel v = some d ∧ (dictRel d).Perm g.edges) ∧
    (rowsRel (g.dagToRows sel v)).Perm g.edges :=
  ⟨list_export_each_edge_once wf hc hv,
   let ⟨d, hd, hp, _⟩ := dict_export_each_edge_once wf hc hv hne sel; ⟨d, hd, hp⟩,
   (rows_export_each_edge_once wf hc hv hne sel).1⟩

example : (C16.diamond.dagToList 3).Perm C16.diamond.edges ∧
    (∃ d, C16.diamond.dagToDict .all 3 = some d ∧ (dictRel d).Perm C16.diamond.edges) ∧
    (rowsRel (C16.diamond.dagToRows .all 3)).Perm C16.diamond.edges :=
  export_each_edge_once C16.diamond_wf diamond_connected (by decide +kernel) (by decide +kernel) .all

/-- **Tier 1.** All three constructors refuse a relation that contains a directed cycle
    (TreeError; for frames possibly the earlier ValueError of the attribute check). -/
theorem cycle_refused :
    (∀ rel : List Edge, ¬ RelAcyclic rel → listToDag rel = .error .tree) ∧
    (∀ d : List DEntry, ¬ RelAcyclic (dictRel d) → dictToDag d = .error .tree) ∧
    (∀ rows : List Row, ¬ RelAcyclic (rowsRel rows) →
      rowsToDag rows = .error .tree ∨ (rowsConsistent rows = false ∧ rowsToDag rows = .error .value)) :=
  ⟨list_cycle_refused, dict_cycle_refused, rows_cycle_refused⟩

end C17
