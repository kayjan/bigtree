import BigtreeModel.Helper
import BigtreeProofs.Lemmas.HelperPrune
/-!
# C14 — prune_tree and get_subtree return exactly the specified part of the tree

Model: `Helper.prune`, `Helper.getSubtree` (Model B, written as the Python is written: locate each
path with `find_path`, build the ancestor set, detach the non-kept children, cut the depth through
the level groups with `del children`). Nodes are identified by their address in the input tree.
`restrict keep [] t` is `t` with exactly the subtrees rooted at nodes failing `keep` removed —
sibling order, ids, names and attributes untouched.
`restrict`, `pruneKeep`, `NonNested` are in `BigtreeModel/Helper.lean`; `labelAt` and `Designates` (a path
string designates an address of the tree) in `Lemmas/HelperPrune.lean`.
-/
namespace C14
open Helper

/-- `r(a[k=1](x, y(z)), b(z), c)` with ids in pre-order: the tree of the non-vacuity examples -/
def ex : Tree :=
  .node 0 ['r'] [] [
    .node 1 ['a'] [(['k'], .int 1)] [.node 2 ['x'] [] [], .node 3 ['y'] [] [.node 4 ['z'] [] []]],
    .node 5 ['b'] [] [.node 6 ['z'] [] []],
    .node 7 ['c'] [] []]

/-- a full path and a bare name locate the nodes at addresses `[0]` and `[1]`, which are non-nested -/
theorem ex_locate : locate ['/'] ex ['/'] [['/','r','/','a'], ['b']] = .ok [[0], [1]] := rfl
theorem ex_nonNested : NonNested [[0], [1]] := by unfold NonNested; decide

theorem pruneKeep_prefix_closed (ps : List Addr) (exact : Bool) (md : Nat) (b c : Addr)
    (hcb : c <+: b) (hb : pruneKeep ps exact md b = true) : pruneKeep ps exact md c = true := by
  rw [pruneKeep_iff] at hb ⊢
  refine ⟨hb.1.imp_right fun ⟨p, hp, h⟩ => ⟨p, hp, ?_⟩,
    hb.2.imp_right (Nat.le_trans (Nat.succ_le_succ hcb.length_le))⟩
  rcases h with h | ⟨he, h⟩
  · exact Or.inl (hcb.trans h)
  · -- `c` and the target `p` are both prefixes of `b`, hence comparable
    exact (List.prefix_or_prefix_of_prefix hcb h).imp_right fun h' => ⟨he, h'⟩

/-- **prune_order_attrs.** For located, pairwise non-nested targets `ps`, `prune_tree` returns the
    input tree restricted to the nodes on a route to a target or (unless `exact`) below one, and
    within the depth limit: sibling order, ids, names and attributes are those of the input. -/
theorem prune_order_attrs (treeSep : Str) (t : Tree) (paths : List Str) (exact : Bool) (sepArg : Str)
    (md : Nat) (ps : List Addr)
    (hloc : locate treeSep t sepArg paths = .ok ps) (hnn : NonNested ps)
    (hne : paths ≠ [] ∨ md ≠ 0) :
    prune treeSep t paths exact sepArg md = .ok (restrict (pruneKeep ps exact md) [] t) := by
  have hc : ¬ (paths.isEmpty && md == 0) = true := by
    rw [Bool.and_eq_true, List.isEmpty_iff, beq_iff_eq]
    exact fun h => hne.elim (· h.1) (· h.2)
  -- `pruneKeep` is the conjunction of the predicates of the two phases
  rw [prune, if_neg hc, prunePaths_eq treeSep t paths exact sepArg ps hloc hnn]
  exact congrArg Except.ok (depthPhase_restrict _ md t)

/-- non-vacuity: two paths, `exact=True` — the hypotheses hold and the restriction is the tree
    `r(a[k=1], b)`; with `exact=False` and `max_depth=3` it is `r(a(x, y), b(z))` (this is the case
    the "ignores `exact` once two paths are given" mutant gets wrong) -/
example : prune ['/'] ex [['/','r','/','a'], ['b']] true ['/'] 0
      = .ok (restrict (pruneKeep [[0], [1]] true 0) [] ex)
    ∧ restrict (pruneKeep [[0], [1]] true 0) [] ex
      = .node 0 ['r'] [] [.node 1 ['a'] [(['k'], .int 1)] [], .node 5 ['b'] [] []]
    ∧ restrict (pruneKeep [[0], [1]] false 3) [] ex
      = .node 0 ['r'] [] [.node 1 ['a'] [(['k'], .int 1)] [.node 2 ['x'] [] [], .node 3 ['y'] [] []],
          .node 5 ['b'] [] [.node 6 ['z'] [] []]] :=
  ⟨prune_order_attrs _ _ _ _ _ _ _ ex_locate ex_nonNested (Or.inl (by simp)), rfl, rfl⟩

/-- **prune_nodes.** The nodes of the result, listed in pre-order, are the nodes of the input at
    the kept addresses (with their ids, names and attributes), and an address is kept iff it is an
    address of the input tree, lies on a route to a target or (unless `exact`) below a target, and
    its depth does not exceed `max_depth`. -/
theorem prune_nodes (treeSep : Str) (t : Tree) (paths : List Str) (exact : Bool) (sepArg : Str)
    (md : Nat) (ps : List Addr)
    (hloc : locate treeSep t sepArg paths = .ok ps) (hnn : NonNested ps)
    (hne : paths ≠ [] ∨ md ≠ 0) :
    ∃ r, prune treeSep t paths exact sepArg md = .ok r ∧
      preLabels r = (keptAddrs (pruneKeep ps exact md) [] t).filterMap (labelAt t) ∧
      ∀ a, a ∈ keptAddrs (pruneKeep ps exact md) [] t ↔
        a ∈ addrs [] t ∧ (ps = [] ∨ ∃ p ∈ ps, a <+: p ∨ (exact = false ∧ p <+: a))
          ∧ (md = 0 ∨ a.length + 1 ≤ md) := by
  refine ⟨_, prune_order_attrs treeSep t paths exact sepArg md ps hloc hnn hne,
    preLabels_restrict _ t t [] rfl, fun a => ?_⟩
  rw [mem_keptAddrs _ (pruneKeep_prefix_closed ps exact md), pruneKeep_iff]
  refine and_congr_right fun _ => ⟨fun h => h.elim (fun e => ?_) id, Or.inr⟩
  -- the root is on the route to every target and at depth 1
  subst e
  exact ⟨match ps with
    | [] => Or.inl rfl
    | p :: _ => Or.inr ⟨p, List.mem_cons_self, Or.inl List.nil_prefix⟩, Nat.eq_zero_or_pos md⟩

/-- non-vacuity: for `exact=False, max_depth=3` the kept addresses are those of `r, a, x, y, b, z`
    (not `y`'s child at depth 4, not `c`) and the result lists exactly their labels -/
example : keptAddrs (pruneKeep [[0], [1]] false 3) [] ex = [[], [0], [0, 0], [0, 1], [1], [1, 0]]
    ∧ (keptAddrs (pruneKeep [[0], [1]] false 3) [] ex).filterMap (labelAt ex)
      = [(0, ['r'], []), (1, ['a'], [(['k'], .int 1)]), (2, ['x'], []), (3, ['y'], []), (5, ['b'], []), (6, ['z'], [])]
    ∧ addrs [] ex = [[], [0], [0, 0], [0, 1], [0, 1, 0], [1], [1, 0], [2]] := ⟨rfl, rfl, rfl⟩
example : ∃ r, prune ['/'] ex [['/','r','/','a'], ['b']] false ['/'] 3 = .ok r ∧ preLabels r
      = [(0, ['r'], []), (1, ['a'], [(['k'], .int 1)]), (2, ['x'], []), (3, ['y'], []), (5, ['b'], []), (6, ['z'], [])] := by
  obtain ⟨r, h1, h2, _⟩ := prune_nodes ['/'] ex _ false ['/'] 3 _ ex_locate ex_nonNested (Or.inl (by simp))
  exact ⟨r, h1, h2⟩

/-- **prune_order.** The kept nodes appear in the result in the order they have in the input
    (the kept addresses are a sublist of the input's pre-order address list) and each exactly once. -/
theorem prune_order (ps : List Addr) (exact : Bool) (md : Nat) (t : Tree) :
    (keptAddrs (pruneKeep ps exact md) [] t).Sublist (addrs [] t) ∧ (addrs [] t).Nodup
      ∧ (keptAddrs (pruneKeep ps exact md) [] t).Nodup :=
  ⟨keptAddrs_sublist _ t [], addrs_nodup t [], (keptAddrs_sublist _ t []).nodup (addrs_nodup t [])⟩

/-- the addresses listed by `addrs` are exactly the positions at which the tree has a node -/
theorem addrs_valid (t : Tree) (a : Addr) : a ∈ addrs [] t ↔ (subAt t a).isSome := by
  rw [mem_addrs_iff]; simp

/-- the targets `locate` returns are the nodes the textual paths designate under `find_path`'s
    reading: the unique node whose `path_name` ends with the path (after `replace(sep, tree.sep)` and
    `rstrip(tree.sep)`) -/
theorem locate_designates (treeSep : Str) (t : Tree) (sepArg : Str) (paths : List Str) (ps : List Addr)
    (h : locate treeSep t sepArg paths = .ok ps) :
    ps.length = paths.length ∧ ∀ qp ∈ paths.zip ps, Designates treeSep t sepArg qp.1 qp.2 :=
  ⟨locate_length treeSep t sepArg paths ps h, locate_sound treeSep t sepArg paths ps h⟩

/-- `find_path` finds `v` iff `v` is the one node whose `path_name` ends with the query -/
theorem find_path_spec (sep : Str) (anc : List Str) (t : Tree) (q : Str) (v : Visit) :
    findPath sep anc t q = .ok (some v) ↔
      v ∈ walk [] anc t ∧ (rstrip sep q) <:+ pathName sep v.names ∧
        ∀ w ∈ walk [] anc t, (rstrip sep q) <:+ pathName sep w.names → w = v :=
  findPath_eq_some_iff sep anc t q v

/-- non-vacuity: `"b"` designates the node at `[1]` of `ex`; `"z"` (two matches) designates none -/
example : ∃ v, findPath ['/'] [] ex ['b'] = .ok (some v) ∧ v.addr = [1] ∧ v.names = [['r'], ['b']] := ⟨_, rfl, rfl, rfl⟩
example : findPath ['/'] [] ex ['z'] = .error .searchError := rfl

/-- the depth phase of `get_subtree`: `prune_tree` without paths -/
theorem subtree_depth (treeSep : Str) (s : Tree) (md : Nat) :
    (if md == 0 then .ok s else prune treeSep s [] false ['/'] md)
      = .ok (if md = 0 then s else restrict (fun b => decide (b.length + 1 ≤ md)) [] s) := by
  cases md with
  | zero => rfl
  | succ m =>
    exact prune_order_attrs treeSep s [] false ['/'] (m + 1) [] rfl (fun _ h => nomatch h)
      (Or.inr (Nat.succ_ne_zero m))

/-- **subtree_eq.** `get_subtree` returns the addressed node with its descendants, cut at the
    relative depth `max_depth`, as a new root. -/
theorem subtree_eq (treeSep : Str) (anc : List Str) (t : Tree) (q : Str) (md : Nat) (v : Visit)
    (hq : q ≠ []) (hf : findPath treeSep anc t q = .ok (some v)) :
    getSubtree treeSep anc t q md
        = .ok (if md = 0 then v.sub else restrict (fun b => decide (b.length + 1 ≤ md)) [] v.sub)
      ∧ subAt t v.addr = some v.sub := by
  constructor
  · have hs : subtreeFind treeSep anc t q = .ok v.sub := by
      cases q with
      | nil => exact absurd rfl hq
      | cons c q => rw [subtreeFind, hf]; rfl
    rw [getSubtree, hs]
    exact subtree_depth treeSep v.sub md
  · obtain ⟨hv, _, _⟩ := (findPath_eq_some_iff treeSep anc t q v).1 hf
    obtain ⟨rel, h1, h2⟩ := walk_subAt t [] anc v hv
    rw [h1]; exact h2

/-- non-vacuity: `get_subtree(root, "a", max_depth=2)` finds the node at `[0]` and returns `a(x, y)` -/
example : ∃ v, findPath ['/'] [] ex ['a'] = .ok (some v) ∧ v.addr = [0]
    ∧ getSubtree ['/'] [] ex ['a'] 2
      = .ok (.node 1 ['a'] [(['k'], .int 1)] [.node 2 ['x'] [] [], .node 3 ['y'] [] []]) :=
  ⟨_, rfl, rfl, rfl⟩

/-- `get_subtree` without a name or path starts from the given node itself -/
theorem subtree_self (treeSep : Str) (anc : List Str) (t : Tree) (md : Nat) :
    getSubtree treeSep anc t [] md
      = .ok (if md = 0 then t else restrict (fun b => decide (b.length + 1 ≤ md)) [] t) :=
  subtree_depth treeSep t md

/-- **missing_path_rej.** A path that matches no node is reported: `prune_tree` raises
    `NotFoundError` at the first such path (all earlier ones having been found). A path
    "matches no node" means: no node of the tree has a `path_name` ending with it. -/
theorem missing_path_rej (treeSep : Str) (t : Tree) (exact : Bool) (sepArg : Str) (md : Nat)
    (qs1 : List Str) (q : Str) (qs2 : List Str)
    (hfound : ∀ q' ∈ qs1, ∃ v, findPath treeSep [] t (replace sepArg treeSep q') = .ok (some v))
    (hmiss : ∀ w ∈ walk [] [] t, ¬ (rstrip treeSep (replace sepArg treeSep q)) <:+ pathName treeSep w.names) :
    prune treeSep t (qs1 ++ q :: qs2) exact sepArg md = .error .notFound := by
  have hloc : locate treeSep t sepArg (qs1 ++ q :: qs2) = .error .notFound := by
    induction qs1 with
    | nil => rw [List.nil_append, locate, (findPath_eq_none_iff treeSep [] t _).mpr hmiss]
    | cons q' qs ih =>
      obtain ⟨v, hv⟩ := hfound q' List.mem_cons_self
      rw [List.cons_append, locate, hv, ih fun x hx => hfound x (List.mem_cons_of_mem _ hx)]
      rfl
  unfold prune prunePaths
  simp [hloc, Except.map]

/-- non-vacuity: the second path `q` matches nothing (the first one is found) -/
example : prune ['/'] ex [['b'], ['q']] false ['/'] 0 = .error .notFound := rfl
example : (∃ v, findPath ['/'] [] ex (replace ['/'] ['/'] ['b']) = .ok (some v))
    ∧ findPath ['/'] [] ex (replace ['/'] ['/'] ['q']) = .ok none := ⟨⟨_, rfl⟩, rfl⟩
/-- an ambiguous name is refused too (`z` occurs twice): `SearchError` -/
example : prune ['/'] ex [['z']] false ['/'] 0 = .error .searchError := rfl

/-- `get_subtree` with a path that matches no node raises `ValueError` -/
theorem missing_subtree_rej (treeSep : Str) (anc : List Str) (t : Tree) (q : Str) (md : Nat) (hq : q ≠ [])
    (hmiss : ∀ w ∈ walk [] anc t, ¬ (rstrip treeSep q) <:+ pathName treeSep w.names) :
    getSubtree treeSep anc t q md = .error .valueError := by
  cases q with
  | nil => exact absurd rfl hq
  | cons c q => rw [getSubtree, subtreeFind, (findPath_eq_none_iff treeSep anc t (c :: q)).mpr hmiss]; rfl

example : getSubtree ['/'] [] ex ['q'] 0 = .error .valueError := rfl

/-- `prune_tree` without path and depth raises `ValueError` -/
theorem prune_no_args_rej (treeSep : Str) (t : Tree) (exact : Bool) (sepArg : Str) :
    prune treeSep t [] exact sepArg 0 = .error .valueError := rfl

end C14
