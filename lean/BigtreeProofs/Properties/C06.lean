import BigtreeProofs.Lemmas.ExportRows
import BigtreeProofs.Lemmas.NewickRoundtrip
/-!
# C06 — exports are complete; export ∘ import = identity

Model: `BigtreeModel/Export.lean` (dict / DataFrame rows / nested dict and their constructors) and
`BigtreeModel/Newick.lean` (writer, parser state machine). Helper lemmas: `Lemmas/Export*.lean`,
`Lemmas/Newick*.lean`.

Hypotheses of the round trips (`AllNodes NodeOK t`: what the `Node` class guarantees — non-empty
names, distinct attribute keys, sibling-unique names; `AllNodes (SepFree sep) t`: no name contains
the separator) are exactly the "documented alphabet" of the property.

Four notions the statements below use are defined beside the lemmas about them, not in the model:
`Export.fixedEntries` (`Lemmas/ExportBasic.lean`: the path / name / parent entries of a record, linked to
`record` by `record_fixed`); `Newick.ws` (`Lemmas/NewickRoundtrip.lean`: the string `tree_to_newick` returns
with default options, `write c {} r t = some (ws c t)` by `write_default`); `Newick.Ready`
(`Lemmas/NewickAttrs.lean`) and `Newick.parked` (`Lemmas/NewickRoundtrip.lean`): the parser states before and
after one subtree's text.
-/

namespace C06
open Export

/-! ## completeness: one record per selected node, in pre-order -/

/-- `tree_to_dataframe` / `tree_to_polars`: the list of records handed to the DataFrame constructor
is exactly one `record` (path, name, parent name, requested attributes) per node admitted by
`max_depth` / `skip_depth` / `leaf_only`, in pre-order — for every start node (`anc`) and options. -/
theorem rows_complete (o : Opts) (sep : Char) (anc : List Str) (t : Tree) :
    treeToRows o sep anc t
      = ((preCtx anc t).filter (selected o)).map fun x => record o sep x.1 x.2 := by
  rw [treeToRows, appendRows_eq]
  rfl

/-- What a record carries when no two requested keys coincide (`attr_dict` mode): the node's exact
path (DataFrames only), name and parent name under the requested keys, followed by the requested
attribute values `node.get_attr(k)` under their column names, in `attr_dict` order. -/
theorem record_exact (o : Opts) (sep : Char) (anc : List Str) (t : Tree) (hall : o.allAttrs = false)
    (hn : ((fixedEntries o sep anc t).map Prod.fst ++ o.attrDict.map Prod.snd).Nodup) :
    record o sep anc t
      = fixedEntries o sep anc t ++ o.attrDict.map fun kc => (kc.2, getAttr t.attrs kc.1) := by
  have h := List.nodup_append.mp hn
  rw [record_fixed o sep anc t h.1, addAttrs, if_neg (by rw [hall]; decide)]
  refine (List.foldl_map (f := fun kc : Str × Str => (kc.2, getAttr t.attrs kc.1))
    (g := fun d e => dset d e.1 e.2)).symm.trans (foldl_dset_fresh _ _ ?_ ?_)
  · rw [List.map_map]; exact h.2.1
  · intro k hk hmem
    rw [List.map_map] at hk
    exact h.2.2 k hmem k hk rfl

/-- the same in `all_attrs` mode: the fixed entries followed by every public attribute
(`describe`: sorted by key, without `name` and `_`-prefixed keys). -/
theorem record_exact_all (o : Opts) (sep : Char) (anc : List Str) (t : Tree) (hall : o.allAttrs = true)
    (hk : (t.attrs.map Prod.fst).Nodup) (hn : ((fixedEntries o sep anc t).map Prod.fst).Nodup)
    (hd : ∀ k ∈ (describe t.attrs).map Prod.fst, k ∉ (fixedEntries o sep anc t).map Prod.fst) :
    record o sep anc t = fixedEntries o sep anc t ++ describe t.attrs := by
  rw [record_fixed o sep anc t hn]
  exact addAttrs_full _ _ _ hall hk hd

/-- `tree_to_dict`, unconditionally: the dictionary is the result of assigning
`d[path_name] = record` for the selected nodes in pre-order. -/
theorem dict_complete_assign (o : Opts) (sep : Char) (anc : List Str) (t : Tree) :
    treeToDict o sep anc t
      = (((preCtx anc t).filter (selected o)).map fun x =>
          (pathName sep x.1 x.2.name, record o sep x.1 x.2)).foldl (fun d e => dset d e.1 e.2) [] := by
  rw [treeToDict, appendDict_eq]
  rfl

/-- `tree_to_dict` on a tree with sibling-unique, separator-free, non-empty names: no two nodes
share a key, so the dictionary lists exactly one (path, record) entry per selected node, in pre-order. -/
theorem dict_complete (o : Opts) (sep : Char) (anc : List Str) (t : Tree)
    (h1 : AllNodes NodeOK t) (h2 : AllNodes (SepFree sep) t) (hanc : ∀ s ∈ anc, s ≠ [] ∧ sep ∉ s) :
    treeToDict o sep anc t
      = ((preCtx anc t).filter (selected o)).map fun x =>
          (pathName sep x.1 x.2.name, record o sep x.1 x.2) :=
  treeToDict_eq o sep t anc h1 h2 hanc

/-- distinct nodes have distinct paths (what makes the dictionary keys and the path column identify nodes) -/
theorem paths_distinct (sep : Char) (anc : List Str) (t : Tree)
    (h1 : AllNodes NodeOK t) (h2 : AllNodes (SepFree sep) t) (hanc : ∀ s ∈ anc, s ≠ [] ∧ sep ∉ s) :
    ((preCtx anc t).map fun x => pathName sep x.1 x.2.name).Nodup :=
  paths_nodup sep t anc h1 h2 hanc

/-- `tree_to_nested_dict`: when the start node is within `max_depth`, the result mirrors, node for
node and in sibling order, the tree cut at `max_depth` (each node carrying its name and requested
attributes). -/
theorem nested_complete (o : Opts) (anc : List Str) (t : Tree)
    (h : o.maxDepth = 0 ∨ anc.length + 1 ≤ o.maxDepth) :
    treeToNested o anc t = some (mirror o (cutDepth o.maxDepth (anc.length + 1) t)) := by
  rw [treeToNested, nestedOf_eq o t (anc.length + 1) ((depthGate_iff o _).2 h)]
  rfl

/-- the scope exclusion of DESIGN §5: below `max_depth` the nested format has no value (`KeyError`) -/
theorem nested_empty (o : Opts) (anc : List Str) (t : Tree)
    (h : o.maxDepth ≠ 0 ∧ o.maxDepth < anc.length + 1) : treeToNested o anc t = none := by
  unfold treeToNested
  cases t with
  | node i n a cs =>
    rw [nestedOf, if_neg fun hg => ((depthGate_iff o _).1 hg).elim h.1 (Nat.not_le.2 h.2)]
    rfl

/-! ## round trips -/

/-- `dict_to_tree (tree_to_dict t, all_attrs=True) = t` in names, shape, sibling order and public
attributes (`canon t`: ids forgotten, attributes as `describe` lists them). -/
theorem dict_roundtrip (sep : Char) (t : Tree) (h1 : AllNodes NodeOK t) (h2 : AllNodes (SepFree sep) t) :
    dictToTree sep (treeToDict (fullOpts []) sep [] t) = some (canon t) := by
  rw [treeToDict_eq (fullOpts []) sep t [] h1 h2 (by intro s hs; cases hs)]
  cases t with
  | node i n a cs => exact dictToTree_full sep i n a cs h1 h2

/-- `nested_dict_to_tree (tree_to_nested_dict t, all_attrs=True) = t`, from any start node. -/
theorem nested_roundtrip (anc : List Str) (t : Tree) (h : AllNodes NodeOK t) :
    (treeToNested (fullOpts []) anc t).bind (nestedToTree strName) = some (canon t) := by
  rw [nested_complete (fullOpts []) anc t (Or.inl rfl)]
  simp only [fullOpts, cutDepth_zero, Option.bind_some]
  exact nestedToTree_mirror [] t h

/-- `dataframe_to_tree (tree_to_dataframe t, all_attrs=True)` (the same for polars): the rebuilt
tree has the names, shape and sibling order of `t`; each node's attributes are what its row gives
back (`rowAttrs`: per column in order, the node's public attribute unless null) — by
`rows_roundtrip_attrs` that is, as a map, exactly the node's public non-null attributes.
`pc` is the path column; it must not be an attribute name of the tree. -/
theorem rows_roundtrip (sep : Char) (pc : Str) (t : Tree) (hpc : pc ≠ [] ∧ pc ≠ strName)
    (h1 : AllNodes NodeOK t) (h2 : AllNodes (SepFree sep) t)
    (h3 : AllNodes (fun u => pc ∉ u.attrs.map Prod.fst) t) :
    rowsToTree sep (frame (treeToRows (fullOpts pc) sep [] t))
      = some (canonWith (rowAttrs pc (columnsOf (treeToRows (fullOpts pc) sep [] t))) t) := by
  cases t with
  | node i n a cs => exact rowsToTree_full sep pc i n a cs hpc h1 h2 h3

/-- the attributes read back from the DataFrame agree, key by key, with the node's public
attributes (a null value and a missing attribute are not distinguished by a DataFrame). -/
theorem rows_roundtrip_attrs (sep : Char) (pc : Str) (t : Tree) (hpc : pc ≠ [] ∧ pc ≠ strName)
    (h1 : AllNodes NodeOK t) (h3 : AllNodes (fun u => pc ∉ u.attrs.map Prod.fst) t)
    (x : List Str × Tree) (hx : x ∈ preCtx [] t) (k : Str) :
    getAttr (rowAttrs pc (columnsOf (treeToRows (fullOpts pc) sep [] t)) x.2.attrs) k
      = getAttr (describe x.2.attrs) k := by
  rw [treeToRows_full sep pc t [] hpc h1 h3]
  apply rowAttrs_get pc _ _
  · intro k' hk'
    exact columnsOf_mem _ (fullRow sep pc x) k' (List.mem_map_of_mem hx)
      (List.mem_cons_of_mem _ (List.mem_cons_of_mem _ hk'))
  · intro hmem
    obtain ⟨kv, hkv, hk⟩ := List.mem_map.mp hmem
    exact allNodes_preCtx _ t [] h3 x hx (List.mem_map.mpr ⟨kv, describe_mem _ _ hkv, hk⟩)

/-! ## non-vacuity -/

/-- a five-node tree with hostile names and attributes -/
def exTree : Tree :=
  .node 7 "a".toList [("B".toList, .int 3), ("A".toList, .str "x y".toList)] [
    .node 8 "b (c)".toList [] [.node 9 "a".toList [("K".toList, .null)] []],
    .node 10 "c:d".toList [("A".toList, .int 0)] [.node 11 "b (c)".toList [] []]]

theorem exTree_ok : AllNodes NodeOK exTree := by
  simp only [exTree, AllNodes, AllNodesL, NodeOK]; decide +kernel

theorem exTree_sepfree : AllNodes (SepFree '/') exTree := by
  simp only [exTree, AllNodes, AllNodesL, SepFree]; decide +kernel

example : (treeToRows { pathCol := "path".toList, skipDepth := 1, leafOnly := true } '/' [] exTree).length = 2 := by
  decide +kernel
example : record { pathCol := "path".toList, parentKey := "parent".toList, attrDict := [("A".toList, "col".toList)] }
    '/' ["a".toList] (.node 10 "c:d".toList [("A".toList, .int 0)] [])
    = [("path".toList, .str "/a/c:d".toList), ("name".toList, .str "c:d".toList), ("parent".toList, .str "a".toList),
       ("col".toList, .int 0)] := by decide +kernel
example : dictToTree '/' (treeToDict (fullOpts []) '/' [] exTree) = some (canon exTree) :=
  dict_roundtrip '/' exTree exTree_ok exTree_sepfree
example : canon exTree ≠ .node 0 "a".toList [] [] := by decide +kernel
example : rowsToTree '/' (frame (treeToRows (fullOpts "path".toList) '/' [] exTree)) =
    some (.node 0 "a".toList [("A".toList, .str "x y".toList), ("B".toList, .int 3)] [
      .node 0 "b (c)".toList [] [.node 0 "a".toList [] []],
      .node 0 "c:d".toList [("A".toList, .int 0)] [.node 0 "b (c)".toList [] []]]) := by decide +kernel
example : (treeToNested { maxDepth := 2 } [] exTree).map (fun x => x.kids.length) = some 2 := by decide +kernel
example : (treeToNested (fullOpts []) [] exTree).bind (nestedToTree strName) = some (canon exTree) :=
  nested_roundtrip [] exTree exTree_ok

/-! ## Newick -/

/-- side conditions of the Newick theorems, discharged for the GENERATED table of
`NewickCharacter` values: eight pairwise distinct single characters, equal to the punctuation the
writer emits literally. If `constants.py` changes so that this fails, the build fails here. -/
theorem newick_table_ok : Newick.chars.OK := by decide +kernel

theorem newick_table_is_generated :
    Newick.Chars.ofTable Generated.newickSpecials = some Newick.chars := by decide +kernel

/-- The stack invariant of the parser: reading `tree_to_newick(t)` from a state with nothing
pending at depth `d` (and nothing parked above `d`) ends in the same state with `t`'s name pending
and exactly `t`'s children parked at depth `d+1` — for any constants meeting the side conditions,
any continuation `rest`, names without the quote character (names containing any of the other
special characters are written quoted and are read back verbatim). -/
theorem newick_stack_invariant (c : Newick.Chars) (hc : c.OK) (la pre : Str) (t : Tree) (s : Newick.PState)
    (rest : Str) (hs : Newick.Ready s) (h1 : AllNodes NodeOK t) (h2 : AllNodes (fun u => c.quote ∉ u.name) t) :
    Newick.go c la pre s (Newick.ws c t ++ rest) = Newick.go c la pre (Newick.parked s t) rest :=
  Newick.go_ws c hc la pre t s rest hs ⟨h1, h2⟩

/-- `newick_to_tree (tree_to_newick t) = t` in names, shape and sibling order, for every tree whose
names are non-empty, sibling-unique and free of `'` — including names that contain any of the other
special characters `( ) [ ] = : ,`, from any start node, for any `length_attr` / `attr_prefix`
given to the parser. -/
theorem newick_roundtrip (t : Tree) (isRoot : Bool) (la pre : Str)
    (h1 : AllNodes NodeOK t) (h2 : AllNodes (fun u => '\'' ∉ u.name) t) :
    (Newick.write Newick.chars {} isRoot t).bind (Newick.parse Newick.chars la pre)
      = some (Newick.namesOnly t) := by
  rw [Newick.write_default, Option.bind_some]
  exact Newick.parse_ws Newick.chars newick_table_ok la pre t ⟨h1, newick_table_ok.quote_eq ▸ h2⟩

/-- The length / attribute variant: with `length_attr = la`, `attr_list = al`, `attr_prefix = pre`
(and `:` as both separators) the writer is defined and the parser — given the same `la`, `pre` —
returns `img la al isRoot t`: the same names, shape and sibling order, each non-root node carrying
its length and every node its listed truthy attributes (in list order). Hypotheses: lengths are
positive integers (the start node needs one only when it is not the root), listed attribute names
are non-empty and `'`-free, listed truthy values are `'`-free strings (names, keys and values
containing any of the other special characters are written quoted and are read back verbatim). -/
theorem newick_roundtrip_attrs (t : Tree) (isRoot : Bool) (la pre : Str) (al : List Str)
    (h1 : AllNodes NodeOK t) (h2 : AllNodes (fun u => '\'' ∉ u.name) t)
    (h3 : (isRoot = false → Newick.LenNode la t) ∧ AllNodesL (Newick.LenNode la) t.children)
    (h4 : AllNodes (Newick.AttrNode '\'' al) t) :
    ∃ w, Newick.write Newick.chars (Newick.stdW la al pre) isRoot t = some w ∧
      Newick.parse Newick.chars la pre w = some (Newick.img la al isRoot t) := by
  have hlen : Newick.LenTop la isRoot t := ⟨fun hL => (h3.1 hL.2).resolve_left hL.1, h3.2⟩
  obtain ⟨w, hw⟩ := Newick.write_some Newick.chars la pre al t isRoot hlen
  refine ⟨w, hw, ?_⟩
  exact Newick.parse_write Newick.chars newick_table_ok la pre al t isRoot w
    ⟨h1, newick_table_ok.quote_eq ▸ h2⟩ hlen (newick_table_ok.quote_eq ▸ h4) hw

/-- the quoting rule: a name is written between quotes exactly when it contains one of the table's characters -/
theorem newick_quoting (n : Str) :
    Newick.serialize Newick.chars n
      = if n.any (fun ch => Newick.chars.values.contains ch)
        then '\'' :: n.map (fun ch => if ch = '\'' then '"' else ch) ++ ['\''] else n := by
  rw [Newick.serialize, newick_table_ok.quote_eq]

theorem exTree_noquote : AllNodes (fun u => '\'' ∉ u.name) exTree := by
  simp only [exTree, AllNodes, AllNodesL]; decide +kernel

example : Newick.write Newick.chars {} true exTree = some "((a)'b (c)',('b (c)')'c:d')a".toList := by decide +kernel
example : (Newick.write Newick.chars {} true exTree).bind (Newick.parse Newick.chars [] []) = some (Newick.namesOnly exTree) :=
  newick_roundtrip exTree true [] [] exTree_ok exTree_noquote
example : Newick.parse Newick.chars "length".toList [] "(a,(b".toList = none := by decide +kernel

/-- a tree with lengths and attributes, hostile keys and values -/
def exTreeL : Tree :=
  .node 1 "r".toList [("S".toList, .str "x:y".toList)] [
    .node 2 "a b".toList [("L".toList, .int 12), ("S".toList, .str "[h]".toList), ("K=".toList, .str "v".toList)] [
      .node 3 "c,d".toList [("L".toList, .int 7), ("S".toList, .str "".toList)] []],
    .node 4 "e".toList [("L".toList, .int 305)] []]

example : Newick.write Newick.chars (Newick.stdW "L".toList ["S".toList, "K=".toList] "&&NHX:".toList) true exTreeL
    = some "(('c,d':7)a b:12[&&NHX:S='[h]':'K='=v],e:305)r[&&NHX:S='x:y']".toList := by decide +kernel
example : Newick.img "L".toList ["S".toList, "K=".toList] true exTreeL =
    .node 0 "r".toList [("S".toList, .str "x:y".toList)] [
      .node 0 "a b".toList [("L".toList, .int 12), ("S".toList, .str "[h]".toList), ("K=".toList, .str "v".toList)] [
        .node 0 "c,d".toList [("L".toList, .int 7)] []],
      .node 0 "e".toList [("L".toList, .int 305)] []] := by decide +kernel

theorem exTreeL_ok : AllNodes NodeOK exTreeL := by
  simp only [exTreeL, AllNodes, AllNodesL, NodeOK]; decide +kernel
theorem exTreeL_noquote : AllNodes (fun u => '\'' ∉ u.name) exTreeL := by
  simp only [exTreeL, AllNodes, AllNodesL]; decide +kernel
theorem exTreeL_len : (true = false → Newick.LenNode "L".toList exTreeL) ∧
    AllNodesL (Newick.LenNode "L".toList) exTreeL.children := by
  refine ⟨by simp, ?_⟩
  simp only [exTreeL, Tree.children_node, AllNodesL, AllNodes, and_true]
  exact ⟨⟨Or.inr ⟨12, by decide, by decide⟩, Or.inr ⟨7, by decide, by decide⟩⟩, Or.inr ⟨305, by decide, by decide⟩⟩
theorem exTreeL_attr : AllNodes (Newick.AttrNode '\'' ["S".toList, "K=".toList]) exTreeL := by
  simp only [exTreeL, AllNodes, AllNodesL, and_true]
  refine ⟨?_, ⟨?_, ?_⟩, ?_⟩ <;> exact Newick.attrNode_of_check _ _ _ (by decide +kernel)
example : ∃ w, Newick.write Newick.chars (Newick.stdW "L".toList ["S".toList, "K=".toList] "&&NHX:".toList) true exTreeL = some w ∧
    Newick.parse Newick.chars "L".toList "&&NHX:".toList w
      = some (Newick.img "L".toList ["S".toList, "K=".toList] true exTreeL) :=
  newick_roundtrip_attrs exTreeL true _ _ _ exTreeL_ok exTreeL_noquote exTreeL_len exTreeL_attr

end C06
