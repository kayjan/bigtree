import BigtreeModel.Modify
import BigtreeProofs.Lemmas.ModifyFold
import BigtreeProofs.Lemmas.ModifyEdit
import BigtreeProofs.Lemmas.ModifyMerge
import BigtreeProofs.Lemmas.ModifyReplace
import BigtreeProofs.Lemmas.ModifyFrame
import BigtreeProofs.Lemmas.ModifyFrameReplace
import BigtreeProofs.Lemmas.ModifyObjs
/-!
# C08 — shift / copy / replace perform exactly the documented edit and nothing else

Theorems about the model `BigtreeModel/Modify.lean` (tied to `/repo` by `harness/props/C08.py`).
The statements are written in the specification vocabulary at the end of that file (`flat`, `paths`,
`under`, `rebase`, `SibUnique`, `GoodName`) and in the definitions at the head of `Lemmas/ModifyFold.lean`
(`Cfg.Plain`, `GoodNames`, `FromOK`, `st0`, `stripIf`, `shape`, `objs`, `underAny`, `ent`, `touched`,
`destHandle`, `replHandle`); the hypothesis structures `PairHyp`, `OverHyp`, `MergeHyp`, `ReplaceHyp`,
`LeavesHyp` stand here, each in front of its theorem.
-/
open Modify

namespace C08

/-- configuration with `/` for all three separators (used by the examples) -/
def cfgOf (copy sk ov mc ml dc fp : Bool) : Cfg :=
  { sep := ['/'], fsep := ['/'], tsep := ['/'], copy := copy, skippable := sk, overriding := ov,
    mergeChildren := mc, mergeLeaves := ml, deleteChildren := dc, withFullPath := fp }

/-! ## one call with several pairs ≡ the same single-pair calls in sequence -/

/-- The up-front argument validation of `copy_or_shift_logic` looks at *all* pairs before the first
one is processed, so the statement is made for pair lists that pass it (`valid`); see
`pairs_fold_ok` for the unconditional form on the success part. -/
theorem pairs_fold (cfg : Cfg) (st : St) (p : Str × Option Str) (ps : List (Str × Option Str))
    (hv : valid cfg st (p :: ps) = true) :
    copyOrShift cfg st (p :: ps)
      = (copyOrShift cfg st [p]).bind (fun st' => copyOrShift cfg st' ps) := by
  rw [valid_cons] at hv
  simp only [Bool.and_eq_true] at hv
  obtain ⟨hv1, hv2⟩ := hv
  simp only [copyOrShift, valid_cons cfg st p ps, hv1, hv2, Bool.and_self, if_true, List.map_cons,
    List.map_nil, loop]
  cases hs : step cfg st (norm cfg p) with
  | error e => simp [Except.bind]
  | ok st' =>
    obtain ⟨h1, _⟩ := step_name hs
    have h2 := step_tree_name hs
    simp [Except.bind, valid_congr h1 h2, hv2]

example :
    let cfg : Cfg := cfgOf false false false false false false true
    let t : Tree := .node 0 ['r'] [] [.node 1 ['a'] [] [.node 2 ['x'] [] []], .node 3 ['b'] [] []]
    let ps : List (Str × Option Str) :=
      [(['r','/','a','/','x'], some ['r','/','b','/','x']), (['r','/','a'], some ['r','/','b','/','a'])]
    valid cfg ⟨none, t, 4⟩ ps = true ∧
    (copyOrShift cfg ⟨none, t, 4⟩ ps).toOption =
      some ⟨none, .node 0 ['r'] [] [.node 3 ['b'] [] [.node 2 ['x'] [] [], .node 1 ['a'] [] []]], 4⟩ := by
  decide +kernel

/-- Unconditional form: the successful outcomes of one call and of the sequential calls agree
(an invalid list makes both fail, possibly with different exception classes). -/
theorem pairs_fold_ok (cfg : Cfg) (st : St) (p : Str × Option Str) (ps : List (Str × Option Str)) :
    (copyOrShift cfg st (p :: ps)).toOption
      = ((copyOrShift cfg st [p]).bind (fun st' => copyOrShift cfg st' ps)).toOption := by
  cases hv : valid cfg st (p :: ps) with
  | true => rw [pairs_fold cfg st p ps hv]
  | false =>
    have hl : copyOrShift cfg st (p :: ps) = .error .value := by simp [copyOrShift, hv]
    rw [hl]
    rw [valid_cons] at hv
    cases hv1 : valid cfg st [p] with
    | false => simp [copyOrShift, hv1, Except.bind, Except.toOption]
    | true =>
      rw [hv1] at hv
      simp only [Bool.true_and] at hv
      simp only [copyOrShift, hv1, if_true, List.map_cons, List.map_nil, loop]
      cases hs : step cfg st (norm cfg p) with
      | error e => simp [Except.bind, Except.toOption]
      | ok st' =>
        obtain ⟨h1, _⟩ := step_name hs
        have h2 := step_tree_name hs
        simp [Except.bind, Except.toOption, valid_congr h1 h2, hv]

/-- A bare equality of outcomes (exception classes included) does not hold: with a missing
from-path first and a name mismatch second, one call raises `ValueError`, the sequential calls
`NotFoundError`. -/
theorem pairs_fold_needs_valid :
    ∃ (cfg : Cfg) (st : St) (p : Str × Option Str) (ps : List (Str × Option Str)),
      (copyOrShift cfg st (p :: ps)) = .error .value ∧
      ((copyOrShift cfg st [p]).bind (fun st' => copyOrShift cfg st' ps)) = .error .notFound := by
  refine ⟨cfgOf false false false false false false true, ⟨none, .node 0 ['r'] [] [.node 1 ['a'] [] []], 2⟩,
      (['r','/','z'], some ['r','/','a','/','z']), [(['r','/','a'], some ['r','/','b'])], ?_, ?_⟩
  · decide +kernel
  · decide +kernel

/-- The loop as it was before `fix:` D4 (the `merge_children` flag cleared for the rest of the
call) violates the fold law: overriding + merge_children, first destination exists. -/
theorem prefix_loop_not_fold :
    ∃ (cfg : Cfg) (st : St) (p q : Str × Option Str),
      valid cfg st [p, q] = true ∧
      (copyOrShiftPre cfg st [p, q]).toOption
        ≠ ((copyOrShiftPre cfg st [p]).bind (fun st' => copyOrShiftPre cfg st' [q])).toOption := by
  refine ⟨cfgOf false false true true false false true,
    ⟨none, .node 0 ['r'] [] [.node 1 ['a'] [] [.node 2 ['x'] [] []],
                              .node 3 ['b'] [] [.node 4 ['a'] [] [.node 5 ['y'] [] []]],
                              .node 6 ['c'] [] [.node 7 ['a'] [] [.node 8 ['z'] [] []]]], 9⟩,
    (['r','/','b','/','a'], some ['r','/','a']),
    (['r','/','c','/','a'], some ['r','/','n','/','a']), ?_, ?_⟩
  · decide +kernel
  · decide +kernel

/-! ## the hypotheses of the single-pair theorems -/

/-- One (from, to) pair: the to-path is a printed full path `sep + sep.join(names)`, the from-string
`fs` is any string that addresses the from-node (`FromOK`: a printed full path with
`with_full_path=True` — `FromOK.full` —, or a partial path / node name matching exactly one node with
`with_full_path=False` — `FromOK.partial`), in a tree whose sibling names are unique; all three
separators are the character `c`; no merge flag (`delete_children` is a parameter of the statements).
`fpar ++ [l]` / `tpar ++ [l]` are the from- and to-address below the root (same last name `l`, as
`copy_or_shift_logic` requires); `F` is the from-node; `k` is the fresh-id counter, above every id in
the tree. -/
structure PairHyp (cfg : Cfg) (c : Char) (t : Tree) (k : Nat) (fs : Str) (fpar tpar : List Str)
    (l : Str) (F : Tree) : Prop where
  plain : cfg.Plain c
  mc : cfg.mergeChildren = false
  ml : cfg.mergeLeaves = false
  su : SibUnique t
  fresh : ∀ e ∈ flat t, e.2.1 < k
  /-- the from-string addresses the node `F` at `fpar ++ [l]` (see `FromOK`) -/
  from_ : FromOK cfg t fs (fpar ++ [l]) F l
  gt : GoodNames c (t.name :: tpar ++ [l])
  /-- the destination does not exist yet (so `overriding` plays no role) -/
  missing : getRel (tpar ++ [l]) t = none
  /-- DESIGN §5: the destination is not inside the subtree that is moved -/
  outside : (fpar ++ [l]).isPrefixOf tpar = false

/-- the call `shift_nodes / copy_nodes (tree, [from], [to])` of the single-pair theorems -/
def call1 (cfg : Cfg) (c : Char) (t : Tree) (k : Nat) (fs : Str) (tp : List Str) : Except Err St :=
  copyOrShift cfg (st0 t k) [(fs, some (pathStr c t.name tp))]

theorem of_call_ok {x : Except Err St} {P : St → Prop} (h : ∃ a, x = .ok a ∧ P a) {a : St}
    (hr : x = .ok a) : P a := by
  obtain ⟨b, hb, hp⟩ := h
  cases hr.symm.trans hb
  exact hp

/-! ## plain shift -/

/-- the state `st'` holds the tree `t` (all ids below `k`) with the node `X`, taken from `fpar ++ [l]`,
at the new address `tpar ++ [l]` -/
structure Shifted (X t : Tree) (k : Nat) (fpar tpar : List Str) (l : Str) (st' : St) : Prop where
  src : st'.src = none
  su : SibUnique st'.dst
  /-- below the destination stand the entries of `X`, re-rooted -/
  moved : (flat st'.dst).filter (under (tpar ++ [l])) = (flat X).map (rebase (tpar ++ [l]))
  /-- the old objects elsewhere are the old entries outside the from-subtree, in the old order -/
  frame : (flat st'.dst).filter (fun e => decide (e.2.1 < k) && !under (tpar ++ [l]) e)
    = (flat t).filter (fun e => !under (fpar ++ [l]) e)
  /-- whatever is new is an attribute-less node on the destination's parent path -/
  mid : ∀ e ∈ flat st'.dst, ¬ e.2.1 < k → e.1 <+: tpar ∧ e.2.1 < st'.next ∧ e.2.2 = []
  mem_paths : ∀ q, q ∈ paths st'.dst ↔
    (q ∈ paths t ∧ ¬ (fpar ++ [l]) <+: q) ∨ (∃ r, r ∈ paths X ∧ q = tpar ++ [l] ++ r) ∨ q <+: tpar ++ [l]

/-- plain shift (with or without `delete_children`) to a destination that does not exist yet -/
theorem shift_spec {cfg c t k fs fpar tpar l F} (h : PairHyp cfg c t k fs fpar tpar l F)
    (hcp : cfg.copy = false) :
    ∃ st', call1 cfg c t k fs (tpar ++ [l]) = .ok st' ∧
      Shifted (stripIf cfg.deleteChildren F) t k fpar tpar l st' := by
  obtain ⟨hc, hmc, hml, hu, hk, hfr, hgt, hD, hin⟩ := h
  have hF := hfr.found
  have hin' : ¬ fpar ++ [l] <+: tpar := isPrefixOf_eq_false.1 hin
  obtain ⟨t1, k1, hgrow, g⟩ := grow_facts (ns := tpar) (goodNames_mid_ne hgt) hu hk
  -- the from-node after the parent path has been created
  obtain ⟨F1, hF1, hFF⟩ := sub_after_grow hu g hin' hF
  obtain ⟨htpar, hfree⟩ := dest_after_grow hu hD g
  obtain ⟨t', hatt, hsu', hmoved, hrest⟩ :=
    move_facts cfg.deleteChildren (List.append_ne_nil_of_right_ne_nil _ (List.cons_ne_nil _ _)) g.su hF1
      (getRel_name hF1) htpar hin' hfree
  rw [flat_stripIf, hFF, ← flat_stripIf] at hmoved
  refine ⟨⟨none, t', k1⟩, ?_, rfl, hsu', hmoved, ?_, ?_, ?_⟩
  · exact copyOrShift_move hc (by rw [hmc]; rfl) (st0 t k) hfr tpar hgt
      (decideTo_missing hc (st0 t k) _ tpar l hgt hD hgrow) (attach_live_node hcp hml hmc F hF1 hatt)
  · rw [← List.filter_filter, hrest, ← g.old, List.filter_filter, List.filter_filter]
    exact List.filter_congr fun _ _ => Bool.and_comm _ _
  · intro e he hlt
    cases hue : under (tpar ++ [l]) e with
    | true =>
      have : e ∈ (flat (stripIf cfg.deleteChildren F)).map (rebase (tpar ++ [l])) :=
        hmoved ▸ List.mem_filter.2 ⟨he, hue⟩
      obtain ⟨e0, he0, rfl⟩ := List.mem_map.1 this
      have hmem : rebase (fpar ++ [l]) e0 ∈ (flat t).filter (under (fpar ++ [l])) := by
        rw [flat_filter_under hF hu]
        exact List.mem_map.2 ⟨e0, mem_flat_stripIf he0, rfl⟩
      exact absurd (hk _ (List.mem_filter.1 hmem).1) hlt
    | false =>
      have : e ∈ (flat t1).filter (fun e => !under (fpar ++ [l]) e) :=
        hrest ▸ List.mem_filter.2 ⟨he, by rw [hue]; rfl⟩
      obtain ⟨a, b, c⟩ := g.new e (List.mem_filter.1 this).1 hlt
      exact ⟨List.isPrefixOf_iff_prefix.1 a, b, c⟩
  · intro q
    rw [mem_paths_moved hmoved hrest q, g.mem_paths q, List.prefix_concat_iff]
    constructor
    · rintro (⟨h | h, hn⟩ | h)
      · exact Or.inl ⟨h, hn⟩
      · exact Or.inr (Or.inr (Or.inr (List.isPrefixOf_iff_prefix.1 h)))
      · exact Or.inr (Or.inl h)
    · rintro (⟨h, hn⟩ | h | rfl | h)
      · exact Or.inl ⟨Or.inl h, hn⟩
      · exact Or.inr h
      · exact Or.inr ⟨[], nil_mem_paths _, (List.append_nil _).symm⟩
      · exact Or.inl ⟨Or.inr (List.isPrefixOf_iff_prefix.2 h), fun hp => hin' (hp.trans h)⟩

theorem shift_ok {cfg c t k fs fpar tpar l F} (h : PairHyp cfg c t k fs fpar tpar l F)
    (hcp : cfg.copy = false) :
    ∃ st', call1 cfg c t k fs (tpar ++ [l]) = .ok st' :=
  let ⟨st', hcall, _⟩ := shift_spec h hcp
  ⟨st', hcall⟩

/-- path set of the result, for both values of `delete_children`: what is attached is the
from-node (`stripIf false F = F`) or the bare from-node (`stripIf true F`) -/
theorem shift_paths_gen {cfg c t k fs fpar tpar l F} (h : PairHyp cfg c t k fs fpar tpar l F)
    (hcp : cfg.copy = false) {st' : St}
    (hr : call1 cfg c t k fs (tpar ++ [l]) = .ok st') (q : List Str) :
    q ∈ paths st'.dst ↔
      (q ∈ paths t ∧ ¬ (fpar ++ [l]) <+: q) ∨
      (∃ r, r ∈ paths (stripIf cfg.deleteChildren F) ∧ q = tpar ++ [l] ++ r) ∨
      q <+: tpar ++ [l] :=
  (of_call_ok (shift_spec h hcp) hr).mem_paths q

/-- `paths' = (paths \ under from) ∪ rebase from to (under from) ∪ prefixes to` -/
theorem shift_paths {cfg c t k fs fpar tpar l F} (h : PairHyp cfg c t k fs fpar tpar l F)
    (hcp : cfg.copy = false) (hdc : cfg.deleteChildren = false) {st' : St}
    (hr : call1 cfg c t k fs (tpar ++ [l]) = .ok st') (q : List Str) :
    q ∈ paths st'.dst ↔
      (q ∈ paths t ∧ ¬ (fpar ++ [l]) <+: q) ∨
      (∃ r, fpar ++ [l] ++ r ∈ paths t ∧ q = tpar ++ [l] ++ r) ∨
      q <+: tpar ++ [l] := by
  rw [shift_paths_gen h hcp hr q, hdc]
  simp only [stripIf, Bool.false_eq_true, if_false, mem_paths_sub h.from_.found h.su]

/-- `delete_children=True`: the bare from-node appears at the destination (same object, same
attributes), its whole old subtree is gone: `paths' = (paths \ under from) ∪ prefixes to` -/
theorem delete_children_paths {cfg c t k fs fpar tpar l F} (h : PairHyp cfg c t k fs fpar tpar l F)
    (hcp : cfg.copy = false) (hdc : cfg.deleteChildren = true) {st' : St}
    (hr : call1 cfg c t k fs (tpar ++ [l]) = .ok st') :
    (∀ q, q ∈ paths st'.dst ↔ (q ∈ paths t ∧ ¬ (fpar ++ [l]) <+: q) ∨ q <+: tpar ++ [l]) ∧
    (flat st'.dst).filter (under (tpar ++ [l])) = [(tpar ++ [l], F.id, F.attrs)] := by
  constructor
  · intro q
    have hbare : paths (stripIf true F) = [[]] := by simp [paths, stripIf, flat_setKids_nil]
    rw [shift_paths_gen h hcp hr q, hdc, hbare]
    -- the bare node's one path is the destination itself, a prefix of itself
    refine or_congr_right ⟨?_, Or.inr⟩
    rintro (⟨r, hr', rfl⟩ | h1)
    · rw [List.mem_singleton.1 hr', List.append_nil]; exact List.prefix_refl _
    · exact h1
  · rw [(of_call_ok (shift_spec h hcp) hr).moved, hdc]
    simp [stripIf, flat_setKids_nil, rebase]

/-- moved nodes keep their ids — and their attributes, relative paths and order: the entries
below the destination are exactly the entries of the from-node, re-rooted (`stripIf false F = F`;
with `delete_children` only the from-node itself) -/
theorem shift_keeps_ids {cfg c t k fs fpar tpar l F} (h : PairHyp cfg c t k fs fpar tpar l F)
    (hcp : cfg.copy = false) {st' : St}
    (hr : call1 cfg c t k fs (tpar ++ [l]) = .ok st') :
    (flat st'.dst).filter (under (tpar ++ [l]))
      = (flat (stripIf cfg.deleteChildren F)).map (rebase (tpar ++ [l])) :=
  (of_call_ok (shift_spec h hcp) hr).moved

/-- frame: the objects that existed before and are not below the destination are exactly the
old entries outside the from-subtree — same ids, paths, attributes, same (pre-)order, hence the
same sibling order; whatever else is in the result is a freshly created attribute-less
intermediate node on the destination's parent path. -/
theorem shift_frame {cfg c t k fs fpar tpar l F} (h : PairHyp cfg c t k fs fpar tpar l F)
    (hcp : cfg.copy = false) {st' : St}
    (hr : call1 cfg c t k fs (tpar ++ [l]) = .ok st') :
    (flat st'.dst).filter (fun e => decide (e.2.1 < k) && !under (tpar ++ [l]) e)
        = (flat t).filter (fun e => !under (fpar ++ [l]) e) ∧
    (∀ e ∈ flat st'.dst, ¬ e.2.1 < k → e.1 <+: tpar ∧ e.2.1 < st'.next ∧ e.2.2 = []) ∧
    st'.src = none ∧ SibUnique st'.dst :=
  let s := of_call_ok (shift_spec h hcp) hr
  ⟨s.frame, s.mid, s.src, s.su⟩

/-! non-vacuity: a concrete tree, a concrete pair meeting `PairHyp`, and what the call returns -/

/-- `r(a(x, y), b)` with ids 0..4 and one attribute on `x` -/
def exTree : Tree :=
  .node 0 ['r'] [] [.node 1 ['a'] [] [.node 2 ['x'] [(['k'], .int 7)] [], .node 3 ['y'] [] []],
                    .node 4 ['b'] [] []]

/-- shift `/r/a` to `/r/b/n/a` (the intermediate node `n` does not exist) -/
example : PairHyp (cfgOf false false false false false false true) '/' exTree 5
    (pathStr '/' ['r'] [['a']]) [] [['b'], ['n']] ['a']
    (.node 1 ['a'] [] [.node 2 ['x'] [(['k'], .int 7)] [], .node 3 ['y'] [] []]) where
  plain := ⟨rfl, rfl, rfl⟩
  mc := rfl
  ml := rfl
  su := by decide +kernel
  fresh := by decide +kernel
  from_ := FromOK.full ⟨rfl, rfl, rfl⟩ rfl exTree [] ['a'] _ (by decide +kernel) (by decide +kernel)
  gt := by decide +kernel
  missing := by decide +kernel
  outside := by decide +kernel

example : call1 (cfgOf false false false false false false true) '/' exTree 5 (pathStr '/' ['r'] [['a']])
    [['b'], ['n'], ['a']]
    = .ok (st0 (.node 0 ['r'] [] [.node 4 ['b'] [] [.node 5 ['n'] [] [.node 1 ['a'] [] [
        .node 2 ['x'] [(['k'], .int 7)] [], .node 3 ['y'] [] []]]]]) 6) := by
  decide +kernel

/-! ## plain copy (same tree) -/

theorem copy_ok {cfg c t k fs fpar tpar l F} (h : PairHyp cfg c t k fs fpar tpar l F)
    (hcp : cfg.copy = true) :
    ∃ st', call1 cfg c t k fs (tpar ++ [l]) = .ok st' :=
  let ⟨st', hcall, _⟩ := copy_core h.plain hcp h.mc h.ml none t k fpar tpar l F h.su h.su h.fresh fs
    h.from_ h.gt h.missing (fun _ => h.outside)
  ⟨st', hcall⟩

theorem copy_facts {cfg c t k fs fpar tpar l F} (h : PairHyp cfg c t k fs fpar tpar l F)
    (hcp : cfg.copy = true) {st' : St}
    (hr : call1 cfg c t k fs (tpar ++ [l]) = .ok st') :
    Copied (stripIf cfg.deleteChildren F) t k tpar l st' :=
  (of_call_ok (copy_core h.plain hcp h.mc h.ml none t k fpar tpar l F h.su h.su h.fresh fs h.from_ h.gt
    h.missing (fun _ => h.outside)) hr).2

/-- `paths' = paths ∪ rebase from to (under from) ∪ prefixes to` -/
theorem copy_paths {cfg c t k fs fpar tpar l F} (h : PairHyp cfg c t k fs fpar tpar l F)
    (hcp : cfg.copy = true) (hdc : cfg.deleteChildren = false) {st' : St}
    (hr : call1 cfg c t k fs (tpar ++ [l]) = .ok st') (q : List Str) :
    q ∈ paths st'.dst ↔
      q ∈ paths t ∨ (∃ r, fpar ++ [l] ++ r ∈ paths t ∧ q = tpar ++ [l] ++ r) ∨ q <+: tpar ++ [l] := by
  rw [(copy_facts h hcp hr).mem_paths q, hdc]
  simp only [stripIf, Bool.false_eq_true, if_false, mem_paths_sub h.from_.found h.su]

/-- the copy consists of fresh objects (ids from the counter on) and has the origin's relative
paths, attributes and order (with `delete_children`: of the bare origin node) -/
theorem copy_fresh_ids {cfg c t k fs fpar tpar l F} (h : PairHyp cfg c t k fs fpar tpar l F)
    (hcp : cfg.copy = true) {st' : St}
    (hr : call1 cfg c t k fs (tpar ++ [l]) = .ok st') :
    (∀ e ∈ (flat st'.dst).filter (under (tpar ++ [l])), k ≤ e.2.1 ∧ e.2.1 < st'.next ∧ e.2.1 ∉ ids t) ∧
    shape ((flat st'.dst).filter (under (tpar ++ [l])))
        = (shape (flat (stripIf cfg.deleteChildren F))).map (fun x => (tpar ++ [l] ++ x.1, x.2)) := by
  have cp := copy_facts h hcp hr
  refine ⟨fun e he => ⟨(cp.fresh e he).1, (cp.fresh e he).2, fun hmem => ?_⟩, cp.shape_eq⟩
  obtain ⟨e', he', hid⟩ := List.mem_map.1 hmem
  exact Nat.lt_irrefl _ (Nat.lt_of_lt_of_le (hid ▸ h.fresh e' he') (cp.fresh e he).1)

/-- origin untouched — in fact everything that existed is untouched: the old objects of the
result are exactly the old entries (ids, paths, attributes, order), the origin subtree included -/
theorem copy_origin_untouched {cfg c t k fs fpar tpar l F} (h : PairHyp cfg c t k fs fpar tpar l F)
    (hcp : cfg.copy = true) {st' : St}
    (hr : call1 cfg c t k fs (tpar ++ [l]) = .ok st') :
    (flat st'.dst).filter (fun e => decide (e.2.1 < k)) = flat t ∧
    (flat st'.dst).filter (under (fpar ++ [l])) = (flat F).map (rebase (fpar ++ [l])) := by
  have cp := copy_facts h hcp hr
  refine ⟨cp.old, ?_⟩
  have hout : ¬ fpar ++ [l] <+: tpar := isPrefixOf_eq_false.1 h.outside
  -- origin and destination are not inside one another
  have hft : ¬ fpar ++ [l] <+: tpar ++ [l] := fun hp =>
    (List.prefix_concat_iff.1 hp).elim
      (fun e => by have := h.missing; rw [← e, h.from_.found] at this; cases this) hout
  have htf : ¬ tpar ++ [l] <+: fpar ++ [l] := fun ⟨s, hs⟩ => by
    have := prefix_mem_paths h.su (hs ▸ mem_paths_of_some h.su h.from_.found)
    rw [mem_paths_iff h.su, h.missing] at this; cases this
  -- so below the origin address there are only old objects
  have hall : ∀ e ∈ flat st'.dst, under (fpar ++ [l]) e = true → decide (e.2.1 < k) = true :=
    fun e he hue => decide_eq_true (Decidable.not_not.1 fun hlt =>
      hout ((under_iff.1 hue).trans (cp.mid e he hlt (not_under_both hft htf hue)).1))
  rw [← filter_and_of_imp hall, ← List.filter_filter, cp.old]
  exact flat_filter_under h.from_.found h.su

example : PairHyp (cfgOf true false false false false false true) '/' exTree 5
    (pathStr '/' ['r'] [['a']]) [] [['b'], ['n']] ['a']
    (.node 1 ['a'] [] [.node 2 ['x'] [(['k'], .int 7)] [], .node 3 ['y'] [] []]) where
  plain := ⟨rfl, rfl, rfl⟩
  mc := rfl
  ml := rfl
  su := by decide +kernel
  fresh := by decide +kernel
  from_ := FromOK.full ⟨rfl, rfl, rfl⟩ rfl exTree [] ['a'] _ (by decide +kernel) (by decide +kernel)
  gt := by decide +kernel
  missing := by decide +kernel
  outside := by decide +kernel

example : call1 (cfgOf true false false false false false true) '/' exTree 5 (pathStr '/' ['r'] [['a']])
    [['b'], ['n'], ['a']]
    = .ok (st0 (.node 0 ['r'] [] [
        .node 1 ['a'] [] [.node 2 ['x'] [(['k'], .int 7)] [], .node 3 ['y'] [] []],
        .node 4 ['b'] [] [.node 5 ['n'] [] [.node 6 ['a'] [] [
          .node 7 ['x'] [(['k'], .int 7)] [], .node 8 ['y'] [] []]]]]) 9) := by
  decide +kernel

/-! ## tree-to-tree: the source tree is untouched -/

/-- For every flag combination and every pair list: a successful `copy_or_shift_logic` call
returns with the source tree (`tree` when `to_tree` is another tree) exactly as it was. -/
theorem source_untouched (cfg : Cfg) (st : St) (ps : List (Str × Option Str)) {st' : St}
    (h : copyOrShift cfg st ps = .ok st') : st'.src = st.src :=
  loop_src (loop_of_copyOrShift h)

/-- tree-to-tree plain copy: the destination gets a fresh copy with the source subtree's shape,
everything that was in the destination is untouched -/
theorem t2t_copy {cfg : Cfg} {c : Char} (hc : cfg.Plain c) (hcp : cfg.copy = true)
    (hmc : cfg.mergeChildren = false) (hml : cfg.mergeLeaves = false) (hdc : cfg.deleteChildren = false)
    (s t : Tree) (k : Nat) (fpar tpar : List Str) (l : Str) (F : Tree)
    (hu : SibUnique t) (hus : SibUnique s) (hk : ∀ e ∈ flat t, e.2.1 < k)
    (fs : Str) (hfr : FromOK cfg s fs (fpar ++ [l]) F l) (hgt : GoodNames c (t.name :: tpar ++ [l]))
    (hD : getRel (tpar ++ [l]) t = none) :
    ∃ t' k', copyOrShift cfg ⟨some s, t, k⟩
        [(fs, some (pathStr c t.name (tpar ++ [l])))] = .ok ⟨some s, t', k'⟩ ∧
      shape ((flat t').filter (under (tpar ++ [l])))
        = (shape (flat F)).map (fun x => (tpar ++ [l] ++ x.1, x.2)) ∧
      (∀ e ∈ (flat t').filter (under (tpar ++ [l])), k ≤ e.2.1 ∧ e.2.1 < k') ∧
      (flat t').filter (fun e => decide (e.2.1 < k)) = flat t := by
  obtain ⟨⟨_, t', k'⟩, hcall, rfl, cp⟩ :=
    copy_core hc hcp hmc hml (some s) t k fpar tpar l F hu hus hk fs hfr hgt hD (fun h => nomatch h)
  have hshape := cp.shape_eq
  rw [hdc] at hshape
  exact ⟨t', k', hcall, hshape, cp.fresh, cp.old⟩

example : copyOrShift (cfgOf true false false false false false true)
      ⟨some exTree, .node 5 ['q'] [] [.node 6 ['b'] [] []], 7⟩
      [(['r','/','a'], some ['q','/','b','/','a'])]
    = .ok ⟨some exTree, .node 5 ['q'] [] [.node 6 ['b'] [] [.node 7 ['a'] [] [
        .node 8 ['x'] [(['k'], .int 7)] [], .node 9 ['y'] [] []]]], 10⟩ := by
  decide +kernel

/-! ## delete (`to_path = None`) -/

/-- `shift_nodes(tree, [from], [None])`: the result is the old tree without the from-subtree —
same entries (ids, paths, attributes) in the same order; no object is created. -/
theorem delete_paths {cfg : Cfg} (hcp : cfg.copy = false)
    (hmc : cfg.mergeChildren = false) (hml : cfg.mergeLeaves = false) (hdc : cfg.deleteChildren = false)
    (t : Tree) (k : Nat) (fs : Str) (fp : List Str) (F : Tree) (l : Str) (hne : fp ≠ [])
    (hu : SibUnique t) (hfr : FromOK cfg t fs fp F l) :
    ∃ t', copyOrShift cfg (st0 t k) [(fs, none)] = .ok (st0 t' k) ∧
      flat t' = (flat t).filter (fun e => !under fp e) ∧
      (∀ q, q ∈ paths t' ↔ q ∈ paths t ∧ ¬ fp <+: q) := by
  exact ⟨removeAt fp t, delete_step hcp hmc hml hdc t k fs fp F l hfr, flat_removeAt hne hu,
    fun q => mem_paths_removeAt hne hu⟩

example : copyOrShift (cfgOf false false false false false false true) (st0 exTree 5)
      [(pathStr '/' ['r'] [['a'], ['x']], none)]
    = .ok (st0 (.node 0 ['r'] [] [.node 1 ['a'] [] [.node 3 ['y'] [] []], .node 4 ['b'] [] []]) 5) := by
  decide +kernel

/-! ## overriding an existing destination -/

/-- as `PairHyp`, but the destination exists (node `D`) and `overriding=True`; neither of the two
nodes lies inside the other -/
structure OverHyp (cfg : Cfg) (c : Char) (t : Tree) (fs : Str) (fpar tpar : List Str) (l : Str)
    (F D : Tree) : Prop where
  plain : cfg.Plain c
  mc : cfg.mergeChildren = false
  ml : cfg.mergeLeaves = false
  ov : cfg.overriding = true
  su : SibUnique t
  /-- the from-string addresses the node `F` at `fpar ++ [l]` (see `FromOK`) -/
  from_ : FromOK cfg t fs (fpar ++ [l]) F l
  gt : GoodNames c (t.name :: tpar ++ [l])
  dest : getRel (tpar ++ [l]) t = some D
  out1 : (fpar ++ [l]).isPrefixOf (tpar ++ [l]) = false
  out2 : (tpar ++ [l]).isPrefixOf (fpar ++ [l]) = false

/-- `overriding=True`: the old destination subtree is gone, the from-node (same objects) stands
in its place, everything else is untouched and no object is created:
`flat' = (flat \ under to \ under from)` in the old order, plus the from-node's entries re-rooted
at `to`. -/
theorem overriding_paths {cfg c t k fs fpar tpar l F D} (h : OverHyp cfg c t fs fpar tpar l F D)
    (hcp : cfg.copy = false) :
    ∃ t', call1 cfg c t k fs (tpar ++ [l]) = .ok (st0 t' k) ∧ SibUnique t' ∧
      (flat t').filter (under (tpar ++ [l]))
        = (flat (stripIf cfg.deleteChildren F)).map (rebase (tpar ++ [l])) ∧
      (flat t').filter (fun e => !under (tpar ++ [l]) e)
        = (flat t).filter (fun e => !under (tpar ++ [l]) e && !under (fpar ++ [l]) e) ∧
      (∀ q, q ∈ paths t' ↔
        (q ∈ paths t ∧ ¬ (tpar ++ [l]) <+: q ∧ ¬ (fpar ++ [l]) <+: q) ∨
        (∃ r, r ∈ paths (stripIf cfg.deleteChildren F) ∧ q = tpar ++ [l] ++ r)) := by
  obtain ⟨hc, hmc, hml, hov, hu, hfr, hgt, hD, h1, h2⟩ := h
  have hF := hfr.found
  have h1' := isPrefixOf_eq_false.1 h1
  have h2' := isPrefixOf_eq_false.1 h2
  have htpne : tpar ++ [l] ≠ [] := List.append_ne_nil_of_right_ne_nil _ (List.cons_ne_nil _ _)
  -- the old destination is detached; the from-node is still where it was
  have hsu1 : SibUnique (removeAt (tpar ++ [l]) t) := hu.removeAt
  have hF1 : getRel (fpar ++ [l]) (removeAt (tpar ++ [l]) t) = some F :=
    (getRel_removeAt_incomparable h2' h1').trans hF
  have hmem1 : ∀ q, q ∈ paths (removeAt (tpar ++ [l]) t) ↔ q ∈ paths t ∧ ¬ tpar ++ [l] <+: q :=
    fun q => mem_paths_removeAt htpne hu
  obtain ⟨t', hatt, hsu', hmoved, hrest⟩ :=
    move_facts cfg.deleteChildren (List.append_ne_nil_of_right_ne_nil _ (List.cons_ne_nil _ _)) hsu1 hF1
      (getRel_name hF)
      ((hmem1 _).2 ⟨prefix_mem_paths hu (mem_paths_of_some hu hD), not_prefix_snoc _ _⟩)
      (fun h => h1' (h.trans (List.prefix_append _ _)))
      (fun h => ((hmem1 _).1 h).2 (List.prefix_refl _))
  refine ⟨t', ?_, hsu', hmoved, ?_, fun q => ?_⟩
  · exact copyOrShift_move hc (by rw [hmc]; rfl) (st0 t k) hfr tpar hgt
      (decideTo_over hc hmc hml hov (st0 t k) _ tpar l hgt hD (ne_of_not_prefix h1'))
      (attach_live_node hcp hml rfl F hF1 hatt)
  · rw [hrest, flat_removeAt htpne hu, List.filter_filter]
    exact List.filter_congr fun _ _ => Bool.and_comm _ _
  · rw [mem_paths_moved hmoved hrest q, hmem1 q, and_assoc]

/-- `r(a(x, y), b(a(z)))`: shifting `/r/a` onto the existing `/r/b/a` with `overriding` -/
def exTree2 : Tree :=
  .node 0 ['r'] [] [.node 1 ['a'] [] [.node 2 ['x'] [] [], .node 3 ['y'] [] []],
                    .node 4 ['b'] [] [.node 5 ['a'] [] [.node 6 ['z'] [] []]]]

example : OverHyp (cfgOf false false true false false false true) '/' exTree2
    (pathStr '/' ['r'] [['a']]) [] [['b']] ['a']
    (.node 1 ['a'] [] [.node 2 ['x'] [] [], .node 3 ['y'] [] []])
    (.node 5 ['a'] [] [.node 6 ['z'] [] []]) where
  plain := ⟨rfl, rfl, rfl⟩
  mc := rfl
  ml := rfl
  ov := rfl
  su := by decide +kernel
  from_ := FromOK.full ⟨rfl, rfl, rfl⟩ rfl exTree2 [] ['a'] _ (by decide +kernel) (by decide +kernel)
  gt := by decide +kernel
  dest := by decide +kernel
  out1 := by decide +kernel
  out2 := by decide +kernel

example : call1 (cfgOf false false true false false false true) '/' exTree2 7 (pathStr '/' ['r'] [['a']]) [['b'], ['a']]
    = .ok (st0 (.node 0 ['r'] [] [.node 4 ['b'] [] [.node 1 ['a'] [] [
        .node 2 ['x'] [] [], .node 3 ['y'] [] []]]]) 7) := by
  decide +kernel

/-- `delete_children` on the example of `PairHyp`: only the bare node arrives -/
example : call1 (cfgOf false false false false false true true) '/' exTree 5 (pathStr '/' ['r'] [['a']])
    [['b'], ['n'], ['a']]
    = .ok (st0 (.node 0 ['r'] [] [.node 4 ['b'] [] [.node 5 ['n'] [] [.node 1 ['a'] [] []]]]) 6) := by
  decide +kernel

/-! ## merge_children onto an existing destination -/

/-- `merge_children=True`, `overriding=False`, the destination `D` exists; neither node lies
inside the other; no child of the from-node is called like a child of the destination -/
structure MergeHyp (cfg : Cfg) (c : Char) (t : Tree) (fs : Str) (fpar tpar : List Str) (l : Str)
    (F D : Tree) : Prop where
  plain : cfg.Plain c
  mc : cfg.mergeChildren = true
  ml : cfg.mergeLeaves = false
  ov : cfg.overriding = false
  su : SibUnique t
  /-- the from-string addresses the node `F` at `fpar ++ [l]` (see `FromOK`) -/
  from_ : FromOK cfg t fs (fpar ++ [l]) F l
  gt : GoodNames c (t.name :: tpar ++ [l])
  dest : getRel (tpar ++ [l]) t = some D
  out1 : (fpar ++ [l]).isPrefixOf (tpar ++ [l]) = false
  out2 : (tpar ++ [l]).isPrefixOf (fpar ++ [l]) = false
  noclash : ∀ x ∈ F.children, ∀ y ∈ D.children, y.name ≠ x.name

/-- `merge_children`: every child of the from-node (all of them, with their subtrees, as the same
objects) appears under the destination, the from-node is gone, everything else — the destination's
own children included — is untouched, in the old order; no object is created. -/
theorem merge_children_paths {cfg c t k fs fpar tpar l F D} (h : MergeHyp cfg c t fs fpar tpar l F D)
    (hcp : cfg.copy = false) :
    ∃ t', call1 cfg c t k fs (tpar ++ [l]) = .ok (st0 t' k) ∧ SibUnique t' ∧
      (∀ x ∈ F.children, (flat t').filter (under (tpar ++ [l] ++ [x.name]))
          = (flat (stripIf cfg.deleteChildren x)).map (rebase (tpar ++ [l] ++ [x.name]))) ∧
      (flat t').filter (fun e => !underAny (tpar ++ [l]) F.children e)
        = (flat t).filter (fun e => !under (fpar ++ [l]) e) ∧
      (∀ q, q ∈ paths t' ↔
        (q ∈ paths t ∧ ¬ (fpar ++ [l]) <+: q) ∨
        (∃ x ∈ F.children, ∃ r ∈ paths (stripIf cfg.deleteChildren x), q = tpar ++ [l] ++ [x.name] ++ r)) := by
  obtain ⟨hc, hmc, hml, hov, hu, hfr, hgt, hD, h1, h2, hclash⟩ := h
  have hfpne : fpar ++ [l] ≠ [] := List.append_ne_nil_of_right_ne_nil _ (List.cons_ne_nil _ _)
  have hF := hfr.found
  have h1' := isPrefixOf_eq_false.1 h1
  have h2' := isPrefixOf_eq_false.1 h2
  have hFu : SibUnique F := hu.sub hF
  obtain ⟨ta, hatt, hsua, hkids, hresta⟩ :=
    attachAll_facts (pp := tpar ++ [l]) (F.children.map (stripIf cfg.deleteChildren)) hu hD
      ((stripIf_map_names _ _).symm ▸ hFu.kids)
      (fun kid hkid y hy => by
        obtain ⟨x, hx, rfl⟩ := List.mem_map.1 hkid
        rw [stripIf_name]; exact hclash x hx y hy)
      (fun kid hkid => by
        obtain ⟨x, hx, rfl⟩ := List.mem_map.1 hkid
        exact sibUnique_stripIf (hFu.child hx))
  have hany : ∀ e, underAny (tpar ++ [l]) (F.children.map (stripIf cfg.deleteChildren)) e
      = underAny (tpar ++ [l]) F.children e := fun e => by
    simp only [underAny, List.any_map, Function.comp_def, stripIf_name]
  -- the result is `ta` without the from-node; the merged children do not lie below the from-address
  have hflat := flat_removeAt hfpne hsua
  have hkids' : ∀ x ∈ F.children, (flat (removeAt (fpar ++ [l]) ta)).filter (under (tpar ++ [l] ++ [x.name]))
      = (flat (stripIf cfg.deleteChildren x)).map (rebase (tpar ++ [l] ++ [x.name])) := fun x hx => by
    have hk := hkids _ (List.mem_map.2 ⟨x, hx, rfl⟩)
    rw [stripIf_name] at hk
    rw [hflat, List.filter_filter, ← hk]
    exact filter_and_of_imp fun e _ he => (Bool.not_eq_true' _).mpr
      (not_under_both (incomparable_mono h2' h1' (List.prefix_append _ _) (List.prefix_refl _))
        (incomparable_mono h1' h2' (List.prefix_refl _) (List.prefix_append _ _)) he)
  have hrest' : (flat (removeAt (fpar ++ [l]) ta)).filter (fun e => !underAny (tpar ++ [l]) F.children e)
      = (flat t).filter (fun e => !under (fpar ++ [l]) e) := by
    rw [hflat, List.filter_filter, ← hresta, List.filter_filter]
    exact List.filter_congr fun e _ => by rw [hany e, Bool.and_comm]
  refine ⟨removeAt (fpar ++ [l]) ta, ?_, hsua.removeAt, hkids', hrest', fun q => ?_⟩
  · have hatt' : attachAll (tpar ++ [l])
        (F.children.map fun c => if cfg.deleteChildren = true then setKids [] c else c) t = .ok ta := hatt
    have hac : attachChildren cfg true (fpar ++ [l]) F ⟨t, k, some (tpar ++ [l]), cfg.mergeChildren⟩
        = .ok (removeAt (fpar ++ [l]) ta) := by
      simp only [attachChildren, loops, h1, Bool.and_false, Bool.false_eq_true, if_false, hatt', if_true]
    exact copyOrShift_move hc (by rw [hml]; exact Bool.and_false _) (st0 t k) hfr tpar hgt
      (decideTo_merge hc hov (by rw [hmc]; rfl) (st0 t k) _ tpar l hgt hD (ne_of_not_prefix h1'))
      (attach_live_children hcp hmc F hF hac)
  · rw [mem_paths_split (underAny (tpar ++ [l]) F.children) rfl hrest', mem_filter_underAny,
      mem_filter_not_under, or_comm]
    refine or_congr_right (exists_congr fun x => and_congr_right fun hx => ?_)
    rw [hkids' x hx, mem_map_rebase]
    rfl

/-- `r(m(k0 … k5), q(m(u)))`: a from-node with six children (the "merges only the first three
children" mutant is refuted by `merge_children_paths` on this instance) -/
def exWide : Tree :=
  .node 0 ['r'] [] [
    .node 1 ['m'] [] [.node 2 ['k','0'] [] [], .node 3 ['k','1'] [] [.node 4 ['g'] [] []],
                      .node 5 ['k','2'] [] [], .node 6 ['k','3'] [] [], .node 7 ['k','4'] [] [],
                      .node 8 ['k','5'] [] []],
    .node 9 ['q'] [] [.node 10 ['m'] [] [.node 11 ['u'] [] []]]]

example : MergeHyp (cfgOf false false false true false false true) '/' exWide
    (pathStr '/' ['r'] [['m']]) [] [['q']] ['m']
    (.node 1 ['m'] [] [.node 2 ['k','0'] [] [], .node 3 ['k','1'] [] [.node 4 ['g'] [] []],
                      .node 5 ['k','2'] [] [], .node 6 ['k','3'] [] [], .node 7 ['k','4'] [] [],
                      .node 8 ['k','5'] [] []])
    (.node 10 ['m'] [] [.node 11 ['u'] [] []]) where
  plain := ⟨rfl, rfl, rfl⟩
  mc := rfl
  ml := rfl
  ov := rfl
  su := by decide +kernel
  from_ := FromOK.full ⟨rfl, rfl, rfl⟩ rfl exWide [] ['m'] _ (by decide +kernel) (by decide +kernel)
  gt := by decide +kernel
  dest := by decide +kernel
  out1 := by decide +kernel
  out2 := by decide +kernel
  noclash := by decide +kernel

example : call1 (cfgOf false false false true false false true) '/' exWide 12 (pathStr '/' ['r'] [['m']]) [['q'], ['m']]
    = .ok (st0 (.node 0 ['r'] [] [
      .node 9 ['q'] [] [.node 10 ['m'] [] [.node 11 ['u'] [] [],
        .node 2 ['k','0'] [] [], .node 3 ['k','1'] [] [.node 4 ['g'] [] []],
        .node 5 ['k','2'] [] [], .node 6 ['k','3'] [] [], .node 7 ['k','4'] [] [],
        .node 8 ['k','5'] [] []]]]) 12) := by
  decide +kernel

/-! ## replace: the newcomer takes the replaced node's sibling position -/

/-- `shift_and_replace_nodes(tree, [from], [to])` with full paths: the replaced node `D` is the
child called `d` of `P` (the node at `tpar`), between the siblings `before` and `after`; the
from-node `F` is neither inside `D` nor contains it, and — the case the statement excludes — it
is **not a later sibling of `D` under the same parent** (`notLater`). `nodup`: once `D` is gone
no other child of `P` is called like the from-node. -/
structure ReplaceHyp (cfg : Cfg) (c : Char) (t : Tree) (fs : Str) (fpar tpar : List Str) (f d : Str)
    (F D P : Tree) (before after : List Tree) : Prop where
  plain : cfg.Plain c
  dc : cfg.deleteChildren = false
  su : SibUnique t
  from_ : FromOK cfg t fs (fpar ++ [f]) F f
  gt : GoodNames c (t.name :: tpar ++ [d])
  parent : getRel tpar t = some P
  split : P.children = before ++ D :: after
  dname : D.name = d
  out1 : (fpar ++ [f]).isPrefixOf (tpar ++ [d]) = false
  out2 : (tpar ++ [d]).isPrefixOf (fpar ++ [f]) = false
  notLater : ∀ y ∈ after, y.name = f → fpar ≠ tpar
  nodup : ∀ y ∈ P.children, y.name = f → f = d ∨ fpar = tpar

/-- The replaced node is gone and the from-node (the same object, with its subtree) stands at
its sibling position: the parent's child list is `X ++ F :: A` where `A` are the later siblings
and `X` the earlier ones (minus the from-node itself if it was an earlier sibling), each with
unchanged name, identity and attributes, in unchanged order; no object is created. -/
theorem replace_keeps_position {cfg c t k fs fpar tpar f d F D P before after}
    (h : ReplaceHyp cfg c t fs fpar tpar f d F D P before after) (hcp : cfg.copy = false) :
    ∃ t' P' X A, replaceNodes cfg (st0 t k)
        [(fs, some (pathStr c t.name (tpar ++ [d])))] = .ok (st0 t' k) ∧
      getRel tpar t' = some P' ∧ P'.children = X ++ F :: A ∧
      X.map ent = (before.filter (fun x => !(decide (fpar = tpar) && x.name == f))).map ent ∧
      A.map ent = after.map ent := by
  obtain ⟨hc, hdc, hu, hfr, hgt, hP, hsplit, hDn, h1, h2, hlater, hfree⟩ := h
  have hfpne : fpar ++ [f] ≠ [] := List.append_ne_nil_of_right_ne_nil _ (List.cons_ne_nil _ _)
  have htpne : tpar ++ [d] ≠ [] := List.append_ne_nil_of_right_ne_nil _ (List.cons_ne_nil _ _)
  have hF := hfr.found
  have h1' := isPrefixOf_eq_false.1 h1
  have h2' := isPrefixOf_eq_false.1 h2
  have hin : ¬ fpar ++ [f] <+: tpar := fun h => h1' (h.trans (List.prefix_append _ _))
  have hnd := (hu.sub hP).kids
  rw [hsplit] at hnd
  have hbef : ∀ y ∈ before, y.name ≠ d := fun y hy h => by
    rw [List.map_append, List.map_cons, List.nodup_append] at hnd
    exact hnd.2.2 _ (List.mem_map.2 ⟨y, hy, rfl⟩) _ List.mem_cons_self (h.trans hDn.symm)
  have haft : ∀ y ∈ after, y.name ≠ d := names_ne_of_nodup hDn hnd
  have hD : getRel (tpar ++ [d]) t = some D := by
    rw [getRel_append, hP]
    simp only [Option.bind_some, getRel_cons, hsplit, findChild_of_split hbef hDn, getRel_nil]
  -- the replaced node and the from-node detached
  have hsu1 : SibUnique (removeAt (tpar ++ [d]) t) := hu.removeAt
  have hF1 : getRel (fpar ++ [f]) (removeAt (tpar ++ [d]) t) = some F :=
    (getRel_removeAt_incomparable h2' h1').trans hF
  have hsu2 : SibUnique (removeAt (fpar ++ [f]) (removeAt (tpar ++ [d]) t)) := hsu1.removeAt
  have hflat2 : flat (removeAt (fpar ++ [f]) (removeAt (tpar ++ [d]) t))
      = (flat t).filter (fun e => !under (fpar ++ [f]) e && !under (tpar ++ [d]) e) := by
    rw [flat_removeAt hfpne hsu1, flat_removeAt htpne hu, List.filter_filter]
  have hmem2 : ∀ q, q ∈ paths (removeAt (fpar ++ [f]) (removeAt (tpar ++ [d]) t)) ↔
      (q ∈ paths t ∧ ¬ tpar ++ [d] <+: q) ∧ ¬ fpar ++ [f] <+: q := fun q =>
    (mem_paths_removeAt hfpne hsu1).trans (and_congr_left' (mem_paths_removeAt htpne hu))
  obtain ⟨P2, hP2⟩ := exists_getRel_of_mem_paths hsu2
    ((hmem2 _).2 ⟨⟨mem_paths_of_some hu hP, not_prefix_snoc _ _⟩, hin⟩)
  -- its child list, read off the entry lists: `D` is gone, and so is the from-node if it was a sibling
  have hk2 : P2.children.map (kidEntry tpar)
      = (before.filter (fun x => !(decide (fpar = tpar) && x.name == f)) ++ after).map (kidEntry tpar) := by
    have hpred : ∀ x : Tree,
        ((fun e => !under (fpar ++ [f]) e && !under (tpar ++ [d]) e) ∘ kidEntry tpar) x
          = (!(decide (fpar = tpar) && x.name == f) && !(x.name == d)) := fun x => by
      show (!under _ (tpar ++ [x.name], x.id, x.attrs) && !under _ (tpar ++ [x.name], x.id, x.attrs)) = _
      rw [under_kid _ hin, under_kid _ (not_prefix_snoc tpar d), decide_eq_true rfl, Bool.true_and]
    have := kidsOf_getRel hP2 hsu2
    rw [hflat2, kidsOf_filter, kidsOf_getRel hP hu, List.filter_map, hsplit,
      List.filter_congr (fun x _ => hpred x), List.filter_append, List.filter_cons] at this
    rw [← this]
    have hDq : (!(decide (fpar = tpar) && D.name == f) && !(D.name == d)) = false := by
      rw [beq_iff_eq.2 hDn]; exact Bool.and_false _
    have hB : before.filter (fun x => !(decide (fpar = tpar) && x.name == f) && !(x.name == d))
        = before.filter (fun x => !(decide (fpar = tpar) && x.name == f)) :=
      List.filter_congr fun x hx => by rw [beq_false_of_ne (hbef x hx)]; exact Bool.and_true _
    have hA : after.filter (fun x => !(decide (fpar = tpar) && x.name == f) && !(x.name == d)) = after := by
      refine List.filter_eq_self.2 fun x hx => ?_
      rw [beq_false_of_ne (haft x hx), Bool.not_false, Bool.and_true, Bool.not_eq_true',
        Bool.and_eq_false_iff, decide_eq_false_iff_not, beq_eq_false_iff_ne]
      exact (Classical.em (x.name = f)).elim (fun h => Or.inl (hlater x hx h)) Or.inr
    rw [if_neg (by rw [hDq]; exact Bool.false_ne_true), hB, hA]
  have hents := ent_of_kidEntry tpar hk2
  rw [List.map_append] at hents
  obtain ⟨X, A, hXA, hX, hA⟩ := List.map_eq_append_iff.1 hents
  have hnewkid : ∀ y ∈ P2.children, y.name ≠ F.name := by
    rw [getRel_name hF]
    refine no_kid_of_not_mem_paths hsu2 hP2 fun h => ?_
    obtain ⟨⟨hm, hnd'⟩, hnf⟩ := (hmem2 _).1 h
    obtain ⟨Y, hY⟩ := exists_getRel_of_mem_paths hu hm
    rw [getRel_append, hP, Option.bind_some, getRel_cons] at hY
    cases hfc : findChild f P.children with
    | none => rw [hfc] at hY; cases hY
    | some y =>
      obtain ⟨l, r, hlr, _, hy⟩ := findChild_split hfc
      rcases hfree y (hlr ▸ List.mem_append_right _ List.mem_cons_self) hy with h | h
      · exact hnd' (h ▸ List.prefix_refl _)
      · exact hnf (h ▸ List.prefix_refl _)
  -- attach, then re-append the later siblings
  have hP3 := getRel_modifyAt_self (f := appendKid F) hP2 (appendKid_name _ _)
  have hsu3 : SibUnique (modifyAt tpar (appendKid F) (removeAt (fpar ++ [f]) (removeAt (tpar ++ [d]) t))) :=
    hsu2.appendAt hP2 (hu.sub hF) hnewkid
  have hlaterN : laterNames d P.children = A.map Tree.name := by
    rw [hsplit, laterNames_split hbef hDn]
    have := congrArg (List.map (·.1)) hA
    rw [List.map_map, List.map_map] at this
    exact this.symm
  have hkids3 : (appendKid F P2).children = X ++ A ++ [F] := by
    cases P2; simp only [appendKid, Tree.children_node] at hXA ⊢; rw [hXA]
  have hnd3 := (hsu3.sub hP3).kids
  rw [hkids3, List.map_append, List.map_append, List.nodup_append, List.nodup_append] at hnd3
  refine ⟨modifyAt tpar (fun Q => setKids (reappendKids (A.map Tree.name) Q.children) Q)
      (modifyAt tpar (appendKid F) (removeAt (fpar ++ [f]) (removeAt (tpar ++ [d]) t))),
    setKids (reappendKids (A.map Tree.name) (appendKid F P2).children) (appendKid F P2), X, A, ?_,
    getRel_modifyAt_self (f := fun Q => setKids (reappendKids (A.map Tree.name) Q.children) Q) hP3
      (setKids_name _ _), ?_, hX, hA⟩
  · refine replaceNodes_shift hc hcp t k hfr tpar d hgt hD (ne_of_not_prefix h1') ?_
    simp only [hdc, stripIf, Bool.false_eq_true, if_false, replaceAt, hP, Option.map_some,
      Option.getD_some, List.getLast?_concat, hlaterN, hF1, Option.isSome_some, Bool.true_and, if_true,
      isPrefixOf_eq_false.2 hin, attachOne_ok hP2 hnewkid, reappendAll_eq]
  · have hsk : ∀ (cs : List Tree) (X : Tree), (setKids cs X).children = cs := fun cs X => by cases X; rfl
    rw [hsk, hkids3, reappendKids_block X A [F] (fun a ha y hy h =>
      hnd3.1.2.2 _ (List.mem_map.2 ⟨y, hy, rfl⟩) _ (List.mem_map.2 ⟨a, ha, rfl⟩) h)]
    simp only [List.append_assoc, List.singleton_append]

/-- `a(x, D(q), y(q), F, z)` -/
def exRep : Tree :=
  .node 0 ['a'] [] [.node 1 ['x'] [] [], .node 2 ['D'] [] [.node 3 ['q'] [] []],
                    .node 4 ['y'] [] [.node 5 ['q'] [] []], .node 6 ['F'] [] [], .node 7 ['z'] [] []]

/-- non-vacuity: replace `D` by the node `/a/y/q` (not a sibling) -/
example : ReplaceHyp (cfgOf false false false false false false true) '/' exRep
    (pathStr '/' ['a'] [['y'], ['q']]) [['y']] [] ['q'] ['D']
    (.node 5 ['q'] [] []) (.node 2 ['D'] [] [.node 3 ['q'] [] []]) exRep
    [.node 1 ['x'] [] []]
    [.node 4 ['y'] [] [.node 5 ['q'] [] []], .node 6 ['F'] [] [], .node 7 ['z'] [] []] where
  plain := ⟨rfl, rfl, rfl⟩
  dc := rfl
  su := by decide +kernel
  from_ := FromOK.full ⟨rfl, rfl, rfl⟩ rfl exRep [['y']] ['q'] _ (by decide +kernel) (by decide +kernel)
  gt := by decide +kernel
  parent := by decide +kernel
  split := by decide +kernel
  dname := rfl
  out1 := by decide +kernel
  out2 := by decide +kernel
  notLater := by decide +kernel
  nodup := by decide +kernel

example : replaceNodes (cfgOf false false false false false false true) (st0 exRep 8)
      [(pathStr '/' ['a'] [['y'], ['q']], some (pathStr '/' ['a'] [['D']]))]
    = .ok (st0 (.node 0 ['a'] [] [.node 1 ['x'] [] [], .node 5 ['q'] [] [],
        .node 4 ['y'] [] [], .node 6 ['F'] [] [], .node 7 ['z'] [] []]) 8) := by
  decide +kernel

/-- Observation (not a defect of the property as stated; recorded in DESIGN §11): when the
from-node is a LATER sibling of the replaced node, the "re-append the later siblings" loop puts
it back at its own old place, so it does not take the replaced node's position:
`[x, D, y, F, z]` with `F` replacing `D` becomes `[x, y, F, z]`, not `[x, F, y, z]`. -/
theorem replace_later_sibling_observation :
    replaceNodes (cfgOf false false false false false false true) (st0 exRep 8)
      [(pathStr '/' ['a'] [['F']], some (pathStr '/' ['a'] [['D']]))]
    = .ok (st0 (.node 0 ['a'] [] [.node 1 ['x'] [] [], .node 4 ['y'] [] [.node 5 ['q'] [] []],
        .node 6 ['F'] [] [], .node 7 ['z'] [] []]) 8) := by
  decide +kernel

/-- an EARLIER sibling does take the position (covered by `replace_keeps_position`) -/
example : replaceNodes (cfgOf false false false false false false true) (st0 exRep 8)
      [(pathStr '/' ['a'] [['x']], some (pathStr '/' ['a'] [['y']]))]
    = .ok (st0 (.node 0 ['a'] [] [.node 2 ['D'] [] [.node 3 ['q'] [] []], .node 1 ['x'] [] [],
        .node 6 ['F'] [] [], .node 7 ['z'] [] []]) 8) := by
  decide +kernel

/-! ## merge_leaves onto an existing destination -/

/-- `merge_leaves=True`, `overriding=False`, the destination `D` exists, the from-node `F` is not
itself a leaf; neither node lies inside the other; the leaves of `F` have distinct names, none of
them the name of a child of `D` (otherwise `Node` refuses the duplicate path) -/
structure LeavesHyp (cfg : Cfg) (c : Char) (t : Tree) (fs : Str) (fpar tpar : List Str) (l : Str)
    (F D : Tree) : Prop where
  plain : cfg.Plain c
  mc : cfg.mergeChildren = false
  ml : cfg.mergeLeaves = true
  ov : cfg.overriding = false
  su : SibUnique t
  /-- the from-string addresses the node `F` at `fpar ++ [l]` (see `FromOK`) -/
  from_ : FromOK cfg t fs (fpar ++ [l]) F l
  gt : GoodNames c (t.name :: tpar ++ [l])
  dest : getRel (tpar ++ [l]) t = some D
  out1 : (fpar ++ [l]).isPrefixOf (tpar ++ [l]) = false
  out2 : (tpar ++ [l]).isPrefixOf (fpar ++ [l]) = false
  inner : F.children ≠ []
  distinct : ((leavesRel F).map (fun pr => pr.2.name)).Nodup
  noclash : ∀ pr ∈ leavesRel F, ∀ y ∈ D.children, y.name ≠ pr.2.name

/-- `merge_leaves`: every leaf of the from-node (same object, same attributes) appears as a
child of the destination; the rest of the tree — the from-node with its inner nodes, the
destination's own children — is the old tree without those leaves, in the old order; nothing is
created. -/
theorem merge_leaves_paths {cfg c t k fs fpar tpar l F D} (h : LeavesHyp cfg c t fs fpar tpar l F D)
    (hcp : cfg.copy = false) :
    ∃ t', call1 cfg c t k fs (tpar ++ [l]) = .ok (st0 t' k) ∧ SibUnique t' ∧
      (∀ pr ∈ leavesRel F, (flat t').filter (under (tpar ++ [l] ++ [pr.2.name]))
          = [(tpar ++ [l] ++ [pr.2.name], pr.2.id, pr.2.attrs)]) ∧
      (flat t').filter (fun e => !underAny (tpar ++ [l]) ((leavesRel F).map (·.2)) e)
        = (flat t).filter
            (fun e => !(((leavesRel F).map (fun pr => fpar ++ [l] ++ pr.1)).any (fun p => under p e))) := by
  obtain ⟨hc, hmc, hml, hov, hu, hfr, hgt, hD, h1, h2, hFk, hnd, hclash⟩ := h
  have hF := hfr.found
  have h1' := isPrefixOf_eq_false.1 h1
  have h2' := isPrefixOf_eq_false.1 h2
  have hleaf : ∀ pr ∈ leavesRel F, pr.2.children = [] := fun pr hpr => (leavesRel_facts hFk hpr).2
  obtain ⟨ta, hatt, hsua, hkids, hresta⟩ :=
    attachAll_facts (pp := tpar ++ [l]) ((leavesRel F).map (·.2)) hu hD
      (by rw [List.map_map]; exact hnd)
      (fun x hx y hy => by
        obtain ⟨pr, hpr, rfl⟩ := List.mem_map.1 hx
        exact hclash pr hpr y hy)
      (fun x hx => by
        obtain ⟨pr, hpr, rfl⟩ := List.mem_map.1 hx
        exact sibUnique_leaf (hleaf pr hpr))
  -- the leaves are removed from the from-node one after the other: all at once on the entry list
  have hres : modifyAt (fpar ++ [l]) (removeAll ((leavesRel F).map (·.1))) ta
      = removeAll ((leavesRel F).map (fun pr => fpar ++ [l] ++ pr.1)) ta := by
    rw [modifyAt_removeAll _ _ (fun p hp => by
      obtain ⟨pr, hpr, rfl⟩ := List.mem_map.1 hp
      exact (leavesRel_facts hFk hpr).1), List.map_map]
    rfl
  obtain ⟨hflat', hsu'⟩ := flat_removeAll ((leavesRel F).map (fun pr => fpar ++ [l] ++ pr.1))
    (fun p hp => by
      obtain ⟨pr, _, rfl⟩ := List.mem_map.1 hp
      exact List.append_ne_nil_of_left_ne_nil (List.append_ne_nil_of_right_ne_nil _ (List.cons_ne_nil _ _)) _)
    hsua
  have hcall : call1 cfg c t k fs (tpar ++ [l])
      = .ok (st0 (modifyAt (fpar ++ [l]) (removeAll ((leavesRel F).map (·.1))) ta) k) := by
    have hal : attachLeaves true (fpar ++ [l]) F ⟨t, k, some (tpar ++ [l]), cfg.mergeChildren⟩
        = .ok (modifyAt (fpar ++ [l]) (removeAll ((leavesRel F).map (·.1))) ta) := by
      simp only [attachLeaves, loops, h1, Bool.and_false, Bool.false_eq_true, if_false,
        List.isEmpty_eq_false_iff.2 hFk, hatt, if_true]
    exact copyOrShift_move hc (by rw [hmc]; rfl) (st0 t k) hfr tpar hgt
      (decideTo_merge hc hov (by rw [hml]; exact Bool.or_true _) (st0 t k) _ tpar l hgt hD
        (ne_of_not_prefix h1'))
      (attach_live_leaves hcp hml hmc F hF hal)
  rw [hres] at hcall
  obtain ⟨t', ht'⟩ : ∃ t', removeAll ((leavesRel F).map (fun pr => fpar ++ [l] ++ pr.1)) ta = t' := ⟨_, rfl⟩
  rw [ht'] at hcall hflat' hsu'
  refine ⟨t', hcall, hsu', ?_, ?_⟩
  · -- a new leaf does not lie below an old leaf address
    intro pr hpr
    have hk := hkids pr.2 (List.mem_map.2 ⟨pr, hpr, rfl⟩)
    rw [flat_leaf (hleaf pr hpr)] at hk
    rw [hflat', List.filter_filter, filter_and_of_imp, hk]
    · simp only [List.map_cons, List.map_nil, rebase, List.append_nil]
    · intro e _ he
      refine (Bool.not_eq_true' _).mpr (List.any_eq_false.2 fun p hp => ?_)
      obtain ⟨pr', _, rfl⟩ := List.mem_map.1 hp
      exact Bool.not_eq_true _ ▸ not_under_both
        (incomparable_mono h2' h1' (List.prefix_append _ _) (List.prefix_append _ _))
        (incomparable_mono h1' h2' (List.prefix_append _ _) (List.prefix_append _ _)) he
  · rw [hflat', List.filter_filter, ← hresta, List.filter_filter]
    exact List.filter_congr fun _ _ => Bool.and_comm _ _

/-- `r(m(a(x, y), z), q(m(u)))`: leaves `x, y, z` of `/r/m` go under `/r/q/m` -/
def exLeaves : Tree :=
  .node 0 ['r'] [] [
    .node 1 ['m'] [] [.node 2 ['a'] [] [.node 3 ['x'] [] [], .node 4 ['y'] [] []], .node 5 ['z'] [] []],
    .node 6 ['q'] [] [.node 7 ['m'] [] [.node 8 ['u'] [] []]]]

example : LeavesHyp (cfgOf false false false false true false true) '/' exLeaves
    (pathStr '/' ['r'] [['m']]) [] [['q']] ['m']
    (.node 1 ['m'] [] [.node 2 ['a'] [] [.node 3 ['x'] [] [], .node 4 ['y'] [] []], .node 5 ['z'] [] []])
    (.node 7 ['m'] [] [.node 8 ['u'] [] []]) where
  plain := ⟨rfl, rfl, rfl⟩
  mc := rfl
  ml := rfl
  ov := rfl
  su := by decide +kernel
  from_ := FromOK.full ⟨rfl, rfl, rfl⟩ rfl exLeaves [] ['m'] _ (by decide +kernel) (by decide +kernel)
  gt := by decide +kernel
  dest := by decide +kernel
  out1 := by decide +kernel
  out2 := by decide +kernel
  inner := by decide +kernel
  distinct := by decide +kernel
  noclash := by decide +kernel

example : call1 (cfgOf false false false false true false true) '/' exLeaves 9 (pathStr '/' ['r'] [['m']]) [['q'], ['m']]
    = .ok (st0 (.node 0 ['r'] [] [
      .node 1 ['m'] [] [.node 2 ['a'] [] []],
      .node 6 ['q'] [] [.node 7 ['m'] [] [.node 8 ['u'] [] [], .node 3 ['x'] [] [], .node 4 ['y'] [] [],
        .node 5 ['z'] [] []]]]) 9) := by
  decide +kernel

/-! ## Tier 2: partial from-paths

Every single-pair theorem above takes the from-string through `FromOK`; `FromOK.partial` supplies
it for `with_full_path=False` and a partial path (trailing part of the path, or a node name) whose
string is the suffix of exactly one node's `path_name` — `find_path`'s semantics. -/

/-- the node name `x` addresses `/r/a/x` in `exTree` (no other `path_name` ends with `x`):
`shift_nodes(tree, ["x"], ["/r/b/x"])` -/
example : PairHyp (cfgOf false false false false false false false) '/' exTree 5
    ['x'] [['a']] [['b']] ['x'] (.node 2 ['x'] [(['k'], .int 7)] []) where
  plain := ⟨rfl, rfl, rfl⟩
  mc := rfl
  ml := rfl
  su := by decide +kernel
  fresh := by decide +kernel
  from_ := FromOK.partial ⟨rfl, rfl, rfl⟩ rfl exTree ['x'] [['a'], ['x']] _ ['x']
    (by decide +kernel) (by decide +kernel) (by decide +kernel) (by decide +kernel) (by decide +kernel)
  gt := by decide +kernel
  missing := by decide +kernel
  outside := by decide +kernel

example : call1 (cfgOf false false false false false false false) '/' exTree 5 ['x'] [['b'], ['x']]
    = .ok (st0 (.node 0 ['r'] [] [.node 1 ['a'] [] [.node 3 ['y'] [] []],
        .node 4 ['b'] [] [.node 2 ['x'] [(['k'], .int 7)] []]]) 5) := by
  decide +kernel

/-- a partial path with a leading separator: `/a/y` -/
example : FromOK (cfgOf false false false false false false false) exTree ['/','a','/','y']
    [['a'], ['y']] (.node 3 ['y'] [] []) ['y'] :=
  FromOK.partial (c := '/') ⟨rfl, rfl, rfl⟩ rfl exTree _ _ _ _
    (by decide +kernel) (by decide +kernel) (by decide +kernel) (by decide +kernel) (by decide +kernel)

/-! ## the fold law for `replace_logic` -/

/-- `shift_and_replace_nodes` / `copy_and_replace_nodes_from_tree_to_tree` with several pairs ≡ the
single-pair calls in sequence (for lists that pass the up-front validation) -/
theorem replace_pairs_fold (cfg : Cfg) (st : St) (p : Str × Option Str) (ps : List (Str × Option Str))
    (hv : validReplace cfg st (p :: ps) = true) :
    replaceNodes cfg st (p :: ps)
      = (replaceNodes cfg st [p]).bind (fun st' => replaceNodes cfg st' ps) := by
  rw [validReplace_cons] at hv
  simp only [Bool.and_eq_true] at hv
  obtain ⟨hv1, hv2⟩ := hv
  simp only [replaceNodes, validReplace_cons cfg st p ps, hv1, hv2, Bool.and_self, if_true,
    List.map_cons, List.map_nil, loopReplace]
  cases hs : stepReplace cfg st (norm cfg p) with
  | error e => simp [Except.bind]
  | ok st' =>
    obtain ⟨h1, _⟩ := stepReplace_name hs
    have h2 := stepReplace_tree_name hs
    simp [Except.bind, validReplace_congr h1 h2, hv2]

/-- the source tree of `copy_and_replace_nodes_from_tree_to_tree` is untouched, for every flag
combination and pair list -/
theorem replace_source_untouched (cfg : Cfg) (st : St) (ps : List (Str × Option Str)) {st' : St}
    (h : replaceNodes cfg st ps = .ok st') : st'.src = st.src :=
  loopReplace_src (loop_of_replaceNodes h)

example : replaceNodes (cfgOf false false false false false false true) (st0 exRep 8)
      [(pathStr '/' ['a'] [['y'], ['q']], some (pathStr '/' ['a'] [['D']])),
       (pathStr '/' ['a'] [['x']], some (pathStr '/' ['a'] [['F']]))]
    = .ok (st0 (.node 0 ['a'] [] [.node 5 ['q'] [] [], .node 4 ['y'] [] [], .node 1 ['x'] [] [],
        .node 7 ['z'] [] []]) 8) := by
  decide +kernel

/-! ## the frame, for EVERY flag combination

"Nodes not addressed by the edit keep their identity, path, order and attributes" — one theorem for all
2⁷ settings of copy / skippable / overriding / merge_children / merge_leaves / delete_children /
with_full_path, for same-tree and tree-to-tree calls, for every tree (no hypothesis on names or
separators): the pre-order entry list (path, object identity, attributes) of the old destination tree,
restricted to the entries that lie neither below the from-node (same-tree SHIFT; a copy leaves its origin
alone) nor below the existing destination, is a **sublist** of the entry list of the result. -/

/-- one step of the loop -/
theorem frame_all_flags_step (cfg : Cfg) (st st' : St) (pr : Str × Option Str) (fp : List Str) (F : Tree)
    (hres : resolveFrom cfg st pr.1 = .ok (some (fp, F))) (h : step cfg st pr = .ok st') :
    ((flat st.dst).filter (fun e =>
      !touched (if st.src.isNone && !cfg.copy then some fp else none) (destHandle cfg st pr.2) e)).Sublist
      (flat st'.dst) :=
  Modify.step_sub hres h

/-- the public single-pair call `shift_nodes / copy_nodes / copy_nodes_from_tree_to_tree (…, [from], [to])` -/
theorem frame_all_flags (cfg : Cfg) (st st' : St) (pr : Str × Option Str) (fp : List Str) (F : Tree)
    (hres : resolveFrom cfg st (norm cfg pr).1 = .ok (some (fp, F)))
    (h : copyOrShift cfg st [pr] = .ok st') :
    ((flat st.dst).filter (fun e =>
      !touched (if st.src.isNone && !cfg.copy then some fp else none) (destHandle cfg st (norm cfg pr).2) e)).Sublist
      (flat st'.dst) := by
  replace h := loop_of_copyOrShift h
  simp only [List.map_cons, List.map_nil, loop] at h
  cases hs : step cfg st (norm cfg pr) with
  | error e => rw [hs] at h; cases h
  | ok s1 =>
    rw [hs] at h; cases h
    exact Modify.step_sub hres hs

/-- … in particular every such node is still there, with the same path, identity and attributes -/
theorem frame_all_flags_mem (cfg : Cfg) (st st' : St) (pr : Str × Option Str) (fp : List Str) (F : Tree)
    (hres : resolveFrom cfg st (norm cfg pr).1 = .ok (some (fp, F)))
    (h : copyOrShift cfg st [pr] = .ok st') (e : Entry) (he : e ∈ flat st.dst)
    (hout : touched (if st.src.isNone && !cfg.copy then some fp else none) (destHandle cfg st (norm cfg pr).2) e = false) :
    e ∈ flat st'.dst :=
  (frame_all_flags cfg st st' pr fp F hres h).subset (List.mem_filter.2 ⟨he, by rw [hout]; rfl⟩)

/-! non-vacuity on a flag combination no single-flag theorem covers: copy + merge_children +
delete_children onto the existing `/r/b/a` of `r(a(x, y), b(a(z)), c)` -/

def exTree3 : Tree :=
  .node 0 ['r'] [] [.node 1 ['a'] [] [.node 2 ['x'] [(['k'], .int 7)] [.node 8 ['w'] [] []], .node 3 ['y'] [] []],
                    .node 4 ['b'] [] [.node 5 ['a'] [] [.node 6 ['z'] [] []]],
                    .node 7 ['c'] [] []]

example : resolveFrom (cfgOf true false false true false true true) (st0 exTree3 9)
      (norm (cfgOf true false false true false true true)
        (pathStr '/' ['r'] [['a']], some (pathStr '/' ['r'] [['b'], ['a']]))).1
    = .ok (some ([['a']], .node 1 ['a'] [] [.node 2 ['x'] [(['k'], .int 7)] [.node 8 ['w'] [] []], .node 3 ['y'] [] []])) := by
  decide +kernel

example : copyOrShift (cfgOf true false false true false true true) (st0 exTree3 9)
      [(pathStr '/' ['r'] [['a']], some (pathStr '/' ['r'] [['b'], ['a']]))]
    = .ok (st0 (.node 0 ['r'] [] [
        .node 1 ['a'] [] [.node 2 ['x'] [(['k'], .int 7)] [.node 8 ['w'] [] []], .node 3 ['y'] [] []],
        .node 4 ['b'] [] [.node 5 ['a'] [] [.node 6 ['z'] [] [], .node 10 ['x'] [(['k'], .int 7)] [], .node 12 ['y'] [] []]],
        .node 7 ['c'] [] []]) 13) := by
  decide +kernel

-- the entries outside `/r/a` and `/r/b/a`: the root, `b`, `c`
example : (flat exTree3).filter (fun e => !touched (some [['a']]) (some [['b'], ['a']]) e)
    = [([], 0, []), ([['b']], 4, []), ([['c']], 7, [])] := by decide +kernel

/-! ### the same for `replace_logic` (shift_and_replace_nodes, copy_and_replace_nodes_from_tree_to_tree)

The re-append loop permutes siblings in its intermediate states, so the statement is about sub-multisets
(`List.Subperm`, written `<+~`): every old entry that lies neither below the from-node (same-tree shift)
nor below the replaced node occurs in the result with at least its multiplicity. -/

theorem replace_frame_all_flags_step (cfg : Cfg) (st st' : St) (pr : Str × Option Str) (fp : List Str)
    (F : Tree) (hres : resolveFrom cfg st pr.1 = .ok (some (fp, F)))
    (h : stepReplace cfg st pr = .ok st') :
    List.Subperm ((flat st.dst).filter (fun e =>
      !touched (if st.src.isNone && !cfg.copy then some fp else none) (replHandle cfg st pr.2) e))
      (flat st'.dst) :=
  Modify.stepReplace_sub hres h

theorem replace_frame_all_flags_mem (cfg : Cfg) (st st' : St) (pr : Str × Option Str) (fp : List Str)
    (F : Tree) (hres : resolveFrom cfg st pr.1 = .ok (some (fp, F)))
    (h : stepReplace cfg st pr = .ok st') (e : Entry) (he : e ∈ flat st.dst)
    (hout : touched (if st.src.isNone && !cfg.copy then some fp else none) (replHandle cfg st pr.2) e = false) :
    e ∈ flat st'.dst :=
  (replace_frame_all_flags_step cfg st st' pr fp F hres h).subset (List.mem_filter.2 ⟨he, by rw [hout]; rfl⟩)

-- non-vacuity: the first pair of the example above (`/a/y/q` replaces `/a/D` in `exRep`) with delete_children
example : (stepReplace (cfgOf false false false false false true true) (st0 exRep 8)
      (pathStr '/' ['a'] [['y'], ['q']], some (pathStr '/' ['a'] [['D']]))).toOption.isSome = true := by
  decide +kernel

/-! ## nothing is invented, for EVERY flag combination

The *objects* of a tree are the pairs (identity, attributes) of its nodes.  After one pair — whatever the
flags, same-tree or tree-to-tree, any tree, any strings — every node of the destination tree is an object
that was in the destination tree before, or (shift only) an object of the tree the from-node was looked
up in, or a new object whose identity was drawn from the fresh-id counter during this very step.  So no
attribute of an existing node changes, and what a copy adds consists of new objects only.  (The statements
are about membership: they do not count how often an object occurs.) -/

/-- the from-node found by `find_full_path` / `find_path` is made of objects of the searched tree -/
theorem resolveFrom_objs (cfg : Cfg) (st : St) (f : Str) (fp : List Str) (F : Tree)
    (h : resolveFrom cfg st f = .ok (some (fp, F))) : ∀ x ∈ objs F, x ∈ objs st.tree := by
  unfold resolveFrom at h
  split at h
  · unfold findFullPath at h
    split at h
    · cases h
    · split at h
      · cases h
      · next r rest _ _ =>
        simp only [Except.ok.injEq] at h
        cases hg : getRel rest st.tree with
        | none => simp [hg] at h
        | some X =>
          simp only [hg, Option.map_some, Option.some.injEq, Prod.mk.injEq] at h
          obtain ⟨rfl, rfl⟩ := h
          exact objs_getRel _ _ _ hg
  · unfold findPath at h
    simp only at h
    split at h
    · cases h
    · next m hm =>
      simp only [Except.ok.injEq, Option.some.injEq] at h; subst h
      have : (fp, F) ∈ [(fp, F)] := by simp
      rw [← hm] at this
      exact objs_nodesRel st.tree (fp, F) (List.mem_filter.1 this).1
    · cases h

/-- `st'` holds only objects of `st`'s two trees and objects made since: the conclusion of the five
`nothing_invented` theorems below (which spell it out), under a name so that it composes along a loop -/
def NothingInvented (cfg : Cfg) (st st' : St) : Prop :=
  st.next ≤ st'.next ∧
  ∀ x ∈ objs st'.dst,
    x ∈ objs st.dst ∨ (cfg.copy = false ∧ x ∈ objs st.tree) ∨ (st.next ≤ x.1 ∧ x.1 < st'.next)

theorem NothingInvented.refl (cfg : Cfg) (st : St) : NothingInvented cfg st st :=
  ⟨Nat.le_refl _, fun _ hx => Or.inl hx⟩

theorem NothingInvented.trans {cfg : Cfg} {st s1 st' : St} (h1 : NothingInvented cfg st s1)
    (hsrc : s1.src = st.src) (h2 : NothingInvented cfg s1 st') : NothingInvented cfg st st' := by
  obtain ⟨hn1, hk1⟩ := h1
  obtain ⟨hn2, hk2⟩ := h2
  have lift : ∀ x ∈ objs s1.dst,
      x ∈ objs st.dst ∨ (cfg.copy = false ∧ x ∈ objs st.tree) ∨ (st.next ≤ x.1 ∧ x.1 < st'.next) :=
    fun x hx => (hk1 x hx).imp_right (Or.imp_right fun h => ⟨h.1, Nat.lt_of_lt_of_le h.2 hn2⟩)
  refine ⟨Nat.le_trans hn1 hn2, fun x hx => ?_⟩
  rcases hk2 x hx with h | ⟨hc, h⟩ | h
  · exact lift x h
  · -- the tree searched in the second part is the source tree or the intermediate destination tree
    have : x ∈ objs st.tree ∨ x ∈ objs s1.dst := by
      unfold St.tree at h ⊢
      rw [hsrc] at h
      cases hso : st.src with
      | none => rw [hso] at h; exact Or.inr h
      | some s => rw [hso] at h; exact Or.inl h
    exact this.elim (fun h' => Or.inr (Or.inl ⟨hc, h'⟩)) (lift x)
  · exact Or.inr (Or.inr ⟨Nat.le_trans hn1 h.1, h.2⟩)

/-- the bound of `step_objs` / `stepReplace_objs`, with the from-node's objects traced back to the searched tree -/
theorem NothingInvented.of_known {cfg : Cfg} {st st' : St} {f : Str} {fp : List Str} {F : Tree}
    (hres : resolveFrom cfg st f = .ok (some (fp, F)))
    (h : st.next ≤ st'.next ∧
      ∀ x ∈ objs st'.dst, Known (objs st.dst ++ (if cfg.copy then [] else objs F)) st.next st'.next x) :
    NothingInvented cfg st st' := by
  refine ⟨h.1, fun x hx => ?_⟩
  rcases h.2 x hx with h1 | h1
  · rcases List.mem_append.1 h1 with h1 | h1
    · exact Or.inl h1
    · cases hc : cfg.copy with
      | true => rw [hc] at h1; cases h1
      | false =>
        rw [hc] at h1
        exact Or.inr (Or.inl ⟨rfl, resolveFrom_objs cfg st f fp F hres x h1⟩)
  · exact Or.inr (Or.inr h1)

theorem nothing_invented_step (cfg : Cfg) (st st' : St) (pr : Str × Option Str)
    (h : step cfg st pr = .ok st') :
    st.next ≤ st'.next ∧
    ∀ x ∈ objs st'.dst,
      x ∈ objs st.dst ∨ (cfg.copy = false ∧ x ∈ objs st.tree) ∨ (st.next ≤ x.1 ∧ x.1 < st'.next) := by
  cases hres : resolveFrom cfg st pr.1 with
  | error e => simp [step, hres] at h
  | ok o =>
    cases o with
    | none =>
      simp only [step, hres] at h
      split at h
      · cases h; exact NothingInvented.refl cfg st
      · cases h
    | some y => exact NothingInvented.of_known hres (Modify.step_objs hres h)

/-- … lifted to a whole pair list: every object of the final tree was in one of the two trees at the start
or was created during the call -/
theorem nothing_invented (cfg : Cfg) : ∀ (ps : List (Str × Option Str)) (st st' : St),
    loop cfg st ps = .ok st' →
    st.next ≤ st'.next ∧
    ∀ x ∈ objs st'.dst,
      x ∈ objs st.dst ∨ (cfg.copy = false ∧ x ∈ objs st.tree) ∨ (st.next ≤ x.1 ∧ x.1 < st'.next)
  | [], st, st', h => by
    cases h; exact NothingInvented.refl cfg st
  | p :: ps, st, st', h => by
    simp only [loop] at h
    cases hs : step cfg st p with
    | error e => rw [hs] at h; cases h
    | ok s1 =>
      rw [hs] at h
      exact NothingInvented.trans (nothing_invented_step cfg st s1 p hs) (step_name hs).2
        (nothing_invented cfg ps s1 st' h)

/-- the public call (`shift_nodes`, `copy_nodes`, `copy_nodes_from_tree_to_tree`, any number of pairs) -/
theorem nothing_invented_call (cfg : Cfg) (st st' : St) (ps : List (Str × Option Str))
    (h : copyOrShift cfg st ps = .ok st') :
    st.next ≤ st'.next ∧
    ∀ x ∈ objs st'.dst,
      x ∈ objs st.dst ∨ (cfg.copy = false ∧ x ∈ objs st.tree) ∨ (st.next ≤ x.1 ∧ x.1 < st'.next) :=
  nothing_invented cfg _ st st' (loop_of_copyOrShift h)

-- non-vacuity: the copy + merge_children + delete_children call on `exTree3` above; objects 0..8 are old,
-- the copy of `a` took 9..12 (9 and 11 are not attached: `a` itself is merged away, `w` is a deleted child)
example : objs (.node 0 ['r'] [] [
        .node 1 ['a'] [] [.node 2 ['x'] [(['k'], .int 7)] [.node 8 ['w'] [] []], .node 3 ['y'] [] []],
        .node 4 ['b'] [] [.node 5 ['a'] [] [.node 6 ['z'] [] [], .node 10 ['x'] [(['k'], .int 7)] [], .node 12 ['y'] [] []]],
        .node 7 ['c'] [] []])
    = [(0, []), (1, []), (2, [(['k'], .int 7)]), (8, []), (3, []), (4, []), (5, []), (6, []),
       (10, [(['k'], .int 7)]), (12, []), (7, [])] := by decide +kernel

/-! ### the same for `replace_logic` -/

theorem replace_nothing_invented_step (cfg : Cfg) (st st' : St) (pr : Str × Option Str)
    (h : stepReplace cfg st pr = .ok st') :
    st.next ≤ st'.next ∧
    ∀ x ∈ objs st'.dst,
      x ∈ objs st.dst ∨ (cfg.copy = false ∧ x ∈ objs st.tree) ∨ (st.next ≤ x.1 ∧ x.1 < st'.next) := by
  cases hres : resolveFrom cfg st pr.1 with
  | error e => simp [stepReplace, hres] at h
  | ok o =>
    cases o with
    | none =>
      simp only [stepReplace, hres] at h
      split at h
      · cases h; exact NothingInvented.refl cfg st
      · cases h
    | some y => exact NothingInvented.of_known hres (Modify.stepReplace_objs hres h)

/-- `shift_and_replace_nodes` / `copy_and_replace_nodes_from_tree_to_tree` with any pair list -/
theorem replace_nothing_invented (cfg : Cfg) : ∀ (ps : List (Str × Option Str)) (st st' : St),
    loopReplace cfg st ps = .ok st' →
    st.next ≤ st'.next ∧
    ∀ x ∈ objs st'.dst,
      x ∈ objs st.dst ∨ (cfg.copy = false ∧ x ∈ objs st.tree) ∨ (st.next ≤ x.1 ∧ x.1 < st'.next)
  | [], st, st', h => by
    cases h; exact NothingInvented.refl cfg st
  | p :: ps, st, st', h => by
    simp only [loopReplace] at h
    cases hs : stepReplace cfg st p with
    | error e => rw [hs] at h; cases h
    | ok s1 =>
      rw [hs] at h
      exact NothingInvented.trans (replace_nothing_invented_step cfg st s1 p hs) (stepReplace_name hs).2
        (replace_nothing_invented cfg ps s1 st' h)

end C08
