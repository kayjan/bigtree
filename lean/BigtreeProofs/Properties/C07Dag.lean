import BigtreeModel.DagCopy
import BigtreeProofs.Lemmas.DagCopy
import BigtreeProofs.Properties.C10
/-!
# C07 for `DAGNode.copy()`: the copy is fresh, equal to the original, and no later call on one side is
visible on the other

Model: `BigtreeModel/DagCopy.lean` (`copy.deepcopy` mirrors the store at ids `≥ n`, every list of a
duplicate being the shifted list of its original, in order) on top of the statement-level `DagStore` of
C10.  The histories that follow the copy are arbitrary sequences of `parents` / `children` assignments,
`>>`, `<<`, `del node.children`, `del node[name]` with any arguments and hook faults, accepted or
refused; "side" is decided by the ids a call mentions.  Constructor calls (which allocate a new id) are
left to the tie.
`lowE`, `highE`, `shiftE`, `copyOf`, `Op.ids`, `Op.isConstruct` are defined in the model file, `Op.isLow`,
`Op.isHigh` in `Lemmas/DagCopy.lean`, `EState` and its `replay` in `BigtreeModel/DagBridge.lean`.
-/

namespace C07Dag
open DagStore

/-- **the copy is fresh and equal to the original**: the mirrored store is again a well-formed DAG store;
every old cell is unchanged; the duplicate of `v` is a new id whose parents / children / name are the
duplicates of `v`'s, in the same order; the edge list is the old one followed by its shifted image (so no
edge joins an old node and a new one) -/
theorem dag_copy_fresh (s : DStore) (hs : DWF s) :
    DWF (deepCopy s) ∧
    (∀ v, v < s.n → (deepCopy s).parents v = s.parents v ∧ (deepCopy s).children v = s.children v ∧
      (deepCopy s).names v = s.names v) ∧
    (∀ v, v < s.n → s.n ≤ copyOf s v ∧ copyOf s v < (deepCopy s).n ∧
      (deepCopy s).parents (copyOf s v) = (s.parents v).map (copyOf s) ∧
      (deepCopy s).children (copyOf s v) = (s.children v).map (copyOf s) ∧
      (deepCopy s).names (copyOf s v) = s.names v) ∧
    edges (deepCopy s) = edges s ++ (edges s).map (shiftE s.n) := by
  refine ⟨dwf_deepCopy hs, fun v hv => ?_, fun v hv => ?_, edges_deepCopy s⟩
  · rw [deepCopy_parents, deepCopy_children, mirror_low hv, mirror_low hv]
    exact ⟨rfl, rfl, if_pos hv⟩
  · rw [deepCopy_parents, deepCopy_children, copyOf, mirror_add hv, mirror_add hv]
    have hlt : v + s.n < 2 * s.n := (Nat.two_mul s.n).symm ▸ Nat.add_lt_add_right hv s.n
    exact ⟨Nat.le_add_left _ _, hlt, rfl, rfl,
      (if_neg (Nat.not_lt.2 (Nat.le_add_left _ _))).trans (congrArg s.names (Nat.add_sub_cancel v s.n))⟩

/-- **later changes of the copy are not visible on the original**: after any history of calls that only
mention duplicates (any arguments among them, any hook faults, accepted or refused), the edges among the
old nodes are, up to order, the edges of the original -/
theorem dag_no_alias_after_copy (s : DStore) (hs : DWF s) (ops : List Op)
    (hops : ∀ op ∈ ops, op.isConstruct = false ∧ ∀ i ∈ op.ids, s.n ≤ i) :
    (lowE s.n (edges (run true (deepCopy s) ops).1)).Perm (edges s) := by
  have h := run_deepCopy_filter hs ops (fun e => decide (e.1 < s.n ∧ e.2 < s.n)) fun op hop =>
    ⟨(hops op hop).1, fun e he => decide_eq_false fun h => Nat.not_lt.2 ((hops op hop).2 _ he) h.1⟩
  rwa [show (edges (deepCopy s)).filter _ = edges s from lowE_edges_deepCopy hs.toDWF0] at h

/-- **later changes of the original are not visible on the copy** -/
theorem dag_no_alias_original_mutated (s : DStore) (hs : DWF s) (ops : List Op)
    (hops : ∀ op ∈ ops, op.isConstruct = false ∧ ∀ i ∈ op.ids, i < s.n) :
    (highE s.n (edges (run true (deepCopy s) ops).1)).Perm ((edges s).map (shiftE s.n)) := by
  have h := run_deepCopy_filter hs ops (fun e => decide (s.n ≤ e.1 ∧ s.n ≤ e.2)) fun op hop =>
    ⟨(hops op hop).1, fun e he => decide_eq_false fun h => Nat.not_lt.2 h.1 ((hops op hop).2 _ he)⟩
  rwa [show (edges (deepCopy s)).filter _ = _ from highE_edges_deepCopy hs.toDWF0] at h

/-! non-vacuity: C10's demo DAG (0→1, 0→2, 1→2, 2→3), its copy, and a history on the duplicates -/

example : edges (deepCopy C10.demo) = [(0, 1), (0, 2), (1, 2), (2, 3), (4, 5), (4, 6), (5, 6), (6, 7)] := by
  decide +kernel
example : (deepCopy C10.demo).parents (copyOf C10.demo 2) = [5, 4] ∧ C10.demo.parents 2 = [1, 0] := by decide +kernel

def copyHist : List Op :=
  [.delChildren 4, .setParents 7 (.list [5, 4]) .none, .setChildren 6 (.list [4]) .none, .rshift 7 4 .post]

example : (∀ op ∈ copyHist, op.isConstruct = false ∧ ∀ i ∈ op.ids, C10.demo.n ≤ i) := by decide +kernel
example : edges (run true (deepCopy C10.demo) copyHist).1
      = [(0, 1), (0, 2), (1, 2), (2, 3), (4, 7), (5, 6), (5, 7), (6, 7), (6, 4)]
    ∧ (run true (deepCopy C10.demo) copyHist).2 = [.ok, .ok, .ok, .rej] := by decide +kernel

/-- **mixed histories**: calls on the originals and calls on the duplicates interleaved in any way (each call
mentions nodes of one side only; any arguments, any hook faults, accepted or refused).  At the end the edges
among the old nodes are - up to order - what the calls on the originals ALONE, with the outcomes they had,
make of the original graph: the calls on the copy might as well not have happened. -/
theorem dag_mixed_history (s : DStore) (hs : DWF s) (ops : List Op)
    (hops : ∀ op ∈ ops, op.isConstruct = false ∧ (op.isLow s.n = true ∨ op.isHigh s.n = true)) :
    (lowE s.n (edges (run true (deepCopy s) ops).1)).Perm
      ((EState.mk (2 * s.n) (deepCopy s).names (edges s)).replay
        ((ops.zip (run true (deepCopy s) ops).2).filter fun x => x.1.isLow s.n)).E := by
  have hr := run_rel ops (deepCopy s) _ (dwf_deepCopy hs) (rel_estate _)
    (noRejConstruct_of_noConstruct ops _ fun op h => (hops op h).1)
  have h2 := (replay_low_mixed s.n (ops.zip (run true (deepCopy s) ops).2) (estate (deepCopy s))
    (sepE_edges_deepCopy hs.toDWF0) fun x hx => hops x.1 (List.of_mem_zip hx).1).1
  rw [show lowG s.n (estate (deepCopy s)) = EState.mk (2 * s.n) (deepCopy s).names (edges s) from
    congrArg (EState.mk _ _) (lowE_edges_deepCopy hs.toDWF0)] at h2
  exact (hr.perm.filter _).trans (List.Perm.of_eq h2)

def mixedHist : List Op :=
  [.delChildren 4, .setChildren 3 (.list [0]) .none, .setParents 7 (.list [5, 4]) .none, .delItem 0 [],
   .rshift 1 3 .none, .setChildren 6 (.list [4]) .post]

example : (∀ op ∈ mixedHist, op.isConstruct = false ∧ (op.isLow C10.demo.n = true ∨ op.isHigh C10.demo.n = true)) := by
  decide +kernel
-- three calls accepted (one on the originals: 1 >> 3), three refused; low part = the low calls replayed alone
example : edges (run true (deepCopy C10.demo) mixedHist).1
      = [(0, 1), (0, 2), (1, 2), (1, 3), (2, 3), (4, 7), (5, 6), (5, 7), (6, 7)] ∧
    ((EState.mk 8 (deepCopy C10.demo).names (edges C10.demo)).replay
      ((mixedHist.zip (run true (deepCopy C10.demo) mixedHist).2).filter fun x => x.1.isLow 4)).E
      = [(0, 1), (0, 2), (1, 2), (2, 3), (1, 3)] := by decide +kernel

end C07Dag
