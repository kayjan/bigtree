import BigtreeModel.Paths
import BigtreeProofs.Lemmas.PathsStr
import BigtreeProofs.Lemmas.PathsAddr
import BigtreeProofs.Lemmas.PathsSet
import BigtreeProofs.Lemmas.PathsLoop
import BigtreeProofs.Lemmas.PathsNoDup
import BigtreeProofs.Lemmas.PathsFold
/-!
# C05 — path-based constructors build exactly the prefix closure of the given paths

`Paths.addComps` is `add_path_to_tree` on the component list `branch` (what `path.lstrip(sep)
.rstrip(sep).split(sep)` yields); `strip_invariant_multi` / `sep_invariant_multi` connect it to the
string interface `Paths.addPath` for a separator that shares no character with the names.
`SibUnique t` is the `Node` invariant (no two children of a node share a name).
`Store.Free sp x` (`x` shares no character with `sp`) is defined in `Lemmas/Strings.lean`; `WfStr`, `branchOf`
and `firstSeen` in `Lemmas/PathsFold.lean`, `kidPaths` in `Lemmas/PathsLoop.lean`.
-/
open Paths Str

namespace C05

/-- Nothing missing, nothing extra, nothing duplicated: the node paths of the result are the
    old node paths together with all prefixes of the given path, each exactly once. -/
theorem paths_insert (treeSep : Str) (t : Tree) (fresh : Nat) (branch : List Str) (attrs : Attrs)
    (t' : Tree) (ad : Addr) (fr' : Nat) (hs : SibUnique t)
    (h : addComps treeSep true t fresh branch attrs = .ok (t', ad, fr')) :
    (∀ q, q ∈ paths t' ↔ q ∈ paths t ∨ q ∈ prefixes branch) ∧ (paths t').Nodup := by
  have r := addComps_dup treeSep t fresh branch attrs t' ad fr' hs h
  exact ⟨r.mem, nodup_paths t' r.sib⟩

/-- Existing nodes are reused, not duplicated: every node that existed before is still at the
    same address with the same identity, name and path; its attributes are unchanged, except
    for the addressed node, whose attributes are updated with the given ones. -/
theorem insert_keeps_ids (treeSep : Str) (t : Tree) (fresh : Nat) (branch : List Str) (attrs : Attrs)
    (t' : Tree) (ad : Addr) (fr' : Nat) (hs : SibUnique t)
    (h : addComps treeSep true t fresh branch attrs = .ok (t', ad, fr')) :
    ∀ b n, nodeAt b t = some n → ∃ n', nodeAt b t' = some n' ∧ n'.id = n.id ∧ n'.name = n.name ∧
      namesAlong b t' = namesAlong b t ∧ (b ≠ ad → n'.attrs = n.attrs) ∧
      (b = ad → n'.attrs = updateAttrs n.attrs attrs) :=
  (addComps_dup treeSep t fresh branch attrs t' ad fr' hs h).oldNodes

/-- The node returned for a path is the node at that path. -/
theorem insert_returns (treeSep : Str) (t : Tree) (fresh : Nat) (branch : List Str) (attrs : Attrs)
    (t' : Tree) (ad : Addr) (fr' : Nat) (hs : SibUnique t)
    (h : addComps treeSep true t fresh branch attrs = .ok (t', ad, fr')) :
    (∃ n, nodeAt ad t' = some n) ∧ namesAlong ad t' = branch := by
  have r := addComps_dup treeSep t fresh branch attrs t' ad fr' hs h
  exact ⟨r.node, r.names⟩

/-- non-vacuity: extending `a(b)` by `a/c/d` (fresh ids 10, 11) -/
example : addComps ['/'] true (.node 0 ['a'] [] [.node 1 ['b'] [] []]) 10 [['a'], ['c'], ['d']] [(['v'], .int 1)]
    = .ok (.node 0 ['a'] [] [.node 1 ['b'] [] [], .node 10 ['c'] [] [.node 11 ['d'] [(['v'], .int 1)] []]],
           [1, 0], 12) := by decide +kernel

example : SibUnique (.node 0 ['a'] [] [.node 1 ['b'] [] []]) := by
  simp [SibUnique, SibUniqueL]

/-- A path with a different root is refused (`TreeError`). -/
theorem different_root_refused (treeSep : Str) (dupOk : Bool) (t : Tree) (fresh : Nat) (b0 : Str)
    (rest : List Str) (attrs : Attrs) (h : b0 ≠ t.name) :
    addComps treeSep dupOk t fresh (b0 :: rest) attrs = .error .tree := by
  simp [addComps, h]

example : addComps ['/'] true (.node 0 ['a'] [] []) 1 [['b'], ['c']] [] = .error .tree := by decide +kernel

/-- Independence of leading / trailing separators, for a separator of ANY length (`"::"`, `"->"`): whatever
run of separator characters leads or trails the path string, the call is the call on the components — for
components that are non-empty and share no character with the separator (`lstrip`/`rstrip` strip a character
set; outside that domain lies K7). -/
theorem strip_invariant_multi (treeSep sp : Str) (hsp : sp ≠ []) (dupOk : Bool) (t : Tree) (fresh : Nat)
    (lead trail : Str) (branch : List Str) (attrs : Attrs) (hne : branch ≠ [])
    (hl : ∀ x ∈ lead, x ∈ sp) (ht : ∀ x ∈ trail, x ∈ sp)
    (hfree : ∀ x ∈ branch, x ≠ [] ∧ Store.Free sp x) :
    addPath treeSep sp dupOk t fresh (lead ++ join sp branch ++ trail) attrs
      = addComps treeSep dupOk t fresh branch attrs :=
  addPath_eq_addComps treeSep sp hsp dupOk t fresh lead trail branch attrs hne hl ht hfree

/-- … and for a one-character separator that occurs in no component. -/
theorem strip_invariant (treeSep : Str) (c : Char) (dupOk : Bool) (t : Tree) (fresh : Nat)
    (lead trail : Str) (branch : List Str) (attrs : Attrs) (hne : branch ≠ [])
    (hl : ∀ x ∈ lead, x = c) (ht : ∀ x ∈ trail, x = c) (hfree : ∀ x ∈ branch, x ≠ [] ∧ c ∉ x) :
    addPath treeSep [c] dupOk t fresh (lead ++ join [c] branch ++ trail) attrs
      = addComps treeSep dupOk t fresh branch attrs :=
  addPath_render treeSep c dupOk t fresh ⟨lead, branch, trail, attrs⟩ ⟨hne, hl, ht, hfree⟩

/-- Independence of the separator chosen: spelling the same components with another separator
    (in the path and in the call) gives the same result. -/
theorem sep_invariant_multi (treeSep sp sq : Str) (hsp : sp ≠ []) (hsq : sq ≠ []) (dupOk : Bool) (t : Tree)
    (fresh : Nat) (branch : List Str) (attrs : Attrs) (hne : branch ≠ [])
    (hp : ∀ x ∈ branch, x ≠ [] ∧ Store.Free sp x) (hq : ∀ x ∈ branch, x ≠ [] ∧ Store.Free sq x) :
    addPath treeSep sp dupOk t fresh (join sp branch) attrs
      = addPath treeSep sq dupOk t fresh (join sq branch) attrs := by
  -- both calls are the call on the components
  have key : ∀ s : Str, s ≠ [] → (∀ x ∈ branch, x ≠ [] ∧ Store.Free s x) →
      addPath treeSep s dupOk t fresh (join s branch) attrs = addComps treeSep dupOk t fresh branch attrs := by
    intro s hs hf
    have h := strip_invariant_multi treeSep s hs dupOk t fresh [] [] branch attrs hne
      (fun _ h => absurd h List.not_mem_nil) (fun _ h => absurd h List.not_mem_nil) hf
    rwa [List.nil_append, List.append_nil] at h
  rw [key sp hsp hp, key sq hsq hq]

/-- `sep_invariant_multi` for one-character separators that occur in no component -/
theorem sep_invariant (treeSep : Str) (c d : Char) (dupOk : Bool) (t : Tree) (fresh : Nat)
    (branch : List Str) (attrs : Attrs) (hne : branch ≠ [])
    (hc : ∀ x ∈ branch, x ≠ [] ∧ c ∉ x) (hd : ∀ x ∈ branch, x ≠ [] ∧ d ∉ x) :
    addPath treeSep [c] dupOk t fresh (join [c] branch) attrs
      = addPath treeSep [d] dupOk t fresh (join [d] branch) attrs :=
  sep_invariant_multi treeSep [c] [d] (List.cons_ne_nil c []) (List.cons_ne_nil d []) dupOk t fresh branch attrs hne
    (fun x hx => ⟨(hc x hx).1, (Store.free_singleton c x).2 (hc x hx).2⟩)
    (fun x hx => ⟨(hd x hx).1, (Store.free_singleton d x).2 (hd x hx).2⟩)

example : addPath ['/'] ['/'] true (.node 0 ['a'] [] []) 1 "/a/b c/".toList []
    = addPath ['/'] ['.'] true (.node 0 ['a'] [] []) 1 "a.b c".toList [] := by decide +kernel

example : addPath ['/'] [':', ':'] true (.node 0 ['a'] [] []) 1 ":a::b c::::".toList []
    = addPath ['/'] ['-', '>'] true (.node 0 ['a'] [] []) 1 "a->b c".toList [] := by decide +kernel

/-- With duplicate names disallowed (`find_name` over the whole tree + comparison of the full
    path, fix D3) the call either raises, or returns exactly what the call with duplicates
    allowed returns — and then all names are distinct if they were before.
    `s` is the tree's separator; it occurs in no name. -/
theorem no_dup_mode (s : Char) (t : Tree) (fresh : Nat) (branch : List Str) (attrs : Attrs)
    (hs : SibUnique t) (hf : SepFree s t) (hb : ∀ x ∈ branch, s ∉ x) :
    (∃ e, addComps [s] false t fresh branch attrs = .error e) ∨
    (∃ r, addComps [s] false t fresh branch attrs = .ok r ∧
          addComps [s] true t fresh branch attrs = .ok r ∧
          ((names t).Nodup → (names r.1).Nodup)) := by
  cases h : addComps [s] false t fresh branch attrs with
  | error e => exact .inl ⟨e, rfl⟩
  | ok r =>
    obtain ⟨h1, h2⟩ := addComps_nodup s t fresh branch attrs r hs hf hb h
    exact .inr ⟨r, rfl, h1, h2⟩

/-- D3 witness: root `a` with `a/xa/b`; adding `a/b` with duplicates disallowed raises
    `DuplicatedNodeError` (before the fix it returned the node `/a/xa/b`). -/
example : addComps ['/'] false (.node 0 ['a'] [] [.node 1 ['x', 'a'] [] [.node 2 ['b'] [] []]]) 3
    [['a'], ['b']] [] = .error .dup := by decide +kernel

/-- non-vacuity: a call with duplicates disallowed that succeeds -/
example : addComps ['/'] false (.node 0 ['a'] [] [.node 1 ['x', 'a'] [] [.node 2 ['b'] [] []]]) 3
    [['a'], ['x', 'a'], ['c']] [] =
    .ok (.node 0 ['a'] [] [.node 1 ['x', 'a'] [] [.node 2 ['b'] [] [], .node 3 ['c'] [] []]], [0, 1], 4) := by
  decide +kernel

example : SepFree '/' (.node 0 ['a'] [] [.node 1 ['x', 'a'] [] [.node 2 ['b'] [] []]]) := by
  unfold SepFree; decide +kernel

/-- Attributes end up on exactly the nodes whose path was given with them: after one call every
    node of the result is either an old node — attributes unchanged, or updated with the given
    ones if it is the addressed node — or a new node, which carries no attributes unless it is
    the addressed node (then: the given ones, see `new_node_attrs`). -/
theorem attrs_exact (treeSep : Str) (t : Tree) (fresh : Nat) (branch : List Str) (attrs : Attrs)
    (t' : Tree) (ad : Addr) (fr' : Nat) (hs : SibUnique t)
    (h : addComps treeSep true t fresh branch attrs = .ok (t', ad, fr')) :
    ∀ b n', nodeAt b t' = some n' →
      (∃ n, nodeAt b t = some n ∧ n'.attrs = if b = ad then updateAttrs n.attrs attrs else n.attrs) ∨
      (nodeAt b t = none ∧ n'.attrs = if b = ad then updateAttrs attrs attrs else []) :=
  (addComps_dup treeSep t fresh branch attrs t' ad fr' hs h).nodeAttrs

/-- a dictionary has pairwise different keys: a new addressed node carries exactly the given attributes -/
theorem new_node_attrs (a : Attrs) (h : (a.map Prod.fst).Nodup) : updateAttrs a a = a :=
  updateAttrs_of_subset h a fun _ h => h

/-- Null values are dropped exactly in the row (DataFrame) constructors, and the `name` column is
    never an attribute; the dictionary constructor drops only `name`. -/
theorem nulls_dropped_in_rows (a : Attrs) (kv : Str × Val) :
    (kv ∈ filterRow a ↔ kv ∈ a ∧ kv.2 ≠ .null ∧ kv.1 ≠ "name".toList) ∧
    (kv ∈ dropName a ↔ kv ∈ a ∧ kv.1 ≠ "name".toList) := by
  simp only [filterRow, dropName, List.mem_filter, Bool.and_eq_true, decide_eq_true_eq, and_self]

example : filterRow [(['v'], .int 1), (['w'], .null), ("name".toList, .str ['x'])] = [(['v'], .int 1)] := by decide +kernel

/-- `list_to_tree` on ANY list of well-formed path strings (the empty list is refused) — repeated paths, any order,
    any leading/trailing separators (`WfStr`: the string is some run of separators, non-empty
    components free of the separator joined by it, some run of separators), both duplicate
    settings. With `branchOf p` the components of `p` and `firstSeen` the duplicate-free list of
    all prefixes in order of first appearance:
    the node paths are exactly the prefixes of the given paths, each once, and the children of every
    node are ordered by first appearance (their paths form a sublist of `firstSeen`).
    With duplicates disallowed all names of the result are distinct. -/
theorem children_first_appearance (c : Char) (dupOk : Bool) (ps : List Str) (hwf : ∀ p ∈ ps, WfStr c p) (t : Tree)
    (h : listToTree [c] dupOk ps = .ok t) :
    (firstSeen (ps.map (branchOf c))).Nodup ∧
    (∀ q, q ∈ paths t ↔ q ∈ firstSeen (ps.map (branchOf c))) ∧ (paths t).Nodup ∧
    (∀ b n, nodeAt b t = some n →
      (kidPaths (namesAlong b t) n).Sublist (firstSeen (ps.map (branchOf c)))) ∧
    (dupOk = false → (names t).Nodup) := by
  obtain ⟨⟨h1, h2, h3, h4⟩, h5⟩ := listToTree_spec c dupOk ps hwf t h
  exact ⟨h2, h3, nodup_paths t h1, h4, h5⟩

/-- the components read off a well-formed string are the ones it was written from -/
theorem branchOf_written (c : Char) (it : Item) (hw : it.Wf c) : branchOf c (it.render c) = it.branch :=
  branchOf_render c it hw

/-- non-vacuity: `["a/c/x", "/a/b/", "a/c/y"]` — `c` before `b`, `x` before `y` -/
example : listToTree ['/'] true ["a/c/x".toList, "/a/b/".toList, "a/c/y".toList] =
    .ok (.node 0 ['a'] [] [.node 1 ['c'] [] [.node 2 ['x'] [] [], .node 4 ['y'] [] []], .node 3 ['b'] [] []]) := by
  decide +kernel

example : firstSeen [[['a'], ['c'], ['x']], [['a'], ['b']], [['a'], ['c'], ['y']]] =
    [[['a']], [['a'], ['c']], [['a'], ['c'], ['x']], [['a'], ['b']], [['a'], ['c'], ['y']]] := by decide +kernel

example : WfStr '/' "/a/b/".toList :=
  ⟨⟨['/'], [['a'], ['b']], ['/'], []⟩, by unfold Item.Wf; decide +kernel, rfl, by decide +kernel⟩

example : (⟨['/'], [['a'], ['b']], ['/'], []⟩ : Item).Wf '/' := by
  unfold Item.Wf; decide +kernel

/-- The `add_*_by_path` functions (a fold of `add_path_to_tree` over well-formed path strings,
    starting from ANY tree with pairwise different sibling names): with
    `K := closure (paths t) branches` — the old node paths followed by every new prefix, once, in
    order of first appearance — the node paths of the result are exactly `K`, no path twice, and
    the children paths of every node are a sublist of `K` (existing children keep their order, new
    ones follow in order of first appearance). With duplicates disallowed (`s` = the tree's
    separator, in no name) a fold that does not raise is the fold with duplicates allowed and
    keeps all names distinct if they were. -/
theorem fold_exact (s c : Char) (dupOk : Bool) (items : List Item) (t : Tree) (fresh : Nat) (t' : Tree)
    (fr' : Nat) (hwf : ∀ it ∈ items, it.Wf c) (hs : SibUnique t)
    (hno : dupOk = false → SepFree s t ∧ ∀ it ∈ items, ∀ x ∈ it.branch, s ∉ x)
    (h : addMany [s] [c] dupOk (items.map fun it => (it.render c, it.attrs)) t fresh = .ok (t', fr')) :
    addMany [s] [c] true (items.map fun it => (it.render c, it.attrs)) t fresh = .ok (t', fr') ∧
    SibUnique t' ∧ (closure (paths t) (items.map (·.branch))).Nodup ∧
    (∀ q, q ∈ paths t' ↔ q ∈ closure (paths t) (items.map (·.branch))) ∧
    (∀ b n, nodeAt b t' = some n →
      (kidPaths (namesAlong b t') n).Sublist (closure (paths t) (items.map (·.branch)))) ∧
    t'.name = t.name ∧ (∀ it ∈ items, it.branch.head? = some t.name) ∧
    (dupOk = false → (names t).Nodup → (names t').Nodup) := by
  obtain ⟨h1, ⟨h2, h3, h4, h5⟩, h6⟩ := addMany_spec s c dupOk items t fresh t' fr' hwf hs hno h
  exact ⟨h1, h2, h3, h4, h5, h6⟩

/-- `dict_to_tree` on well-formed keys, both duplicate settings: node set = prefix closure, each
    path once, children by first appearance; all names distinct with duplicates disallowed. -/
theorem dict_to_tree_exact (c : Char) (dupOk : Bool) (items : List Item) (hwf : ∀ it ∈ items, it.Wf c) (t : Tree)
    (h : dictToTree [c] dupOk (items.map fun it => (it.render c, it.attrs)) = .ok t) :
    (firstSeen (items.map (·.branch))).Nodup ∧
    (∀ q, q ∈ paths t ↔ q ∈ firstSeen (items.map (·.branch))) ∧ (paths t).Nodup ∧
    (∀ b n, nodeAt b t = some n → (kidPaths (namesAlong b t) n).Sublist (firstSeen (items.map (·.branch)))) ∧
    (dupOk = false → (names t).Nodup) := by
  obtain ⟨⟨h1, h2, h3, h4⟩, h5⟩ := dictToTree_spec c dupOk items hwf t h
  exact ⟨h2, h3, nodup_paths t h1, h4, h5⟩

/-- `dataframe_to_tree` / `polars_to_tree` on well-formed paths (rows that pass the
    duplicate-attribute check), both duplicate settings. With repair D11 (the root's separator is
    assigned BEFORE the loop) `/` may occur in names: the statement is the same as for
    `list_to_tree` and `dict_to_tree`. -/
theorem rows_to_tree_exact (c : Char) (dupOk : Bool) (items : List Item) (hwf : ∀ it ∈ items, it.Wf c) (t : Tree)
    (h : rowsToTree [c] dupOk (items.map fun it => (it.render c, it.attrs)) = .ok t) :
    (firstSeen (items.map (·.branch))).Nodup ∧
    (∀ q, q ∈ paths t ↔ q ∈ firstSeen (items.map (·.branch))) ∧ (paths t).Nodup ∧
    (∀ b n, nodeAt b t = some n → (kidPaths (namesAlong b t) n).Sublist (firstSeen (items.map (·.branch)))) ∧
    (dupOk = false → (names t).Nodup) := by
  obtain ⟨h1, h2, h3, h4, h5⟩ := rowsToTree_spec c dupOk items hwf t h
  exact ⟨h2, h3, nodup_paths t h1, h4, h5⟩

example : dictToTree ['.'] true [("a.c".toList, [(['v'], .int 1)]), (".a.b.".toList, []), ("a".toList, [(['w'], .null)])] =
    .ok (.node 0 ['a'] [(['w'], .null)] [.node 1 ['c'] [(['v'], .int 1)] [], .node 2 ['b'] [] []]) := by decide +kernel

example : rowsToTree ['|'] false [("|a|c".toList, [(['v'], .int 1)]), ("a|b|".toList, [(['v'], .null)])] =
    .ok (.node 0 ['a'] [] [.node 1 ['c'] [(['v'], .int 1)] [], .node 2 ['b'] [] []]) := by decide +kernel

end C05
