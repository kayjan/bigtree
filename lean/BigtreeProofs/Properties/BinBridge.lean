import BigtreeModel.BinStore
import BigtreeModel.BinBridge
import BigtreeModel.Iter
import BigtreeModel.Query
import BigtreeProofs.Lemmas.BinBridgeBasic
import BigtreeProofs.Properties.C04
import BigtreeProofs.Properties.C11
import BigtreeProofs.Properties.C12
/-!
# BinBridge — the two-slot `BinaryNode` store (C11) refines binary trees (`BTree`: C04 in-order, C12 queries)

`BinStore.btreeOf s names fuel v` (`BigtreeModel/BinBridge.lean`) reads a node back the way the
read-only functions do: identity, then `.left` and `.right` recursively, an empty slot is `BTree.nil`.
The transfer theorems (`inorder_transfer`, `is_leaf_transfer`) speak about every state reachable by a
history of `BinaryNode` calls.
`btreeOf_fuel` and `btreeOf_unfold` here are `BinStore.btreeOf_fuel` / `BinStore.btreeOf_unfold`
(`Lemmas/BinBridgeBasic.lean`) with every argument explicit; the proofs below call the `BinStore.` ones.
-/

namespace BinBridge
open BinStore Iter

/-! ### a concrete history for the non-vacuity examples -/

/-- 0 gets the children 1, 2; 3 becomes the left child of 1; 4 the right child of 2; a refused loop;
a refused attachment to a full node (5 stays alone) -/
def demoOps : List Op :=
  [.children 0 (some [some 1, some 2]) .none, .left 1 (some 3) .none, .right 2 (some 4) .none,
   .parent 0 (some 3) .none, .parent 5 (some 0) .none]
def demo : Store := run true (init 6) demoOps
theorem demo_wf : BWF demo := C11.bwf_reachable 6 demoOps

private def lf (i : Nat) : BTree := .node i [] [] .nil .nil
example : btreeOf demo (fun _ => []) 6 0 =
    .node 0 [] [] (.node 1 [] [] (lf 3) .nil) (.node 2 [] [] .nil (lf 4)) := by decide +kernel
example : dump demo = [(none, [some 1, some 2]), (some 0, [some 3, none]), (some 0, [none, some 4]),
    (some 1, [none, none]), (some 2, [none, none]), (none, [none, none])] := by decide +kernel

/-! ## 1. fuel -/

/-- acyclicity ⇒ the read-back terminates: every fuel `≥ n` gives the same tree -/
theorem btreeOf_fuel (s : Store) (hw : BWF s) (names : Nat → Str) (v f g : Nat) (hf : s.n ≤ f) (hg : s.n ≤ g) :
    btreeOf s names f v = btreeOf s names g v :=
  BinStore.btreeOf_fuel hw names v f g hf hg

/-- … and that tree is the fixed point of "read the node, then read `.left` and `.right`" -/
theorem btreeOf_unfold (s : Store) (hw : BWF s) (names : Nat → Str) (v f : Nat) (hf : s.n ≤ f) :
    btreeOf s names f v =
      .node v (names v) [] (slotTree s names f (left s v)) (slotTree s names f (right s v)) :=
  BinStore.btreeOf_unfold hw names v f hf

example : btreeOf demo (fun _ => []) 6 0 = btreeOf demo (fun _ => []) 100 0 :=
  btreeOf_fuel demo demo_wf _ 0 6 100 (by decide +kernel) (by decide +kernel)
-- too little fuel does cut the tree: the hypothesis `n ≤ fuel` is not idle
example : btreeOf demo (fun _ => []) 1 0 ≠ btreeOf demo (fun _ => []) 6 0 := by decide +kernel

/-! ## 2. identities and links -/

/-- the identities of the read-back of `r` are pairwise distinct and are exactly `r` and the nodes reached
from `r` through occupied slots — equivalently the nodes whose parent walk (`BinStore.anc`, the executable
`ancestors` of C11's loop check) meets `r` -/
theorem btreeOf_ids (s : Store) (hw : BWF s) (names : Nat → Str) (f : Nat) (hf : s.n ≤ f) (r : Nat) :
    (inorder (btreeOf s names f r)).Nodup ∧
    (∀ x, x ∈ inorder (btreeOf s names f r) ↔ Below s r x) ∧
    (∀ x, x ∈ inorder (btreeOf s names f r) ↔ (x = r ∨ r ∈ anc s s.n x)) :=
  ⟨nodup_inorder_btreeOf hw names f hf r, mem_inorder_btreeOf hw names f hf r,
   fun x => by rw [mem_inorder_btreeOf hw names f hf r, below_iff_anc hw]⟩

example : inorder (btreeOf demo (fun _ => []) 6 0) = [3, 1, 0, 2, 4] ∧ anc demo 6 4 = [2, 0] := by decide +kernel

/-- the read-backs of the parentless nodes partition the node set: every node appears in the tree of exactly
one root (and there exactly once, `btreeOf_ids`) -/
theorem btree_partition (s : Store) (hw : BWF s) (names : Nat → Str) (x : Nat) :
    ∃ r, s.parent r = none ∧ x ∈ inorder (btreeOf s names s.n r) ∧
      ∀ r', s.parent r' = none → x ∈ inorder (btreeOf s names s.n r') → r' = r := by
  obtain ⟨r, hr, hb, hu⟩ := exists_unique_root hw x
  refine ⟨r, hr, (mem_inorder_btreeOf hw names s.n (Nat.le_refl _) r x).2 hb, fun r' hr' hm => ?_⟩
  exact hu r' hr' ((mem_inorder_btreeOf hw names s.n (Nat.le_refl _) r' x).1 hm)

example : demo.parent 0 = none ∧ demo.parent 5 = none ∧ 4 ∈ inorder (btreeOf demo (fun _ => []) demo.n 0) ∧
    inorder (btreeOf demo (fun _ => []) demo.n 5) = [5] := by decide +kernel

/-- the raw list of the store is `[left, right]`; a node sits in at most one of the two slots; the occupant
of a slot names the owner as its parent and every child sits in a slot of its parent; and the two subtrees
of the read-back are the read-backs of `.left` and `.right` -/
theorem btreeOf_slots (s : Store) (hw : BWF s) (names : Nat → Str) (f : Nat) (hf : s.n ≤ f) (v : Nat) :
    s.slots v = [left s v, right s v] ∧
    (∀ c d, left s v = some c → right s v = some d → c ≠ d) ∧
    (∀ c, s.parent c = some v ↔ (left s v = some c ∨ right s v = some c)) ∧
    (∃ l r, btreeOf s names f v = .node v (names v) [] l r ∧
      l = slotTree s names f (left s v) ∧ r = slotTree s names f (right s v)) := by
  refine ⟨slots_eq hw v, fun c d hl hr => left_ne_right hw hl hr, fun c => ?_,
    _, _, BinStore.btreeOf_unfold hw names v f hf, rfl, rfl⟩
  rw [← mem_slots hw]
  exact ⟨hw.up c v, hw.down v c⟩

example : left demo 1 = some 3 ∧ right demo 1 = none ∧ demo.parent 3 = some 1 := by decide +kernel

/-! ## 3. transfer -/

/-- **C04 in every reachable state.**  For every history of `BinaryNode` calls from freshly built nodes
(any arguments, any hook faults) and every node `r` of the final store, the real-shaped in-order iterator
(`Iter.inorderImpl`, no filter, no depth limit) run on the read-back of `r`

* is the specification-level in-order of C04 (`Iter.inorder`),
* lists `r` and all its descendants, each exactly once, and nothing else,
* lists, for every node `x` below `r`, the whole subtree of `x` as one contiguous block: first the left
  subtree of `x`, then `x`, then the right subtree of `x`;
* so every node of the left subtree of `x` comes before `x` and every node of the right subtree after `x`. -/
theorem inorder_transfer (n : Nat) (ops : List Op) (names : Nat → Str) :
    let s := run true (init n) ops
    ∀ r,
      let L := inorderImpl (fun _ => true) 0 1 (btreeOf s names s.n r)
      L = inorder (btreeOf s names s.n r) ∧ L.Nodup ∧
      (∀ x, x ∈ L ↔ Below s r x) ∧
      (∀ x, Below s r x → ∃ l1 l2, L = l1 ++
        (inorder (slotTree s names s.n (left s x)) ++ [x] ++ inorder (slotTree s names s.n (right s x))) ++ l2) ∧
      (∀ x c y, Below s r x → left s x = some c → Below s c y → ∃ l1 l2 l3, L = l1 ++ y :: (l2 ++ x :: l3)) ∧
      (∀ x c y, Below s r x → right s x = some c → Below s c y → ∃ l1 l2 l3, L = l1 ++ x :: (l2 ++ y :: l3)) := by
  intro s r L
  have hw : BWF s := C11.bwf_reachable n ops
  have hL : L = inorder (btreeOf s names s.n r) := by
    show inorderImpl (fun _ => true) 0 1 (btreeOf s names s.n r) = _
    rw [C04.inorder_eq, bgate_zero]
    exact List.filter_eq_self.2 (fun _ _ => rfl)
  have hblock : ∀ x, Below s r x → ∃ l1 l2, L = l1 ++
      (inorder (slotTree s names s.n (left s x)) ++ [x] ++ inorder (slotTree s names s.n (right s x))) ++ l2 := by
    intro x hx
    obtain ⟨l1, l2, e⟩ := inorder_block hw names s.n (Nat.le_refl _) hx
    refine ⟨l1, l2, ?_⟩
    rw [hL, e, BinStore.btreeOf_unfold hw names x s.n (Nat.le_refl _)]
    rfl
  refine ⟨hL, ?_, ?_, hblock, ?_, ?_⟩
  · rw [hL]; exact nodup_inorder_btreeOf hw names s.n (Nat.le_refl _) r
  · intro x; rw [hL]; exact mem_inorder_btreeOf hw names s.n (Nat.le_refl _) r x
  · intro x c y hx hl hy
    obtain ⟨l1, l2, e⟩ := hblock x hx
    have hm : y ∈ inorder (slotTree s names s.n (left s x)) := by
      rw [hl]; exact (mem_inorder_btreeOf hw names s.n (Nat.le_refl _) c y).2 hy
    obtain ⟨a, b, hab⟩ := List.append_of_mem hm
    exact ⟨l1 ++ a, b, inorder (slotTree s names s.n (right s x)) ++ l2, by rw [e, hab]; simp⟩
  · intro x c y hx hr hy
    obtain ⟨l1, l2, e⟩ := hblock x hx
    have hm : y ∈ inorder (slotTree s names s.n (right s x)) := by
      rw [hr]; exact (mem_inorder_btreeOf hw names s.n (Nat.le_refl _) c y).2 hy
    obtain ⟨a, b, hab⟩ := List.append_of_mem hm
    exact ⟨l1 ++ inorder (slotTree s names s.n (left s x)), a, b ++ l2, by rw [e, hab]; simp⟩

example : inorderImpl (fun _ => true) 0 1 (btreeOf demo (fun _ => []) demo.n 0) = [3, 1, 0, 2, 4] := by decide +kernel
example : Below demo 0 1 ∧ left demo 1 = some 3 ∧ Below demo 3 3 :=
  ⟨.step (.refl 0) (by decide +kernel), by decide +kernel, .refl 3⟩

/-- **C12 `is_leaf` in every reachable state.**  For every history and every node `v`: `is_leaf` (C12's
`Query.isLeafB`, the comprehension over the two slots as written) of the read-back of `v` holds exactly when
both slots of `v` are empty, exactly when no node names `v` as its parent; and it is `is_leaf` of the generic
view of the binary tree (`BTree.toTrees`, what the generic iterators and queries see) -/
theorem is_leaf_transfer (n : Nat) (ops : List Op) (names : Nat → Str) :
    let s := run true (init n) ops
    ∀ v,
      (Query.isLeafB (btreeOf s names s.n v) = true ↔ left s v = none ∧ right s v = none) ∧
      (Query.isLeafB (btreeOf s names s.n v) = true ↔ s.slots v = [none, none]) ∧
      (Query.isLeafB (btreeOf s names s.n v) = true ↔ ∀ c, s.parent c ≠ some v) ∧
      (∀ t, (btreeOf s names s.n v).toTrees = [t] →
        Query.isLeafB (btreeOf s names s.n v) = t.children.isEmpty) := by
  intro s v
  have hw : BWF s := C11.bwf_reachable n ops
  have hnil : ∀ o : Option Nat, slotTree s names s.n o = .nil ↔ o = none := by
    intro o
    cases o with
    | none => simp
    | some c =>
      simp only [slotTree_some, reduceCtorEq, iff_false]
      cases hn : s.n <;> simp [btreeOf]
  have h1 : Query.isLeafB (btreeOf s names s.n v) = true ↔ left s v = none ∧ right s v = none := by
    rw [BinStore.btreeOf_unfold hw names v s.n (Nat.le_refl _), (C12.is_leaf_iff).2.1, hnil, hnil]
  refine ⟨h1, ?_, ?_, fun t ht => (C12.is_leaf_iff).2.2 _ t ht⟩
  · rw [h1, slots_eq hw v]; simp
  · rw [h1, Option.eq_none_iff_forall_ne_some, Option.eq_none_iff_forall_ne_some, ← forall_and]
    refine forall_congr' fun c => not_or.symm.trans (not_congr ?_)
    rw [← mem_slots hw]
    exact ⟨hw.down v c, hw.up c v⟩

example : Query.isLeafB (btreeOf demo (fun _ => []) demo.n 3) = true ∧
    Query.isLeafB (btreeOf demo (fun _ => []) demo.n 1) = false ∧ demo.slots 3 = [none, none] := by decide +kernel
example : (btreeOf demo (fun _ => []) demo.n 1).toTrees = [.node 1 [] [] [.node 3 [] [] []]] := by decide +kernel

end BinBridge
