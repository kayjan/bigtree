import BigtreeModel.Query
import BigtreeProofs.Lemmas.QueryAddr
import BigtreeProofs.Lemmas.QueryPre
import BigtreeProofs.Lemmas.QueryProps
import BigtreeProofs.Lemmas.QueryGoTo
import BigtreeProofs.Lemmas.QueryBinary
import BigtreeProofs.Lemmas.QueryDiameter
import BigtreeProofs.Lemmas.QueryExamples
/-!
# C12 — derived node queries agree with their definitions

A node is a root tree `R` plus an address `a` (child indices from the root).  Each query, written
the way the Python is written (`BigtreeModel/Query.lean`), equals its first-principles definition
on addresses, for every tree and every node.
-/

namespace C12
open Query

/-- `ancestors` = the proper prefixes of the address, nearest first. -/
theorem ancestors_eq (a : Addr) :
    ancestors a = (List.range a.length).reverse.map fun k => a.take k :=
  ancestors_eq_spec a

example : ancestors [0, 1, 0] = [[0, 1], [0], []] := by decide +kernel

/-- `descendants` = the pre-order of the node's subtree without the node itself
    (`subtreeLocs` starts with the node). -/
theorem descendants_eq (R : Tree) (a : Addr) : descendants R a = (subtreeLocs R a).tail :=
  descendants_eq_tail R a

example : descendants exTree [0] = [[0, 0], [0, 1], [0, 1, 0]] := by decide +kernel
example : subtreeLocs exTree [0] = [[0], [0, 0], [0, 1], [0, 1, 0]] := by decide +kernel

/-- `leaves` = the childless nodes of the subtree, in pre-order. -/
theorem leaves_eq (R : Tree) (a : Addr) :
    leaves R a = (subtreeLocs R a).filter fun b => (childrenOf R b).isEmpty := by
  rw [leaves, preorderFrom_eq]
  apply List.filter_congr
  intro b _
  rw [isLeaf]
  cases childrenOf R b <;> rfl

example : leaves exTree [] = [[0, 0], [0, 1, 0], [1]] := by decide +kernel

/-- `siblings` = the other children of the parent, in order; none at the root. -/
theorem siblings_eq (R : Tree) :
    siblings R [] = [] ∧
    ∀ (p : Addr) (t : Tree) (k : Nat), sub R p = some t →
      siblings R (p ++ [k]) =
        ((List.range t.children.length).filter fun j => j != k).map fun j => p ++ [j] :=
  ⟨rfl, fun p t k h => by
    simp only [siblings, parent_snoc, childrenOf_of_sub h, List.filter_map]
    congr 1
    apply List.filter_congr
    intro j _
    exact snoc_bne p j k⟩

example : sub exWide [] = some exWide ∧ siblings exWide [2] = [[0], [1], [3], [4]] := by decide +kernel

/-- `left_sibling` = the child just before the node in the parent's list (none for a first child
    and for the root). -/
theorem left_sibling_eq (R : Tree) :
    leftSibling R [] = none ∧
    ∀ (p : Addr) (t : Tree) (k : Nat), sub R p = some t → k < t.children.length →
      leftSibling R (p ++ [k]) = if k = 0 then none else some (p ++ [k - 1]) :=
  ⟨rfl, fun p t k h hk => by
    simp only [leftSibling, parent_snoc, childrenOf_idxOf h hk]
    cases k with
    | zero => rfl
    | succ k => exact childrenOf_getElem? h (Nat.lt_of_succ_lt hk)⟩

example : sub exTree [0] = some (.node 1 ['a'] [] [.node 2 ['c'] [] [], .node 3 ['d'] [] [.node 4 ['e'] [] []]])
    ∧ leftSibling exTree [0, 1] = some [0, 0] ∧ leftSibling exTree [0, 0] = none := by decide +kernel

/-- `right_sibling` = the child just after the node (none for a last child and for the root). -/
theorem right_sibling_eq (R : Tree) :
    rightSibling R [] = none ∧
    ∀ (p : Addr) (t : Tree) (k : Nat), sub R p = some t → k < t.children.length →
      rightSibling R (p ++ [k]) = if k + 1 < t.children.length then some (p ++ [k + 1]) else none :=
  ⟨rfl, fun p t k h hk => by
    simp only [rightSibling, parent_snoc, childrenOf_idxOf h hk, childrenOf_length h]
    split
    · next h1 => exact childrenOf_getElem? h h1
    · rfl⟩

example : rightSibling exTree [0, 0] = some [0, 1] ∧ rightSibling exTree [0, 1] = none := by decide +kernel

/-- `node_path` = all prefixes of the address, root first. -/
theorem node_path_eq (a : Addr) :
    nodePath a = (List.range (a.length + 1)).map fun k => a.take k :=
  nodePath_eq_spec a

example : nodePath [0, 1, 0] = [[], [0], [0, 1], [0, 1, 0]] := by decide +kernel

/-- `root` = the empty address. -/
theorem root_eq (a : Addr) : root a = [] := root_eq_nil a

example : root [0, 1, 0] = [] := by decide +kernel

/-- `is_root` holds exactly at the empty address, i.e. when there are no ancestors. -/
theorem is_root_iff (a : Addr) :
    (isRoot a = true ↔ a = []) ∧ (isRoot a = true ↔ ancestors a = []) := by
  have h : isRoot a = true ↔ a = [] := by rw [isRoot, Option.isNone_iff_eq_none, parent_eq_none]
  refine ⟨h, ?_⟩
  rw [h, ancestors_eq_spec, ← List.length_eq_zero_iff (l := ancestorsSpec a), length_ancestorsSpec]
  exact List.length_eq_zero_iff.symm

example : isRoot [] = true ∧ isRoot [1] = false := by decide +kernel

/-- `is_leaf` holds exactly when the node has no children; on a BinaryNode exactly when both
    slots are empty, which is the same as `is_leaf` of its generic view. -/
theorem is_leaf_iff :
    (∀ (R : Tree) (a : Addr) (t : Tree), sub R a = some t → (isLeaf R a = true ↔ t.children = [])) ∧
    (∀ i n at' l r, isLeafB (.node i n at' l r) = true ↔ l = .nil ∧ r = .nil) ∧
    (∀ (b : BTree) (t : Tree), b.toTrees = [t] → isLeafB b = t.children.isEmpty) := by
  refine ⟨?_, ?_, ?_⟩
  · intro R a t h
    rw [isLeaf, childrenOf_length h, beq_iff_eq, List.length_eq_zero_iff]
  · intro i n at' l r
    rw [isLeafB_node, List.isEmpty_iff, List.append_eq_nil_iff, toTrees_eq_nil_iff, toTrees_eq_nil_iff]
  · intro b t h
    obtain ⟨i, n, a, l, r, rfl, rfl⟩ := eq_node_of_toTrees h
    exact isLeafB_node i n a l r

example : isLeaf exTree [1] = true ∧ isLeaf exTree [0] = false
    ∧ isLeafB exBin = false ∧ isLeafB (.node 1 ['2'] [] .nil .nil) = true := by decide +kernel

/-- `depth` = length of the address + 1 = 1 + number of ancestors. -/
theorem depth_eq (a : Addr) : depth a = a.length + 1 ∧ depth a = 1 + (ancestors a).length := by
  rw [depth_eq_length, ancestors_eq_spec, length_ancestorsSpec]
  exact ⟨rfl, Nat.add_comm _ _⟩

example : depth [0, 1, 0] = 4 := by decide +kernel

/-- `max_depth` (of any node) = the height of the whole tree = the largest depth of a node of
    the tree. -/
theorem max_depth_eq (R : Tree) (a : Addr) :
    maxDepth R a = Iter.height R ∧
    (∀ b ∈ subtreeLocs R [], depth b ≤ maxDepth R a) ∧
    (∃ b ∈ subtreeLocs R [], depth b = maxDepth R a) := by
  rw [maxDepth_eq_height, subtreeLocs_of_sub (sub_nil R)]
  refine ⟨rfl, ?_, ?_⟩
  · intro b hb
    rcases List.mem_map.1 hb with ⟨x, hx, rfl⟩
    rw [List.nil_append, depth_eq_length]
    exact length_lt_height_of_sub x R ((mem_locs_iff R x).1 hx)
  · rcases exists_loc_height R with ⟨x, hx, he⟩
    exact ⟨[] ++ x, List.mem_map.2 ⟨x, hx, rfl⟩, by rw [List.nil_append, depth_eq_length, he]⟩

example : maxDepth exTree [1] = 4 := by decide +kernel

/-- `go_to` between two nodes of one tree = up from `a` to (excluding) the lowest common
    ancestor, then from it down to `b`. -/
theorem go_to_eq (R : Tree) (a b : Addr) :
    goTo ⟨R, a⟩ ⟨R, b⟩ = some
      (((List.range (a.length - lcpLen a b)).map fun i => a.take (a.length - i))
        ++ ((List.range (b.length - lcpLen a b + 1)).map fun i => b.take (lcpLen a b + i))) :=
  goTo_same_tree R a b

example : goTo ⟨exTree, [0, 0]⟩ ⟨exTree, [0, 1, 0]⟩ = some [[0, 0], [0], [0, 1], [0, 1, 0]] := by decide +kernel
example : goTo ⟨exTree, [0, 1, 0]⟩ ⟨exTree, [1]⟩ = some [[0, 1, 0], [0, 1], [0], [], [1]] := by decide +kernel

/-- the path of `go_to` starts at `a`, ends at `b`, repeats no node, every step is a
    parent/child link, and it has `dist a b` edges (that a tree has only one such path is not
    part of the statement). -/
theorem go_to_simple_path (R : Tree) (a b : Addr) :
    ∃ p, goTo ⟨R, a⟩ ⟨R, b⟩ = some p ∧
      p.head? = some a ∧ p.getLast? = some b ∧ p.Nodup ∧
      (∀ i (h : i + 1 < p.length), Linked (p[i]'(by omega)) p[i + 1]) ∧
      p.length = dist a b + 1 :=
  ⟨goToSpec a b, goTo_same_tree R a b, goToSpec_head a b, goToSpec_last a b, goToSpec_nodup a b,
    goToSpec_linked a b, length_goToSpec a b⟩

example : dist [0, 0] [0, 1, 0] = 3 := by decide +kernel

/-- nodes of different trees are refused. -/
theorem go_to_other_tree_rej (u v : Loc) (h : u.tree.id ≠ v.tree.id) : goTo u v = none := by
  rw [goTo, u.rootId_eq, v.rootId_eq, if_pos (by simpa using h)]

example : exTree.id ≠ exTree2.id ∧ goTo ⟨exTree, [0]⟩ ⟨exTree2, [0]⟩ = none := by decide +kernel

/-- `diameter` (the nonlocal-maximum recursion with `heapq.nlargest(2, …)`) = the maximum, over
    the nodes of the subtree, of the sum of the two largest child heights (`diamSpec`); the
    BinaryNode version that skips empty slots computes the same number as on the generic view.
    `top2Sum` (sum of the first two entries of the list sorted in descending order) is characterised
    independently of any sorting: adding an entry `x` to a list changes it to the larger of
    the old value and `x` + the list's maximum. -/
theorem diameter_eq :
    (∀ t : Tree, diameter t = diamSpec t) ∧
    (∀ (b : BTree) (t : Tree), b.toTrees = [t] → diameterB b = diamSpec t) ∧
    (top2Sum [] = 0 ∧ ∀ x l, top2Sum (x :: l) = max (top2Sum l) (x + lmax l)) :=
  ⟨diameter_eq_diamSpec, fun b t h => by
      obtain ⟨i, n, a, l, r, rfl, rfl⟩ := eq_node_of_toTrees h
      rw [← diameter_eq_diamSpec, diameterB, diameter, isLeafB_node, recDiamB_eq _ _ rfl, Tree.children_node],
    top2Sum_nil, top2Sum_cons⟩

example : diameter exWide = 5 ∧ diameter exTree = 4 ∧ diameterB exBin = 1 := by decide +kernel

/-- (Tier 2) `diameter` = the number of edges on the longest path inside the subtree: no two
    nodes of the subtree are further apart (`dist u v = |u| + |v| − 2·|common prefix|`, which is
    the number of edges of the `go_to` path, `go_to_simple_path`), and some pair is exactly that
    far apart.  Stated for a whole tree and for the subtree at any node `a` of `R`. -/
theorem diameter_longest_path :
    (∀ t : Tree, (∀ u ∈ locs t, ∀ v ∈ locs t, dist u v ≤ diameter t) ∧
      (∃ u ∈ locs t, ∃ v ∈ locs t, dist u v = diameter t)) ∧
    (∀ (R : Tree) (a : Addr) (t : Tree), sub R a = some t →
      (∀ u ∈ subtreeLocs R a, ∀ v ∈ subtreeLocs R a, dist u v ≤ diameterAt R a) ∧
      (∃ u ∈ subtreeLocs R a, ∃ v ∈ subtreeLocs R a, dist u v = diameterAt R a)) := by
  refine ⟨diameter_longest, ?_⟩
  intro R a t h
  simp only [diameterAt, h, subtreeLocs_of_sub h]
  constructor
  · intro u hu v hv
    rcases List.mem_map.1 hu with ⟨x, hx, rfl⟩
    rcases List.mem_map.1 hv with ⟨y, hy, rfl⟩
    rw [dist_append_left]
    exact (diameter_longest t).1 x hx y hy
  · rcases (diameter_longest t).2 with ⟨x, hx, y, hy, hd⟩
    exact ⟨a ++ x, List.mem_map.2 ⟨x, hx, rfl⟩, a ++ y, List.mem_map.2 ⟨y, hy, rfl⟩,
      by rw [dist_append_left, hd]⟩

example : sub exTree [0] = some (.node 1 ['a'] [] [.node 2 ['c'] [] [], .node 3 ['d'] [] [.node 4 ['e'] [] []]])
    ∧ diameterAt exTree [0] = 3 ∧ dist [0, 0] [0, 1, 0] = 3 := by decide +kernel

end C12
