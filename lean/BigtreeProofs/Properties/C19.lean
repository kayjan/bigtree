import BigtreeModel.Plot
import BigtreeProofs.Lemmas.Plot
import BigtreeProofs.Lemmas.PlotContourPass
import BigtreeProofs.Lemmas.PlotContourClass
/-!
# C19 — Reingold–Tilford coordinates form a tidy, non-overlapping drawing

`Plot.layoutS P t` is the model of `reingold_tilford(root, sib, sub, lvl, xoff, yoff)` over exact
rationals (`BigtreeModel/Plot.lean`) on a tree whose nodes carry the `shift` attributes recorded
in `t : ST` (left by earlier runs; 0 = none): first every shift is cleared (repair D9), then the
three passes run (`Plot.passes`). `Plot.layout P t` is the run on a fresh `Tree`. The theorems
are about that rational algorithm, for every tree, every entry state and **every** parameter value
(no positivity is needed except where stated).

What the code guarantees (the `_partial` set of the property, all proved here):
`rt_shape`, `rt_levels`, `rt_midpoint`, `rt_siblings`, `rt_nonneg`, and `rt_entry_independent`
(a run does not depend on what earlier runs left on the nodes, so every layout of a history
*layout, edit, layout, …* is the layout of the fresh tree of the current shape).
`rt_clear_needed` keeps the pre-D9 behaviour as a negative regression: without the clearing step
the sibling clause fails (lay out, append a fresh child, lay out again).
The remaining clause of the statement — any two nodes of one depth are at least
`min sibling_separation subtree_separation` apart in their left-to-right order — is kept as
`RT_full` and is **false** of the code (known finding K1): `rt_full_false`.
It is proved on the class `ChainExact` of trees on which every sibling-pair comparison of
`_get_subtree_shift` is exact (`rt_cousins_partial`, `rt_order_partial`; the class contains every tree
with at most three levels, `rt_cousins_depth3`, and every complete binary tree,
`rt_cousins_complete_binary`). The two conditions of the class name the two independent reasons why
the clause fails outside it: the K1 tree violates the *scaling* condition only (`k1_outside`), the
14-node tree `chainTree` violates the *walk* condition only (`chain_outside`, `chain_fails`).
-/

namespace C19
open Plot

/-! ### concrete trees for the non-vacuity examples and the witnesses -/

def nd (cs : List Tree) : Tree := .node 0 [] [] cs
def lf : Tree := nd []
/-- K1: `r(a, b(c, d(e)), f(g(h, i)))` -/
def k1Tree : Tree := nd [lf, nd [lf, nd [lf]], nd [nd [lf, lf]]]
/-- `root(A(a1,a2,a3), B(b1,b2,b3), C(c1,c2))`: the first run stores the shifts 0, 2, 4 on A, B, C -/
def abcTree : Tree := nd [nd [lf, lf, lf], nd [lf, lf, lf], nd [lf, lf]]
/-- all separations 1, no offsets -/
def unitP : Params := { sib := 1, sub := 1, lvl := 1, xoff := 0, yoff := 0 }
/-- sibling 1/2, subtree 3/2, level 2, offsets 5/2 and 7 -/
def oddP : Params := { sib := 1/2, sub := 3/2, lvl := 2, xoff := 5/2, yoff := 7 }
/-- `abcTree` after one run (all separations 1): carries the shifts 0, 2, 4 -/
def abcStored : ST := stored unitP (ST.ofTree abcTree)

example : abcStored.children.map ST.shift = [0, 2, 4] := by decide +kernel

/-- the layout is a drawing of the *same* tree: no node is lost or invented
    (so the statements below, which quantify over the nodes of the layout, speak about every node) -/
theorem rt_shape (P : Params) (t : ST) : (layoutS P t).sk = t.sk :=
  (passes_sk P t.clear).trans (clear_sk t)

example : (layout unitP k1Tree).subtrees.length = 10 := by decide +kernel

/-- **levels**: nodes of one depth share their `y`; consecutive depths
    differ by the level separation (the deeper level has the smaller `y`). -/
theorem rt_levels (P : Params) (t : ST) :
    ∀ a ∈ (layoutS P t).withDepth 1, ∀ b ∈ (layoutS P t).withDepth 1,
      (a.1 = b.1 → a.2.y = b.2.y) ∧ (b.1 = a.1 + 1 → a.2.y - b.2.y = P.lvl) := by
  intro a ha b hb
  rw [layoutS, passes_eq] at ha hb
  rw [fin_levels P _ _ _ _ _ a ha, fin_levels P _ _ _ _ _ b hb]
  refine ⟨fun h => by rw [h], fun h => ?_⟩
  rw [h, Rat.natCast_add]
  exact rat_level_step _ _ _ _

-- non-vacuity: four depths occur, with several nodes on each of the lower three
example : ((layout oddP k1Tree).withDepth 1).map (fun p => (p.1, p.2.y)) =
    [(1, 13), (2, 11), (2, 11), (3, 9), (3, 9), (4, 7), (2, 11), (3, 9), (4, 7), (4, 7)] := by
  decide +kernel

/-- **mid-point**: every parent's `x` is the mid-point of its first and last child. -/
theorem rt_midpoint (P : Params) (t : ST) :
    ∀ s ∈ (layoutS P t).subtrees, ∀ f l, s.children.head? = some f → s.children.getLast? = some l →
      s.x = (f.x + l.x) / 2 := by
  rw [layoutS, passes_eq]
  exact fin_midpoint P _ _ _ (firstPass_good P _) _ _

-- non-vacuity: the root of the K1 drawing has three children, first at 0, last at 3, itself at 3/2
example : (layout unitP k1Tree).x = 3/2 ∧ (layout unitP k1Tree).children.map FT.x = [0, 3/2, 3] := by
  decide +kernel
-- non-vacuity on a non-fresh tree: after detaching A the first child B carries a stored shift 2; the
-- re-layout clears it and puts B, C at 1, 7/2 and the root at their mid-point 9/4
example : (layoutS unitP (abcStored.detach [] 0)).x = 9/4 ∧
    (layoutS unitP (abcStored.detach [] 0)).children.map FT.x = [1, 7/2] := by
  decide +kernel

/-- **siblings**: consecutive children are at least the sibling separation apart, in
    left-to-right order (strictly increasing `x` when the separation is positive). -/
theorem rt_siblings (P : Params) (t : ST) :
    ∀ s ∈ (layoutS P t).subtrees, ∀ (i : Nat) (h : i + 1 < s.children.length),
      s.children[i].x + P.sib ≤ s.children[i + 1].x ∧
      (0 < P.sib → s.children[i].x < s.children[i + 1].x) := by
  intro s hs i h
  rw [layoutS, passes_eq] at hs
  have hc := fin_siblings P _ _ _ (firstPass_good P _)
    (firstPass_q bumpClosed_mono P _ (clear_mono t)) _ _ s hs
  have := chain_get _ hc i (by rwa [List.length_map])
  rw [List.getElem_map, List.getElem_map] at this
  exact ⟨this, fun hp => rat_lt_of_add_le hp this⟩

-- non-vacuity: a sibling group of four under non-unit separations
example : (layout oddP (nd [nd [lf, lf], lf, nd [lf, lf, lf], lf])).children.map FT.x
    = [11/4, 31/8, 5, 49/8] := by
  decide +kernel
-- … and on a non-fresh tree (D9 witness): lay out, append a fresh child D, lay out again ⇒ D right of C
example : (layoutS unitP (ST.insertLast [] (ST.ofTree lf) abcStored)).children.map FT.x = [1, 4, 7, 10] := by
  decide +kernel

/-- **non-negativity** (whatever the offsets): no `x` coordinate is negative. -/
theorem rt_nonneg (P : Params) (t : ST) : ∀ s ∈ (layoutS P t).subtrees, 0 ≤ s.x := by
  rw [layoutS, passes_eq]
  refine nonneg_of_mid _ (fin_midpoint P _ _ _ (firstPass_good P _) _ _) fun s hs hleaf => ?_
  have := fin_leaves P _ _ _ _ _ s hs hleaf
  rwa [Rat.sub_add_cancel] at this

-- non-vacuity: a tree whose second pass produces negative x (leftmost leaf under a shifted parent)
-- and a negative offset; after the third pass the minimum is exactly 0
example : (layout { unitP with xoff := -3 } k1Tree).subtrees.map FT.x
    = [3/2, 0, 3/2, 1, 2, 2, 3, 3, 5/2, 7/2] := by
  decide +kernel

/-- **entry independence**: the drawing depends on the shape only, not on the `shift` attributes
    earlier runs left on the nodes — every layout in a history is the layout of the fresh tree. -/
theorem rt_entry_independent (P : Params) (t t' : ST) (h : t.sk = t'.sk) : layoutS P t = layoutS P t' := by
  simp only [layoutS, clear_eq_of_sk, h]

-- non-vacuity: `abcStored` carries the shifts 0, 2, 4 and has the shape of the fresh `abcTree`
example : layoutS unitP abcStored = layout unitP abcTree :=
  rt_entry_independent unitP _ _ (by rw [abcStored, stored_sk])

/-- Negative regression for repair D9: WITHOUT the clearing step (`passes` alone) the sibling clause
    is false — lay out `root(A(3), B(3), C(2))` (stored shifts 0, 2, 4), append a fresh child `D`
    (`Node("D", parent=root)`) and run the passes again: `D` lands at x = 4, left of `C` at x = 7
    (the new node's `x` is computed from its left sibling's preliminary `x`, which does not
    contain that sibling's stored shift). -/
theorem rt_clear_needed :
    ¬ ∀ (P : Params) (t : ST), 0 < P.sib → ∀ s ∈ (passes P t).subtrees,
        ∀ (i : Nat) (h : i + 1 < s.children.length), s.children[i].x + P.sib ≤ s.children[i + 1].x := by
  intro h
  have := h unitP (ST.insertLast [] (ST.ofTree lf) abcStored) (by decide +kernel) _ (self_mem_subtrees _) 2
    (by rw [passes_children_length]; decide +kernel)
  revert this
  decide +kernel

example : (passes unitP (ST.insertLast [] (ST.ofTree lf) abcStored)).children.map FT.x = [1, 4, 7, 4] := by
  decide +kernel

/-- The remaining clause of C19 (cousin separation): any two nodes of one depth are at least
    `min sibling_separation subtree_separation` apart in their left-to-right tree order.
    NOT proved — it is false of the code (K1), see `rt_full_false`. What is missing in the code:
    `_get_subtree_shift` compares only the last-child chain of the left subtree with the
    first-child chain of the right subtree (after the two sibling scans), not the full contours
    (witness: `chain_fails` below); and, independently, for `left_idx > 0` it accumulates the shift of a
    level after dividing it by `1 - left_idx/right_idx`, so deeper levels are compared against a right
    subtree assumed further right than it will be (this is why the K1 tree fails: `k1_outside`).
    Proved on the class that excludes both: `rt_cousins_partial`. -/
def RT_full : Prop :=
  ∀ (P : Params) (t : Tree), 0 < P.sib → 0 < P.sub → 0 < P.lvl → 0 ≤ P.xoff → 0 ≤ P.yoff →
    ∀ d : Nat, ((layout P t).level d).Pairwise (fun a b => a.x + min P.sib P.sub ≤ b.x)

-- the witness: on depth 4 the drawing has e, h, i at 2, 5/2, 7/2
example : ((layout unitP k1Tree).level 4).map FT.x = [2, 5/2, 7/2] := by decide +kernel

/-- **K1**: the full statement is false of the pinned algorithm — on the 10-node tree
    `r(a, b(c, d(e)), f(g(h, i)))` with all separations 1 the cousins `e` and `h` are 1/2 apart. -/
theorem rt_full_false : ¬ RT_full := by
  intro h
  have := h unitP k1Tree (by decide +kernel) (by decide +kernel) (by decide +kernel)
    (by decide +kernel) (by decide +kernel) 4
  revert this
  decide +kernel

/-! ### the cousin clause on the class where the sibling-pair comparison is exact

`ST.ChainExact t` (`BigtreeModel/Plot.lean`, decidable, a condition on the shape only): in every sibling
group `c₀ … c_k`

* for every `j ≥ 1` the walk of `_get_subtree_shift` down the right side of `c₀` (last child; if that is
  a leaf, its nearest left sibling with children; last child; …) and the walk down the left side of
  `c_j` both reach at least `min (height c₀) (height c_j)` levels — so the walked nodes are the true
  contours on every level the two subtrees share;
* for `0 < i < j` one of `c_i`, `c_j` has at most two levels, so that only one level is compared (from
  the second compared level on `_get_subtree_shift` under-estimates the need for `left_idx > 0`,
  because it accumulates the shift already divided by `1 - left_idx/right_idx`).

Both separations must be non-negative (positive for the strict order); no order between them is needed
(the bound is their minimum). -/

/-- **cousins (partial)**: on a tree of the class, any two nodes of one depth are at least
    `min sibling_separation subtree_separation` apart, in their left-to-right tree order — for every
    entry state and every pair of non-negative separations (the harness only generates positive ones). -/
theorem rt_cousins_partial (P : Params) (t : ST) (hsib : 0 ≤ P.sib) (hsub : 0 ≤ P.sub) (h : t.ChainExact) :
    ∀ d : Nat, ((layoutS P t).level d).Pairwise (fun a b => a.x + min P.sib P.sub ≤ b.x) :=
  passes_level_sorted P (Std.le_min_iff.mpr ⟨hsib, hsub⟩) Std.min_le_left Std.min_le_right t.clear
    ((clear_sk t).symm ▸ h) (clear_mono t)

/-- the form of `RT_full`, restricted to the class -/
theorem rt_cousins_partial_fresh (P : Params) (t : Tree) (hsib : 0 ≤ P.sib) (hsub : 0 ≤ P.sub)
    (h : ChainExact t) :
    ∀ d : Nat, ((layout P t).level d).Pairwise (fun a b => a.x + min P.sib P.sub ≤ b.x) :=
  rt_cousins_partial P (ST.ofTree t) hsib hsub h

/-- **order (partial)**: on a tree of the class the nodes of one depth have strictly increasing `x`
    in their left-to-right tree order. -/
theorem rt_order_partial (P : Params) (t : ST) (hsib : 0 < P.sib) (hsub : 0 < P.sub) (h : t.ChainExact) :
    ∀ d : Nat, ((layoutS P t).level d).Pairwise (fun a b => a.x < b.x) := by
  have hm : 0 < min P.sib P.sub := by
    rw [Rat.min_def]
    split
    · exact hsib
    · exact hsub
  exact fun d => (rt_cousins_partial P t (Rat.le_of_lt hsib) (Rat.le_of_lt hsub) h d).imp
    (rat_lt_of_add_le hm)

/-- a tree of the class with five levels and fan-out three:
    `r(A(l, l, u(l, v(l, l, l))), B(w(z(l, l), l, l)), l)` -/
def deepTree : Tree :=
  nd [nd [lf, lf, nd [lf, nd [lf, lf, lf]]], nd [nd [nd [lf, lf], lf, lf]], lf]

-- non-vacuity: the hypothesis holds of a tree with five levels, fan-out 3 and two deep facing subtrees,
-- under unequal separations in both orders; the fifth level has five nodes from two different subtrees
-- (exactly `subtree_separation` apart where the subtrees meet)
example : ChainExact deepTree := by decide +kernel
example : ((ST.ofTree deepTree).sk.height, (layout oddP deepTree).subtrees.length) = (5, 18) := by
  decide +kernel
example : ((layout oddP deepTree).level 5).map FT.x = [13/4, 15/4, 17/4, 23/4, 25/4] := by decide +kernel
example : ((layout { oddP with sib := 3/2, sub := 1/2 } deepTree).level 5).map FT.x
    = [19/4, 25/4, 31/4, 33/4, 39/4] := by decide +kernel
-- … and of a non-fresh tree (stored shifts 0, 2, 4 on the children of the root)
example : abcStored.ChainExact := by decide +kernel

/-- **K1 is outside the class, by the scaling condition only**: in `r(a, b(c, d(e)), f(g(h, i)))` the
    facing walks of every pair of children of the root are exact (`b → d → e` and `f → g → h` reach the
    full height), but the pair `(b, f)` has indices `(1, 2)` and two levels to compare. -/
theorem k1_outside : ¬ ChainExact k1Tree ∧
    Sk.pairExact (ST.ofTree lf).sk (ST.ofTree (nd [lf, nd [lf]])).sk = true ∧
    Sk.pairExact (ST.ofTree lf).sk (ST.ofTree (nd [nd [lf, lf]])).sk = true ∧
    Sk.pairExact (ST.ofTree (nd [lf, nd [lf]])).sk (ST.ofTree (nd [nd [lf, lf]])).sk = true ∧
    Sk.shallow (ST.ofTree (nd [lf, nd [lf]])).sk (ST.ofTree (nd [nd [lf, lf]])).sk = false := by
  decide +kernel

/-- `r(L(A(a(z)), B(b)), R(C(c(w₁, w₂, w₃, w₄))))`: the root has two children (no scaling anywhere), but
    the right walk of `L` ends at `b` on the third level although `z` is on the fourth -/
def chainTree : Tree :=
  nd [nd [nd [nd [lf]], nd [lf]], nd [nd [nd [lf, lf, lf, lf]]]]

/-- `chainTree` is outside the class, and the walk condition fails for the pair `(L, R)`: the right walk
    of `L` has three levels, the common height is four. (That the scaling condition holds is not part of
    the statement: the one sibling group with more than two members consists of leaves.) -/
theorem chain_outside : ¬ ChainExact chainTree ∧
    Sk.pairExact (ST.ofTree (nd [nd [nd [lf]], nd [lf]])).sk (ST.ofTree (nd [nd [nd [lf, lf, lf, lf]]])).sk = false ∧
    (ST.ofTree (nd [nd [nd [lf]], nd [lf]])).sk.rwalk = 3 ∧ (ST.ofTree (nd [nd [nd [lf]], nd [lf]])).sk.height = 4 := by
  decide +kernel

/-- … and the cousin clause does fail on it: `z` is at 0 and `w₁` at 1/2 under unit separations
    (a second witness of `rt_full_false`, with the other cause) -/
theorem chain_fails :
    ¬ ((layout unitP chainTree).level 5).Pairwise (fun a b => a.x + min unitP.sib unitP.sub ≤ b.x) := by
  decide +kernel

example : ((layout unitP chainTree).level 5).map FT.x = [0, 1/2, 3/2, 5/2, 7/2] := by decide +kernel

/-- **at most three levels**: every tree with at most three levels is in the class, so the cousin
    clause holds for it. -/
theorem rt_cousins_depth3 (P : Params) (t : ST) (hsib : 0 ≤ P.sib) (hsub : 0 ≤ P.sub)
    (h3 : t.sk.height ≤ 3) :
    ∀ d : Nat, ((layoutS P t).level d).Pairwise (fun a b => a.x + min P.sib P.sub ≤ b.x) :=
  rt_cousins_partial P t hsib hsub (Sk.exact_of_height_le t.sk h3)

-- non-vacuity: three levels, fan-out 4, cousins from four subtrees on the third level
example : (ST.ofTree (nd [nd [lf, lf], lf, nd [lf, lf, lf], nd [lf]])).sk.height = 3 := by decide +kernel
example : ((layout oddP (nd [nd [lf, lf], lf, nd [lf, lf, lf], nd [lf]])).level 3).map FT.x
    = [5/2, 3, 25/4, 27/4, 29/4, 35/4] := by decide +kernel

/-- **complete binary trees** of every height are in the class. -/
theorem rt_cousins_complete_binary (P : Params) (n : Nat) (hsib : 0 ≤ P.sib) (hsub : 0 ≤ P.sub) :
    ∀ d : Nat, ((layoutS P (Sk.toST (Sk.full 2 n))).level d).Pairwise
      (fun a b => a.x + min P.sib P.sub ≤ b.x) :=
  rt_cousins_partial P _ hsib hsub (by unfold ST.ChainExact; rw [Sk.sk_toST]; exact Sk.full2_exact n)

example : ((layoutS oddP (Sk.toST (Sk.full 2 3))).level 4).map FT.x
    = [5/2, 3, 9/2, 5, 13/2, 7, 17/2, 9] := by decide +kernel

-- complete ternary trees: three levels are inside the class, four levels are outside (pairs (1, 2) with
-- two compared levels) although the algorithm happens to place them correctly — the class is sufficient,
-- not necessary
example : (Sk.toST (Sk.full 3 2)).ChainExact := by decide +kernel
example : ¬ (Sk.toST (Sk.full 3 3)).ChainExact := by decide +kernel
example : ∀ d ∈ [1, 2, 3, 4, 5], ((layoutS unitP (Sk.toST (Sk.full 3 3))).level d).Pairwise
    (fun a b => a.x + min unitP.sib unitP.sub ≤ b.x) := by decide +kernel

end C19
