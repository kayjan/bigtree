import BigtreeModel.Search
import BigtreeProofs.Lemmas.Search
import BigtreeProofs.Lemmas.SearchPaths
import BigtreeProofs.Lemmas.SearchChecks
import BigtreeProofs.Lemmas.SearchFullPath
import BigtreeProofs.Lemmas.QueryIterBridge
import BigtreeProofs.Lemmas.QueryExamples
/-!
# C09 — search returns exactly the nodes that satisfy the query

`R` is the searched tree, `a` the address of the start node, `sep` the tree's separator.
`searched R a md` is the list of nodes of the subtree at `a` whose depth is within `md`
(`md = 0`: no limit), in pre-order; every search function, written the way the Python is written
(`BigtreeModel/Search.lean`), is proved equal to its specification for all inputs.
`Store.Free sp x` (`x` shares no character with `sp`) is defined in `Lemmas/Strings.lean`.
-/

namespace C09
open Query Search

/-- `findall` = the nodes of the searched subtree (within `max_depth`) that satisfy the
    condition, in pre-order — or `SearchError` when the count contract is violated. -/
theorem findall_eq (R : Tree) (a : Addr) (cond : Addr → Bool) (md mn mx : Nat) :
    findall R a cond md mn mx =
      if (mn ≠ 0 ∧ ((searched R a md).filter cond).length < mn)
          ∨ (mx ≠ 0 ∧ ((searched R a md).filter cond).length > mx)
      then .error .search else .ok ((searched R a md).filter cond) := by
  unfold findall
  simp only [preorderFrom_eq_searched, checkResultCount_eq]
  by_cases h : (mn ≠ 0 ∧ ((searched R a md).filter cond).length < mn)
      ∨ (mx ≠ 0 ∧ ((searched R a md).filter cond).length > mx)
  · rw [if_pos h, if_pos h]
  · rw [if_neg h, if_neg h]

example : findall exNamed [] (nameIs exNamed ['a', 'b']) 0 0 0 = .ok [[0], [2, 0]] := by decide +kernel
example : findall exNamed [] (nameIs exNamed ['a', 'b']) 2 0 0 = .ok [[0]] := by decide +kernel
example : findall exNamed [] (nameIs exNamed ['a', 'b']) 0 3 0 = .error .search := by decide +kernel

/-- the count contract: `SearchError` exactly when `min_count` or `max_count` (non-zero) is
    violated by the number of matches; no other failure. -/
theorem findall_count_contract (R : Tree) (a : Addr) (cond : Addr → Bool) (md mn mx : Nat) :
    (findall R a cond md mn mx = .error .search ↔
      (mn ≠ 0 ∧ ((searched R a md).filter cond).length < mn)
        ∨ (mx ≠ 0 ∧ ((searched R a md).filter cond).length > mx)) ∧
    (∀ e, findall R a cond md mn mx = .error e → e = .search) := by
  rw [findall_eq]
  split
  · next hc => exact ⟨⟨fun _ => hc, fun _ => rfl⟩, fun e h => (Except.error.inj h).symm ▸ rfl⟩
  · next hc => exact ⟨⟨nofun, fun h => absurd h hc⟩, nofun⟩

example : findall exNamed [] (fun _ => true) 0 0 3 = .error .search := by decide +kernel

/-- each match once: the result has no repetition, and its members are exactly the existing
    nodes at or below the start node, within the depth limit, that satisfy the condition. -/
theorem findall_nodup (R : Tree) (a : Addr) (cond : Addr → Bool) (md mn mx : Nat) (l : List Addr)
    (h : findall R a cond md mn mx = .ok l) :
    l.Nodup ∧ ∀ x, x ∈ l ↔
      (∃ y, x = a ++ y) ∧ (sub R x).isSome ∧ (md = 0 ∨ depth x ≤ md) ∧ cond x = true := by
  rw [findall_eq] at h
  split at h
  · cases h
  · simp only [Except.ok.injEq] at h
    subst h
    refine ⟨List.Sublist.nodup List.filter_sublist
      (List.Sublist.nodup List.filter_sublist (subtreeLocs_nodup R a)), ?_⟩
    intro x
    simp only [searched, List.mem_filter, mem_subtreeLocs_iff, depth_eq_length, Bool.or_eq_true,
      beq_iff_eq, decide_eq_true_eq]
    constructor
    · rintro ⟨⟨⟨y, rfl, hs⟩, hd⟩, hc⟩; exact ⟨⟨y, rfl⟩, hs, hd, hc⟩
    · rintro ⟨⟨y, rfl⟩, hs, hd, hc⟩; exact ⟨⟨⟨y, rfl, hs⟩, hd⟩, hc⟩

example : ∃ l, findall exNamed [0] (fun _ => true) 0 0 0 = .ok l ∧ l = [[0], [0, 0]] := ⟨_, by decide +kernel, rfl⟩

/-- `find`: the node when exactly one matches, `None` when none does, `SearchError` when
    several do. -/
theorem find_eq (R : Tree) (a : Addr) (cond : Addr → Bool) (md : Nat) :
    find R a cond md =
      match (searched R a md).filter cond with
      | [] => .ok none
      | [x] => .ok (some x)
      | _ :: _ :: _ => .error .search := by
  unfold find
  rw [findall_eq]
  rcases (searched R a md).filter cond with _ | ⟨x, _ | ⟨y, ys⟩⟩ <;> simp

example : find exNamed [] (nameIs exNamed ['b', 'a']) 0 = .ok (some [2]) := by decide +kernel
example : find exNamed [] (nameIs exNamed ['c']) 0 = .ok none := by decide +kernel
example : find exNamed [] (nameIs exNamed ['b']) 0 = .error .search := by decide +kernel

/-- `find_names` / `find_name`: the instance for "the node's name equals `name`". -/
theorem find_names_eq (R : Tree) (a : Addr) (name : Str) (md : Nat) :
    findNames R a name md = .ok ((searched R a md).filter fun b => nameAt R b == some name) ∧
    findName R a name md =
      match (searched R a md).filter fun b => nameAt R b == some name with
      | [] => .ok none
      | [x] => .ok (some x)
      | _ :: _ :: _ => .error .search := by
  constructor
  · rw [findNames, findall_eq, if_neg not_count_zero]; rfl
  · exact find_eq R a _ md

example : findNames exNamed [] ['b'] 0 = .ok [[0, 0], [1]] := by decide +kernel

/-- `find_attrs` / `find_attr`: the instance for "attribute `k` (default `None`) `==` `v`". -/
theorem find_attrs_eq (R : Tree) (a : Addr) (k : Str) (v : Val) (md : Nat) :
    findAttrs R a k v md =
      .ok ((searched R a md).filter fun b => pyEq (((attrsAt R b).lookup k).getD .null) v) ∧
    findAttr R a k v md =
      match (searched R a md).filter fun b => pyEq (((attrsAt R b).lookup k).getD .null) v with
      | [] => .ok none
      | [x] => .ok (some x)
      | _ :: _ :: _ => .error .search := by
  constructor
  · rw [findAttrs, findall_eq, if_neg not_count_zero]; rfl
  · exact find_eq R a _ md

example : findAttrs exNamed [] ['k'] (.int 1) 0 = .ok [[], [0, 0], [2, 0]] := by decide +kernel
example : findAttrs exNamed [] ['k'] .null 0 = .ok [[0], [2]] := by decide +kernel

/-- `find_paths` / `find_path`: the instance for "the node's `path_name`
    (= `sep + sep.join(names from the root)`) ends with the query stripped of trailing separator
    characters" — a *string* suffix; no depth limit. -/
theorem find_paths_eq (R : Tree) (sep : Str) (a : Addr) (q : Str) :
    findPaths R sep a q =
      .ok ((subtreeLocs R a).filter fun b =>
        (rstrip sep q).isSuffixOf (sep ++ join sep (pathNames R b))) ∧
    findPath R sep a q =
      match (subtreeLocs R a).filter fun b =>
        (rstrip sep q).isSuffixOf (sep ++ join sep (pathNames R b)) with
      | [] => .ok none
      | [x] => .ok (some x)
      | _ :: _ :: _ => .error .search := by
  have hs : searched R a 0 = subtreeLocs R a := List.filter_eq_self.2 fun _ _ => rfl
  have hp : pathEndsWith R sep q = fun b => (rstrip sep q).isSuffixOf (sep ++ join sep (pathNames R b)) :=
    funext fun b => by rw [pathEndsWith, endsWith, pathName_eq]
  constructor
  · rw [findPaths, findall_eq, if_neg not_count_zero, hs, hp]
  · rw [findPath, find_eq, hs, hp]

-- "b" is a string suffix of ".../ab" as well
example : findPaths exNamed ['/'] [] ['b'] = .ok [[0], [0, 0], [1], [2, 0]] := by decide +kernel
example : findPaths exNamed ['/'] [] ['/', 'b', '/'] = .ok [[0, 0], [1]] := by decide +kernel
example : findPath exNamed ['/'] [] ['a', '/', 'b'] = .ok (some [1]) := by decide +kernel

/-- `find_children`: exactly the children of the start node (the existing addresses `a ++ [k]`)
    that satisfy the condition, in order, with the count contract. -/
theorem find_children_eq (R : Tree) (a : Addr) (cond : Addr → Bool) (mn mx : Nat) :
    findChildren R a cond mn mx =
      (if (mn ≠ 0 ∧ ((childrenOf R a).filter cond).length < mn)
          ∨ (mx ≠ 0 ∧ ((childrenOf R a).filter cond).length > mx)
      then .error .search else .ok ((childrenOf R a).filter cond)) ∧
    (∀ x, x ∈ childrenOf R a ↔ ∃ k, x = a ++ [k] ∧ (sub R x).isSome) ∧
    (childrenOf R a).Nodup :=
  ⟨findChildren_eq_spec R a cond mn mx, mem_childrenOf_iff R a, childrenOf_nodup R a⟩

example : findChildren exNamed [] (fun b => b != [1]) 0 0 = .ok [[0], [2]] := by decide +kernel
example : findChildren exNamed [] (fun _ => true) 0 2 = .error .search := by decide +kernel

/-- on a BinaryNode, `find_children` looks at the two slots and skips the empty ones: it returns
    the matching children of the generic view. -/
theorem find_children_binary_eq (cond : Nat → Bool) (i : Nat) (n : Str) (at' : Attrs) (l r : BTree) :
    (findChildrenB cond (.node i n at' l r)).flatMap BTree.toTrees =
      (l.toTrees ++ r.toTrees).filter fun c => cond c.id := by
  -- each slot contributes its tree exactly when it is occupied and the condition holds
  have slot : ∀ b : BTree,
      ([b].filter fun c => match c with | .nil => false | .node i _ _ _ _ => cond i).flatMap BTree.toTrees
        = b.toTrees.filter fun c => cond c.id := by
    intro b
    cases b with
    | nil => rfl
    | node j m a x y => cases h : cond j <;> simp [BTree.toTrees, h]
  have := congr (congrArg HAppend.hAppend (slot l)) (slot r)
  rwa [← List.flatMap_append, ← List.filter_append, ← List.filter_append] at this

example : (findChildrenB (fun _ => true) exBinNamed).map (fun b => b.toTrees.map Tree.id) = [[1]] := by
  decide +kernel

/-- `find_full_path` finds a node iff the full path exists: with a one-character separator that
    occurs in no name and sibling-unique names, the result is the node `v` exactly when `v` exists
    and the names from the root to `v`, joined by the separator, are the query without its
    leading / trailing separators. -/
theorem find_full_path_iff (R : Tree) (s : Char) (a : Addr) (q : Str)
    (hsep : ∀ (x : Addr) (t : Tree), sub R x = some t → s ∉ t.name) (hu : SibUnique R) (v : Addr) :
    findFullPath R [s] a q = .ok (some v) ↔
      (sub R v).isSome ∧ join [s] (pathNames R v) = lstrip [s] (rstrip [s] q) :=
  findFullPath_iff s a q hsep hu v

example : (∀ (x : Addr) (t : Tree), sub exNamed x = some t → '/' ∉ t.name) ∧ SibUnique exNamed :=
  ⟨noSep_of_check '/' exNamed (by decide), sibUnique_of_check exNamed (by decide)⟩
example : findFullPath exNamed ['/'] [1] ['/', 'a', '/', 'b', 'a', '/', 'a', 'b', '/'] = .ok (some [2, 0]) := by decide +kernel
example : findFullPath exNamed ['/'] [] ['a', '/', 'b', '/', 'b'] = .ok none := by decide +kernel
example : findFullPath exNamed ['/'] [] ['b'] = .error .value := by decide +kernel

/-- looking up a node's own `path_name` from anywhere in the tree finds that node (non-empty,
    separator-free, sibling-unique names). -/
theorem find_full_path_path_name (R : Tree) (s : Char) (a v : Addr)
    (hsep : ∀ (x : Addr) (t : Tree), sub R x = some t → s ∉ t.name)
    (hne : ∀ (x : Addr) (t : Tree), sub R x = some t → t.name ≠ [])
    (hu : SibUnique R) (hv : (sub R v).isSome) :
    findFullPath R [s] a (pathName R [s] v) = .ok (some v) :=
  findFullPath_pathName s a v hsep hne hu hv

example : (∀ (x : Addr) (t : Tree), sub exNamed x = some t → t.name ≠ []) :=
  fun x t h => by
    have := allSub_sub (fun t => !t.name.isEmpty) x exNamed t (by decide) h
    intro e; simp [e] at this
example : pathName exNamed ['/'] [2, 0] = ['/', 'a', '/', 'b', 'a', '/', 'a', 'b'] := by decide +kernel

/-- `find_full_path_iff` for EVERY non-empty separator (`"::"`, `"->"`, ...): the names share no character with
    the separator (`Store.Free`; for a one-character separator this is `s ∉ name`, `Store.free_singleton`).  Python's
    `lstrip` / `rstrip` take the separator as a character SET, which is what the model does. -/
theorem find_full_path_iff_multi (R : Tree) (sp : Str) (hsp : sp ≠ []) (a : Addr) (q : Str)
    (hfree : ∀ (x : Addr) (t : Tree), sub R x = some t → Store.Free sp t.name) (hu : SibUnique R) (v : Addr) :
    findFullPath R sp a q = .ok (some v) ↔
      (sub R v).isSome ∧ join sp (pathNames R v) = lstrip sp (rstrip sp q) :=
  findFullPath_iff_multi sp hsp a q hfree hu v

/-- looking up a node's own `path_name` from anywhere in the tree finds that node, for every non-empty separator,
    also with any run of separator characters in front of / behind the path. -/
theorem find_full_path_path_name_multi (R : Tree) (sp : Str) (hsp : sp ≠ []) (a v : Addr) (lead trail : Str)
    (hl : ∀ x ∈ lead, x ∈ sp) (ht : ∀ x ∈ trail, x ∈ sp)
    (hfree : ∀ (x : Addr) (t : Tree), sub R x = some t → Store.Free sp t.name)
    (hne : ∀ (x : Addr) (t : Tree), sub R x = some t → t.name ≠ [])
    (hu : SibUnique R) (hv : (sub R v).isSome) :
    findFullPath R sp a (lead ++ pathName R sp v ++ trail) = .ok (some v) :=
  findFullPath_pathName_multi sp hsp a v lead trail hl ht hfree hne hu hv

/-- `join (split x) = x` for every string and every non-empty separator: what `find_paths` / `find_full_path` cut a
    query into is the query -/
theorem join_split_multi (sp : Str) (hsp : sp ≠ []) (x : Str) : join sp (split sp x) = x :=
  Search.join_split_multi sp hsp x

example : (∀ (x : Addr) (t : Tree), sub exNamed x = some t → Store.Free [':', ':'] t.name) :=
  fun x t h => by
    have := allSub_sub (fun t => t.name.all fun c => !([':', ':'] : Str).contains c) x exNamed t (by decide) h
    intro c hc hm
    simpa [hm] using List.all_eq_true.1 this c hc
example : findFullPath exNamed [':', ':'] [1] [':', ':', 'a', ':', ':', 'b', 'a', ':', ':', 'a', 'b', ':'] = .ok (some [2, 0]) := by decide +kernel
example : findFullPath exNamed [':', ':'] [] (pathName exNamed [':', ':'] [0, 0]) = .ok (some [0, 0]) := by decide +kernel
-- just outside the hypothesis (a name that ENDS in a separator character) the character-set strip eats it: K7's shape
example : findFullPath (.node 0 ['r'] [] [.node 1 ['a', ':'] [] []]) [':', ':'] []
    (pathName (.node 0 ['r'] [] [.node 1 ['a', ':'] [] []]) [':', ':'] [0]) = .ok none := by decide +kernel

/-- `find_relative_paths`: the accumulator-style `resolve` computes exactly what the path
    denotes (`resolveSpec`: `.` stay, `..` parent or error at the root, `*` all children in
    order, a name that child, a missing name an error unless the query has a wildcard); the
    public function adds the count contract. -/
theorem relative_eq_spec (R : Tree) (wild : Bool) (cs : List Str) (a : Addr) (acc : List Addr) :
    resolve R wild cs a acc = (resolveSpec R wild cs a).map (acc ++ ·) := by
  induction cs generalizing a acc with
  | nil => rfl
  | cons c cs ih =>
    rw [resolve, resolveSpec]
    by_cases h1 : (c == ['.']) = true
    · rw [if_pos h1, if_pos h1]; exact ih a acc
    rw [if_neg h1, if_neg h1]
    by_cases h2 : (c == ['.', '.']) = true
    · rw [if_pos h2, if_pos h2]
      cases parent a with
      | none => rfl
      | some p => exact ih p acc
    rw [if_neg h2, if_neg h2]
    by_cases h3 : (c == ['*']) = true
    · rw [if_pos h3, if_pos h3]
      exact foldlM_acc_eq (fun ch acc' => resolve R wild cs ch acc') (resolveSpec R wild cs) ih
        (childrenOf R a) acc
    rw [if_neg h3, if_neg h3, findChildByName_eq]
    rcases childrenNamed R a c with _ | ⟨x, _ | ⟨y, ys⟩⟩
    · cases wild
      · rfl
      · simp [Except.map]
    · exact ih x acc
    · rfl

example : findRelativePaths exNamed ['/'] [0, 0] ['.', '.', '/', '.', '.', '/', '*'] 0 0
    = .ok [[0], [1], [2]] := by decide +kernel
example : findRelativePaths exNamed ['/'] [0] ['.', '.', '/', '.', '.'] 0 0 = .error .search := by decide +kernel
example : findRelativePaths exNamed ['/'] [] ['*', '/', 'a', 'b'] 0 0 = .ok [[2, 0]] := by decide +kernel
example : findRelativePaths exNamed ['/'] [] ['c'] 0 0 = .error .search := by decide +kernel

/-- the public `find_relative_paths` (query not starting with the separator): strip, split,
    denotation of the components from the start node, then the count contract. -/
theorem relative_paths_eq (R : Tree) (sep : Str) (a : Addr) (q : Str) (mn mx : Nat)
    (hrel : startsWith q sep = false) :
    findRelativePaths R sep a q mn mx =
      match resolveSpec R ((lstrip sep (rstrip sep q)).contains '*')
          (split sep (lstrip sep (rstrip sep q))) a with
      | .error e => .error e
      | .ok l =>
        if (mn ≠ 0 ∧ l.length < mn) ∨ (mx ≠ 0 ∧ l.length > mx) then .error .search else .ok l := by
  unfold findRelativePaths
  simp only [hrel, Bool.false_eq_true, ↓reduceIte, relative_eq_spec]
  cases resolveSpec R ((lstrip sep (rstrip sep q)).contains '*')
      (split sep (lstrip sep (rstrip sep q))) a with
  | error e => rfl
  | ok l =>
    simp only [Except.map, List.nil_append, checkResultCount_eq]
    by_cases h : (mn ≠ 0 ∧ l.length < mn) ∨ (mx ≠ 0 ∧ l.length > mx)
    · rw [if_pos h, if_pos h]
    · rw [if_neg h, if_neg h]

example : startsWith ['*', '/', '.', '.'] ['/'] = false
    ∧ findRelativePaths exNamed ['/'] [] ['*', '/', '.', '.'] 0 2 = .error .search
    ∧ findRelativePaths exNamed ['/'] [] ['*', '/', '.', '.'] 3 3 = .ok [[], [], []] := by decide +kernel

/-- the located pre-order behind `findall`, `descendants`, `leaves` is C04's model of
    `preorder_iter` (no stop condition): same node identities in the same order, whenever the
    condition is a function of the node's identity. -/
theorem preorder_is_iter_preorder (R : Tree) (filt : Addr → Bool) (f : Nat → Bool) (md : Nat)
    (hf : ∀ (b : Addr) (s : Tree), sub R b = some s → filt b = f s.id)
    (t : Tree) (a : Addr) (h : sub R a = some t) :
    (preorderFrom R filt md a).map (idAt R) =
      (Iter.preImpl ⟨f, fun _ => false, md⟩ (a.length + 1) t).map fun s => some s.id := by
  simp only [preorderFrom, h]
  exact preAt_ids R filt f md hf t a h

example : (preorderFrom exNamed (fun _ => true) 2 []).map (idAt exNamed) = [some 0, some 1, some 3, some 4] := by
  decide +kernel

end C09
