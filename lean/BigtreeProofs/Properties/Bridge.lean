import BigtreeModel.Store
import BigtreeModel.Bridge
import BigtreeModel.Iter
import BigtreeModel.Query
import BigtreeProofs.Lemmas.BridgeAddr
import BigtreeProofs.Lemmas.BridgeStep
import BigtreeProofs.Lemmas.BridgeTransfer
import BigtreeProofs.Lemmas.StorePathD
import BigtreeProofs.Lemmas.StoreAssert
import BigtreeProofs.Properties.C02
import BigtreeProofs.Properties.C04
import BigtreeProofs.Properties.C12
/-!
# Bridge — model A (pointer store, histories of structural calls) refines model B (rose trees)

`Store.treeOf s fuel v` (`BigtreeModel/Bridge.lean`) reads a node back the way every read-only
function of bigtree does: identity, name, then `.children` recursively.  `Store.forest s` is the list
of the read-backs of the parentless nodes.  Every ACCEPTED call of the structural API is, read back, the
documented edit of the forest (`Forest.apply`), a REJECTED one changes nothing (`extend`, the documented
loop, moves the members before the first refused one), so theorems about model B hold for every state
reachable in model A.  Everything is stated for all stores / histories / arguments; no size bound.

`Iter.Cfg.all`, the traversal configuration of the transfer statements (no filter, no stop condition,
no depth limit), is defined in `Lemmas/BridgeTransfer.lean`.
-/

namespace Bridge
open Store

/-! ### a concrete history for the non-vacuity examples -/

def demoCfg : Cfg := { assertions := true, node := false }
/-- 0 gets the children 1,2,3; 3 moves below 1; 4 is appended to 3; a refused loop; 5 stays alone -/
def demoOps : List Op :=
  [.setChildren 0 [1, 2, 3] .none, .setParent 3 (some 1) .none, .append 3 4 .none, .setParent 0 (some 4) .none]
def demo : Store := run demoCfg (init 6 (fun i => [Char.ofNat (97 + i)]) ['/']) demoOps
theorem demo_wf : WF demo := Store.wf_run (Store.wf_init _ _ _) demoCfg rfl _

private def leaf (i : Nat) : Tree := .node i [Char.ofNat (97 + i)] [] []
private def nd (i : Nat) (cs : List Tree) : Tree := .node i [Char.ofNat (97 + i)] [] cs

example : forest demo = [nd 0 [nd 1 [nd 3 [leaf 4]], leaf 2], leaf 5] := by decide +kernel

/-! ## 1. fuel -/

/-- acyclicity ⇒ the read-back terminates: every fuel `≥ n` gives the same tree -/
theorem treeOf_fuel (s : Store) (hw : WF s) (v f g : Nat) (hf : s.n ≤ f) (hg : s.n ≤ g) :
    treeOf s f v = treeOf s g v :=
  Store.treeOf_fuel hw v f g hf hg

/-- … and that tree is the fixed point of "read the node, then read its children" -/
theorem treeOf_unfold (s : Store) (hw : WF s) (v f : Nat) (hf : s.n ≤ f) :
    treeOf s f v = .node v (s.name v) [] ((s.children v).map (treeOf s f)) :=
  Store.treeOf_unfold hw v f hf

example : treeOf demo 6 0 = treeOf demo 100 0 := treeOf_fuel demo demo_wf 0 6 100 (by decide +kernel) (by decide +kernel)
-- too little fuel does cut the tree: the hypothesis `n ≤ fuel` is not idle
example : treeOf demo 2 0 ≠ treeOf demo 6 0 := by decide +kernel

/-! ## 2. identities -/

/-- the identities of the read-back of `r` are pairwise distinct and are exactly `r` and the nodes
whose parent walk (`Store.anc`, the executable `ancestors`) meets `r` -/
theorem treeOf_ids (s : Store) (hw : WF s) (f : Nat) (hf : s.n ≤ f) (r : Nat) :
    (Iter.pre (treeOf s f r)).Nodup ∧
    (∀ x, x ∈ Iter.pre (treeOf s f r) ↔ Reach s r x) ∧
    (∀ x, x ∈ Iter.pre (treeOf s f r) ↔ (x = r ∨ r ∈ anc s s.n x)) := by
  refine ⟨nodup_pre_treeOf hw f hf r, mem_pre_treeOf hw f hf r, fun x => ?_⟩
  rw [mem_pre_treeOf hw f hf r, reach_iff, Store.anc_complete hw]
  exact or_congr eq_comm Iff.rfl

example : Iter.pre (treeOf demo 6 1) = [1, 3, 4] := by decide +kernel

/-- the trees of the forest partition the node set: together they list every id `< n` exactly once,
and every node lies in exactly one tree, the one of its root -/
theorem forest_partition (s : Store) (hw : WF s) :
    (Iter.preL (forest s)).Perm (List.range s.n) ∧
    ∀ x, x < s.n →
      rootOf s s.n x ∈ roots s ∧ x ∈ Iter.pre (treeOf s s.n (rootOf s s.n x)) ∧
      ∀ r, r ∈ roots s → x ∈ Iter.pre (treeOf s s.n r) → r = rootOf s s.n x := by
  constructor
  · rw [List.perm_ext_iff_of_nodup (nodup_preL_forest hw) List.nodup_range]
    intro x
    rw [mem_preL_forest hw, List.mem_range]
  · intro x hx
    have hr := rootOf_mem_roots hw hx
    exact ⟨hr, (mem_pre_root hw hr x).2 ⟨hx, rfl⟩, fun r hr' hm => ((mem_pre_root hw hr' x).1 hm).2.symm⟩

example : Iter.preL (forest demo) = [0, 1, 3, 4, 2, 5] ∧ roots demo = [0, 5] := by decide +kernel

/-! ## 3. links of the store = links of the tree

A node of a tree is named, as everywhere in model B, by its address (`Query.Addr`: the child indices
from the root). -/

/-- what sits at an address of the read-back of `r` is the read-back of the node found there, a
descendant of `r`, as many levels below `r` as the address is long -/
theorem treeOf_sub (s : Store) (hw : WF s) (f : Nat) (hf : s.n ≤ f) (r : Nat) (a : Query.Addr) (u : Tree)
    (h : Query.sub (treeOf s f r) a = some u) :
    u = treeOf s f u.id ∧ Reach s r u.id ∧ (anc s s.n u.id).length = (anc s s.n r).length + a.length :=
  Store.sub_treeOf hw f hf a r u h

/-- the child list of the store is the list of the identities of the node's children in the tree, in order -/
theorem treeOf_children (s : Store) (hw : WF s) (f : Nat) (hf : s.n ≤ f) (r : Nat) (a : Query.Addr) (u : Tree)
    (h : Query.sub (treeOf s f r) a = some u) : u.children.map Tree.id = s.children u.id := by
  rw [(Store.sub_treeOf hw f hf a r u h).1, Store.treeOf_children hw _ f hf, List.map_map, treeOf_id]
  exact (List.map_congr_left fun c _ => treeOf_id s f c).trans (List.map_id _)

/-- the parent link of the store is the parent in the tree: the node at address `a ++ [k]` has the
node at `a` as its parent and is entry number `k` of its child list; conversely every parent/child
link below `r` is a pair of addresses `a`, `a ++ [k]` -/
theorem treeOf_parent (s : Store) (hw : WF s) (f : Nat) (hf : s.n ≤ f) (r : Nat) :
    (∀ (a : Query.Addr) (k : Nat) (u : Tree), Query.sub (treeOf s f r) (a ++ [k]) = some u →
      ∃ w, Query.sub (treeOf s f r) a = some w ∧ s.parent u.id = some w.id ∧ (s.children w.id)[k]? = some u.id) ∧
    (∀ x p, Reach s r p → s.parent x = some p →
      ∃ a k, Query.idAt (treeOf s f r) a = some p ∧ Query.idAt (treeOf s f r) (a ++ [k]) = some x ∧
        (s.children p)[k]? = some x) := by
  refine ⟨fun a k u h => ?_, fun x p hr hp => ?_⟩
  · rw [Query.sub_snoc, Option.bind_eq_some_iff] at h
    obtain ⟨w, hw', hk⟩ := h
    have hk' : (s.children w.id)[k]? = some u.id := by
      rw [← treeOf_children s hw f hf r a w hw', List.getElem?_map, hk]
      rfl
    exact ⟨w, hw', hw.down _ _ (List.mem_of_getElem? hk'), hk'⟩
  · obtain ⟨a, ha⟩ := addr_of_reach hw f hf hr
    obtain ⟨k, hk⟩ := List.getElem?_of_mem (hw.up x p hp)
    exact ⟨a, k, idAt_treeOf ha, idAt_treeOf (child_at hw f hf r a p k x ha hk), hk⟩

/-- every descendant of `r` has exactly one address in the read-back of `r` -/
theorem treeOf_addr (s : Store) (hw : WF s) (f : Nat) (hf : s.n ≤ f) (r x : Nat) (h : Reach s r x) :
    ∃ a, Query.sub (treeOf s f r) a = some (treeOf s f x) ∧
      ∀ b, Query.idAt (treeOf s f r) b = some x → b = a := by
  obtain ⟨a, ha⟩ := addr_of_reach hw f hf h
  refine ⟨a, ha, fun b hb => ?_⟩
  rw [Query.idAt, Option.map_eq_some_iff] at hb
  obtain ⟨w, hs, hid⟩ := hb
  exact addr_unique hw f hf b a r w _ hs ha (by rw [hid, treeOf_id])

example : Query.idAt (treeOf demo 6 0) [0, 0, 0] = some 4 ∧ demo.parent 4 = some 3 ∧
    Query.idAt (treeOf demo 6 0) [0, 0] = some 3 := by decide +kernel

/-! ## 4. the step refinement -/

/-- accepted `v.parent = p`: `v`'s subtree is taken out of wherever it is and becomes the LAST child
of `p` — as lists, the trees in the order of their roots -/
theorem setParent_some_refines (c : Cfg) (hc : c.assertions = true) (s : Store) (hw : WF s) (v p : Nat)
    (f : Fault) (h : (step c s (.setParent v (some p) f)).2 = .ok) :
    forest (step c s (.setParent v (some p) f)).1 = Forest.move (forest s) v p := by
  refine of_guard (P := fun r => forest r.1 = Forest.move (forest s) v p) h fun hv h => ?_
  obtain ⟨he, hp⟩ := setParent_accepted hw c hc v (some p) f h
  rw [he]
  exact forest_reparent_some hw v p hv (hp p rfl).1 (hp p rfl).2

example : (step demoCfg demo (.setParent 1 (some 5) .none)).2 = .ok ∧
    Forest.move (forest demo) 1 5 = [nd 0 [leaf 2], nd 5 [nd 1 [nd 3 [leaf 4]]]] := by decide +kernel

/-- accepted `v.parent = None`: the detached node becomes a root — the roots are the old ones and
`v`; every read-back is the old one with `v`'s subtree removed, `v`'s own subtree is unchanged; as a
forest (up to the order of the trees): `Forest.toRoot`. Holds with the checks off too: neither check
can refuse `None`. -/
theorem setParent_none_refines (c : Cfg) (s : Store) (hw : WF s) (v : Nat)
    (f : Fault) (h : (step c s (.setParent v none f)).2 = .ok) :
    let s' := (step c s (.setParent v none f)).1
    (∀ r, r ∈ roots s' ↔ r = v ∨ r ∈ roots s) ∧
    (∀ x, treeOf s' s'.n x = Tree.detach v (treeOf s s.n x)) ∧
    treeOf s' s'.n v = treeOf s s.n v ∧
    (forest s').Perm (Forest.toRoot (forest s) v) := by
  obtain ⟨hv, e⟩ : v < s.n ∧ step c s (.setParent v none f) = setParent c s v none f := ok_guard h
  rw [e] at h ⊢
  rw [(setParent_ok_eq c v none f h).1]
  exact ⟨fun r => mem_roots_reparent_none v hv r,
    fun x => (detach_treeOf hw v hv s.n (Nat.le_refl _) x).symm,
    treeOf_reparent_none_self hw v hv s.n (Nat.le_refl _),
    forest_reparent_none hw v hv⟩

example : (step demoCfg demo (.setParent 3 none .none)).2 = .ok ∧
    Forest.toRoot (forest demo) 3 = [nd 3 [leaf 4], nd 0 [leaf 1, leaf 2], leaf 5] := by decide +kernel

/-- accepted `v.children = cs`: the old children of `v` become roots, then the members of `cs`, each
detached from where it was, become `v`'s children in the given order (up to the order of the trees) -/
theorem setChildren_refines (c : Cfg) (hc : c.assertions = true) (s : Store) (hw : WF s) (v : Nat)
    (cs : List Nat) (f : Fault) (h : (step c s (.setChildren v cs f)).2 = .ok) :
    (forest (step c s (.setChildren v cs f)).1).Perm (Forest.setChildren (forest s) v cs) :=
  forest_step hw c hc (.setChildren v cs f) h (forest s) (List.Perm.refl _)

-- 1 gets the children 4 (stolen from 3, a descendant of 1's old child) and 2 (stolen from 0); 3 becomes a root
example : (step demoCfg demo (.setChildren 1 [4, 2] .none)).2 = .ok ∧
    Forest.setChildren (forest demo) 1 [4, 2] = [leaf 3, nd 0 [nd 1 [leaf 4, leaf 2]], leaf 5] := by decide +kernel

/-- `del v.children`: every child subtree of `v` becomes a tree of its own (up to the order of the trees) -/
theorem delChildren_refines (s : Store) (hw : WF s) (v : Nat) (hv : v < s.n) :
    (forest (delChildren s v)).Perm (Forest.delChildren (forest s) v) := by
  rw [delChildren_eq hw]
  exact forest_detached hw v hv

example : Forest.delChildren (forest demo) 0 = [nd 1 [nd 3 [leaf 4]], leaf 2, leaf 0, leaf 5] := by decide +kernel

/-- `v.sort(key, reverse)`: the child list of `v` is stably sorted, nothing else moves — as lists -/
theorem sort_refines (s : Store) (hw : WF s) (v : Nat) (ranks : List Nat) (rev : Bool) :
    forest (Store.sortChildren s v ranks rev) = Forest.sortChildren (forest s) v ranks rev :=
  forest_sortChildren hw v ranks rev

example : Forest.sortChildren (forest demo) 0 [0, 7, 3] false = [nd 0 [leaf 2, nd 1 [nd 3 [leaf 4]]], leaf 5] := by
  decide +kernel

/-- every accepted call of the API (parent setter incl. `None`, children setter and deleter, `append`,
`extend`, `>>`, `<<`, `del node[name]`, `sort`, `sep` setter) is, read back, its documented forest
edit `Forest.apply`, up to the order of the trees -/
theorem step_refines (c : Cfg) (hc : c.assertions = true) (s : Store) (hw : WF s) (op : Op)
    (h : (step c s op).2 = .ok) :
    (forest (step c s op).1).Perm (Forest.apply (forest s) op) :=
  forest_step hw c hc op h (forest s) (List.Perm.refl _)

example : (step demoCfg demo (.extend 5 [2, 3] .none 0)).2 = .ok ∧
    Forest.apply (forest demo) (.extend 5 [2, 3] .none 0) = [nd 0 [leaf 1], nd 5 [leaf 2, nd 3 [leaf 4]]] := by decide +kernel
example : (step demoCfg demo (.delItem 0 ['c'] .none)).2 = .ok ∧
    Forest.apply (forest demo) (.delItem 0 ['c'] .none) = [leaf 2, nd 0 [nd 1 [nd 3 [leaf 4]]], leaf 5] := by decide +kernel

/-- a rejected call (any cause; `extend`, the documented loop, excepted) leaves the forest as it was -/
theorem step_rej_forest (c : Cfg) (hc : c.assertions = true) (s : Store) (hw : WF s) (op : Op)
    (hne : ∀ p cs f k, op ≠ .extend p cs f k) (h : (step c s op).2 = .rej) :
    forest (step c s op).1 = forest s := by
  rw [C02.step_rej_id c hc s hw op hne h]

example : (step demoCfg demo (.setParent 0 (some 4) .none)).2 = .rej := by decide +kernel
example : (step demoCfg demo (.setChildren 5 [2, 1] .post)).2 = .rej := by decide +kernel

/-- no `extend` of the history is rejected half-way -/
def NoRejExtend (c : Cfg) : Store → List Op → Prop
  | _, [] => True
  | s, op :: ops =>
    ((step c s op).2 = .rej → ∀ p cs f k, op ≠ .extend p cs f k) ∧ NoRejExtend c (step c s op).1 ops

/-- whole histories: the forest of the final store is obtained from the initial forest by replaying
the documented forest edits of the accepted calls (`Forest.replay`), up to the order of the trees -/
theorem run_refines (c : Cfg) (hc : c.assertions = true) : ∀ (ops : List Op) (s : Store), WF s →
    NoRejExtend c s ops → ∀ G : Forest, (forest s).Perm G →
    (forest (run c s ops)).Perm (Forest.replay G (ops.zip (outcomes c s ops))) := by
  intro ops
  induction ops with
  | nil => intro s _ _ G hG; exact hG
  | cons op ops ih =>
    intro s hw hx G hG
    have hw1 := Store.wf_step hw c hc op
    show (forest (run c (step c s op).1 ops)).Perm
      (Forest.replay G ((op, (step c s op).2) :: ops.zip (outcomes c (step c s op).1 ops)))
    cases ho : (step c s op).2 with
    | ok => exact ih _ hw1 hx.2 _ (forest_step hw c hc op ho G hG)
    | rej =>
      refine ih _ hw1 hx.2 G ?_
      rw [step_rej_forest c hc s hw op (hx.1 ho) ho]
      exact hG

example : NoRejExtend demoCfg (init 6 (fun i => [Char.ofNat (97 + i)]) ['/']) demoOps := by
  simp only [NoRejExtend, demoOps]
  refine ⟨?_, ?_, ?_, ?_, trivial⟩ <;> (intro _ p cs f k e; cases e)
example : Forest.replay (forest (init 6 (fun i => [Char.ofNat (97 + i)]) ['/']))
    (demoOps.zip (outcomes demoCfg (init 6 (fun i => [Char.ofNat (97 + i)]) ['/']) demoOps))
    = [nd 0 [nd 1 [nd 3 [leaf 4]], leaf 2], leaf 5] := by decide +kernel

/-- `p.extend(cs)`, accepted or not: exactly the members before the first refused one have been moved
below `p`, each as the last child, in order (all members when the call is accepted) -/
theorem extend_refines_prefix (c : Cfg) (hc : c.assertions = true) (s : Store) (hw : WF s) (p : Nat)
    (cs : List Nat) (f : Fault) (k : Nat) :
    ∃ j, j ≤ cs.length ∧ ((step c s (.extend p cs f k)).2 = .ok → j = cs.length) ∧
      (forest (step c s (.extend p cs f k)).1).Perm ((cs.take j).foldl (fun G c => Forest.move G c p) (forest s)) := by
  by_cases hp : p < s.n
  · have e : step c s (.extend p cs f k) = extend c s p cs f k := if_pos hp
    rw [e]
    exact forest_extend_prefix hc p cs s f k hw (forest s) (List.Perm.refl _)
  · have e : step c s (.extend p cs f k) = (s, .rej) := if_neg hp
    rw [e]
    exact ⟨0, Nat.zero_le _, fun h => Outcome.noConfusion h, List.Perm.refl _⟩

-- the second member is a non-node: the first one has been moved, the call fails
example : (step demoCfg demo (.extend 5 [2, 9, 3] .none 0)).2 = .rej ∧
    (forest (step demoCfg demo (.extend 5 [2, 9, 3] .none 0)).1)
      = ([2, 9, 3].take 1).foldl (fun G c => Forest.move G c 5) (forest demo) := by decide +kernel

/-- histories in which every call is accepted: the final forest is the fold of the documented edits -/
theorem run_refines_allok (c : Cfg) (hc : c.assertions = true) : ∀ (ops : List Op) (s : Store), WF s →
    AllOk c s ops → ∀ G : Forest, (forest s).Perm G →
    (forest (run c s ops)).Perm (ops.foldl Forest.apply G) := by
  intro ops
  induction ops with
  | nil => intro s _ _ G hG; exact hG
  | cons op ops ih =>
    intro s hw h G hG
    exact ih _ (Store.wf_step hw c hc op) h.2 _ (forest_step hw c hc op h.1 G hG)

/-- … also with bigtree's `ASSERTIONS` switched off (C20's domain: histories every call of which the
checks would accept) -/
theorem run_refines_unchecked (nd : Bool) (ops : List Op) (s : Store) (hw : WF s)
    (h : AllOk (onCfg nd) s ops) :
    (forest (run (offCfg nd) s ops)).Perm (ops.foldl Forest.apply (forest s)) := by
  rw [run_off_same nd ops s h]
  exact run_refines_allok (onCfg nd) rfl ops s hw h _ (List.Perm.refl _)

example : AllOk (onCfg false) (init 6 (fun i => [Char.ofNat (97 + i)]) ['/']) (demoOps.take 3) := by
  simp only [AllOk, demoOps, List.take]
  decide +kernel

/-! ## 5. transfer: theorems about rose trees hold in every reachable state -/

/-- the statement of `preorder_transfer` for any well-formed store, reachable or not -/
theorem preorder_of_wf (s : Store) (hw : WF s) (r : Nat) (hr : s.parent r = none) :
    let L := (Iter.preImpl Iter.Cfg.all 1 (treeOf s s.n r)).map Tree.id
    L = Iter.pre (treeOf s s.n r) ∧ L.Nodup ∧ L.head? = some r ∧
    (∀ x, x ∈ L ↔ Reach s r x) ∧
    (∀ x p, x ∈ L → s.parent x = some p → ∃ l1 l2 l3, L = l1 ++ p :: (l2 ++ x :: l3)) := by
  intro L
  have hL : L = Iter.pre (treeOf s s.n r) := by
    show (Iter.preImpl Iter.Cfg.all 1 (treeOf s s.n r)).map Tree.id = _
    rw [C04.preorder_eq, Iter.gateL_all]
    exact (List.filter_eq_self.2 fun _ _ => rfl).trans (List.append_nil _)
  refine ⟨hL, ?_, ?_, ?_, ?_⟩
  · rw [hL]; exact nodup_pre_treeOf hw s.n (Nat.le_refl _) r
  · rw [hL, Tree.pre_eq, treeOf_id]; rfl
  · intro x; rw [hL]; exact mem_pre_treeOf hw s.n (Nat.le_refl _) r x
  · intro x p hx hp
    rw [hL] at hx ⊢
    have hrx := (mem_pre_treeOf hw s.n (Nat.le_refl _) r x).1 hx
    have hrp : Reach s r p := by
      cases hrx with
      | refl => rw [hr] at hp; cases hp
      | step h1 h2 => rw [hp] at h2; cases h2; exact h1
    exact pre_parent_before hw s.n (Nat.le_refl _) hrp hp

/-- C04 in every reachable state.  For every history from freshly built nodes and every root `r` of the
final store, the real-shaped pre-order iterator (`Iter.preImpl`, no filter / stop / depth limit) run on
the read-back of `r` lists `r` and all its descendants, each exactly once, `r` first, and every node
after its parent. -/
theorem preorder_transfer (c : Cfg) (hc : c.assertions = true) (n : Nat) (names : Nat → Str) (sep : Str)
    (ops : List Op) :
    let s := run c (init n names sep) ops
    ∀ r, s.parent r = none →
      let L := (Iter.preImpl Iter.Cfg.all 1 (treeOf s s.n r)).map Tree.id
      L = Iter.pre (treeOf s s.n r) ∧ L.Nodup ∧ L.head? = some r ∧
      (∀ x, x ∈ L ↔ Reach s r x) ∧
      (∀ x p, x ∈ L → s.parent x = some p → ∃ l1 l2 l3, L = l1 ++ p :: (l2 ++ x :: l3)) := by
  intro s r hr
  exact preorder_of_wf s (Store.wf_run (Store.wf_init n names sep) c hc ops) r hr

example : (Iter.preImpl Iter.Cfg.all 1 (treeOf demo demo.n 0)).map Tree.id = [0, 1, 3, 4, 2] := by decide +kernel

/-- C12 / C03 / C01 meet.  In every well-formed store, for every root `r`: the `depth` of a located node
of the read-back tree (C12's `Query.depth`, the recursive property as written) equals the `depth` computed
on the store (C03's `Store.depth`), which is 1 + the length of the executable ancestor walk (C01's
`Store.anc`); and every node below `r` is such a located node. -/
theorem depth_transfer (s : Store) (hw : WF s) (r : Nat) (hr : s.parent r = none) :
    (∀ (a : Query.Addr) (u : Tree), Query.sub (treeOf s s.n r) a = some u →
      Query.depth a = Store.depth s u.id ∧ Query.depth a = 1 + (anc s s.n u.id).length) ∧
    (∀ x, Reach s r x → ∃ a, Query.idAt (treeOf s s.n r) a = some x ∧ Query.depth a = Store.depth s x) := by
  have key : ∀ (a : Query.Addr) (u : Tree), Query.sub (treeOf s s.n r) a = some u →
      Query.depth a = Store.depth s u.id ∧ Query.depth a = 1 + (anc s s.n u.id).length := by
    intro a u h
    obtain ⟨_, _, h3⟩ := Store.sub_treeOf hw s.n (Nat.le_refl _) a r u h
    rw [anc_root s s.n r hr] at h3
    have hd : Store.depth s u.id = (anc s s.n u.id).length + 1 := depthAux_eq s s.n u.id
    rw [(C12.depth_eq a).1, hd, h3, List.length_nil, Nat.zero_add]
    exact ⟨rfl, Nat.add_comm _ _⟩
  refine ⟨key, ?_⟩
  intro x hx
  obtain ⟨a, ha⟩ := addr_of_reach hw s.n (Nat.le_refl _) hx
  refine ⟨a, idAt_treeOf ha, ?_⟩
  have := (key a _ ha).1
  rwa [treeOf_id] at this

/-- the same for every reachable state -/
theorem depth_transfer_run (c : Cfg) (hc : c.assertions = true) (n : Nat) (names : Nat → Str) (sep : Str)
    (ops : List Op) :
    let s := run c (init n names sep) ops
    ∀ r, s.parent r = none → ∀ x, Reach s r x →
      ∃ a, Query.idAt (treeOf s s.n r) a = some x ∧ Query.depth a = 1 + (anc s s.n x).length := by
  intro s r hr x hx
  have hw : WF s := Store.wf_run (Store.wf_init n names sep) c hc ops
  obtain ⟨a, ha, hd⟩ := (depth_transfer s hw r hr).2 x hx
  refine ⟨a, ha, ?_⟩
  rw [hd]
  exact (depthAux_eq s s.n x).trans (Nat.add_comm _ _)

example : Query.idAt (treeOf demo demo.n 0) [0, 0, 0] = some 4 ∧ Query.depth [0, 0, 0] = 4 ∧
    Store.depth demo 4 = 4 ∧ anc demo demo.n 4 = [3, 1, 0] := by decide +kernel

end Bridge
