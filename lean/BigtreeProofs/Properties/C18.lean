import BigtreeModel.Render
import BigtreeModel.RenderStyles
import BigtreeProofs.Lemmas.RenderV
import BigtreeProofs.Lemmas.RenderRT4
import BigtreeProofs.Lemmas.RenderMermaid
import BigtreeProofs.Lemmas.RenderH
import BigtreeProofs.Lemmas.RenderHNodes
import BigtreeProofs.Lemmas.RenderHInj
import BigtreeProofs.Lemmas.RenderDot
import BigtreeProofs.Lemmas.RenderDot2
/-!
# C18 — text and graph renderings encode the tree faithfully

Model: `BigtreeModel/Render.lean` (tied to /repo by the correspondence check `harness/props/C18.py`). The statements
are written in its terms, but for `childRows` of `h_parent_in_span`, which is defined in `Lemmas/RenderH.lean`.
-/
open Render

namespace C18

/-- a small tree used by the non-vacuity examples: a(b(d, e(g)), c) -/
private def exT : Tree :=
  .node 0 ['a'] [] [.node 1 ['b'] [] [.node 2 ['d'] [] [], .node 3 ['e'] [] [.node 4 ['g'] [] []]], .node 5 ['c'] [] []]
/-- the generated "ansi" horizontal style -/
private def exH : HStyle := ⟨'/', '+', '+', '+', '\\', '|', '-'⟩
/-- the generated "ansi" style -/
private def exSt : Style := ⟨"|   ".toList, "|-- ".toList, "`-- ".toList⟩

/-! ## vertical rendering (`yield_tree` / `print_tree`) -/

/-- The loop of `yield_tree` with its `unclosed_depth` book-keeping computes exactly the structural
specification `specRoot` of the (max_depth-pruned) tree: one line per node in pre-order; a non-root
line is `stems ++ connector ++ name` where the connector is `branch` iff the node has a right sibling
(else `stem_final`) and column `j` of the indentation is a stem iff the ancestor at depth `j+1` has a
right sibling (else a gap). Holds for every style (no side condition). -/
theorem vertical_lines (st : Style) (md : Nat) (t : Tree) :
    yieldTree st md t = specRoot st (prune md t) :=
  yieldTree_eq_spec st md t

example : (yieldTree exSt 0 exT).map Line.text =
    ["a", "|-- b", "|   |-- d", "|   `-- e", "|       `-- g", "`-- c"].map String.toList := by decide +kernel

/-- one line per node, in pre-order -/
theorem vertical_preorder (st : Style) (md : Nat) (t : Tree) :
    (yieldTree st md t).map Line.name = namesT (prune md t) := by
  rw [vertical_lines, specRoot_names]

example : (yieldTree exSt 3 exT).map Line.name = ["a", "b", "d", "e", "c"].map String.toList := by decide +kernel

/-- indentation = depth × glyph length, for every style whose three glyphs have equal length -/
theorem vertical_indent (st : Style) (md : Nat) (t : Tree) (h : st.lengthsOk = true) :
    (yieldTree st md t).map (fun l => (l.pre ++ l.fill).length) =
      (depthsT 0 (prune md t)).map (· * st.stem.length) := by
  rw [vertical_lines, specRoot_indent st h]

example : exSt.lengthsOk = true ∧ depthsT 0 (prune 0 exT) = [0, 1, 2, 2, 3, 1] := by decide +kernel

/-- `str_to_tree ∘ print_tree = id`: reading the printed lines back with the connector glyphs as
prefix list rebuilds the (pruned) tree — fresh nodes, hence ids/attributes erased — for every style
meeting `styleOk` and names meeting `nameOk` (no leading blank / glyph character, no connector
inside), sibling names distinct (what `Node` enforces). -/
theorem print_roundtrip (st : Style) (md : Nat) (t : Tree) (hst : styleOk st = true)
    (hnames : ∀ n ∈ namesT t, nameOk st n = true) (hsib : sibDistinct t = true) :
    strToTreeLines [st.branch, st.stemFinal] ((yieldTree st md t).map Line.text) =
      some (erase (prune md t)) :=
  strToTree_yieldTree hst _ md t (fun anc hr n hn => nodeName_line hst anc hr (hnames n hn)) hnames hsib

example : ("ansi", exSt) ∈ builtinStyles ∧ styleOk exSt = true ∧ (∀ n ∈ namesT exT, nameOk exSt n = true) ∧
    sibDistinct exT = true ∧ erase (prune 0 exT) ≠ .node 0 ['a'] [] [] := by decide +kernel

/-- the same on the text level, as `str_to_tree` is called: `"\n".join(lines)` is stripped of
surrounding line breaks, split at line breaks and parsed — provided neither the glyphs nor the names
contain a line break -/
theorem print_roundtrip_text (st : Style) (md : Nat) (t : Tree) (hst : styleOk st = true)
    (hnl : '\n' ∉ st.stem ++ st.branch ++ st.stemFinal)
    (hnames : ∀ n ∈ namesT t, nameOk st n = true ∧ '\n' ∉ n) (hsib : sibDistinct t = true) :
    strToTree [st.branch, st.stemFinal] (joinNl ((yieldTree st md t).map Line.text)) =
      some (erase (prune md t)) := by
  obtain ⟨hne, hlines⟩ := yieldTree_lines_ok st md t hnl hnames
  rw [strToTree_joinNl _ _ hne hlines]
  exact print_roundtrip st md t hst (fun n hn => (hnames n hn).1) hsib

example : '\n' ∉ exSt.stem ++ exSt.branch ++ exSt.stemFinal ∧ (∀ n ∈ namesT exT, nameOk exSt n = true ∧ '\n' ∉ n) ∧
    joinNl ((yieldTree exSt 2 exT).map Line.text) = "a\n|-- b\n`-- c".toList := by decide +kernel

/-- `str_to_tree(text)` WITHOUT a prefix list (names are found by dropping every non-ASCII character)
reads the tree back as well, for styles whose glyph characters are all non-ASCII or blank and
names that are pure ASCII -/
theorem print_roundtrip_noprefix (st : Style) (md : Nat) (t : Tree) (hst : styleOk st = true)
    (hab : asciiBlind st = true)
    (hnames : ∀ n ∈ namesT t, nameOk st n = true ∧ asciiName n = true) (hsib : sibDistinct t = true) :
    strToTreeLines [] ((yieldTree st md t).map Line.text) = some (erase (prune md t)) :=
  strToTree_yieldTree hst [] md t (fun anc hr n hn => nodeName_noPrefix hab anc hr (hnames n hn).1 (hnames n hn).2)
    (fun n hn => (hnames n hn).1) hsib

example : let st : Style := ⟨"\u2502   ".toList, "\u251c\u2500\u2500 ".toList, "\u2514\u2500\u2500 ".toList⟩
    ("const", st) ∈ builtinStyles ∧ styleOk st = true ∧ asciiBlind st = true ∧
    (∀ n ∈ namesT exT, nameOk st n = true ∧ asciiName n = true) := by decide +kernel

/-- the side conditions hold for every entry of the generated `PRINT_STYLES` table -/
theorem builtin_styles_ok :
    ∀ e ∈ builtinStyles, styleOk e.2 = true ∧ '\n' ∉ e.2.stem ++ e.2.branch ++ e.2.stemFinal ∧
      (e.1 ∉ ["ansi", "ascii"] → asciiBlind e.2 = true) := by decide +kernel

example : builtinStyles.length = 6 := by decide +kernel

/-! ## mermaid -/

/-- `mermaid_name` (an index path rendered as `0-i-j-…`) determines the index path -/
theorem mermaid_ids_injective {a b : List Nat} (h : mermaidRef a = mermaidRef b) : a = b :=
  mermaidRef_injective h

example : mermaidRef [2, 0] = "0-0-2".toList ∧ mermaidRef [0, 2] = "0-2-0".toList := by decide +kernel

/-- distinct nodes of one tree get distinct refs -/
theorem mermaid_ids_nodup (t : Tree) : (mermaidIds t).Nodup := by
  unfold mermaidIds
  rw [ids_eq_addrsT]
  exact List.Pairwise.map mermaidRef (fun a b hab h => hab (mermaidRef_injective h)) (addrsT_nodup [] t)

example : mermaidIds exT = ["0", "0-0", "0-0-0", "0-0-1", "0-0-1-0", "0-1"].map String.toList := by decide +kernel

/-- one flow line per parent–child link, in pre-order of the child, joining exactly the refs of the
two nodes, labelled with the child's name -/
theorem mermaid_edges_exact (md : Nat) (t : Tree) :
    (mermaidFlows md t).map (fun f => (f.fromRef, f.toRef)) =
      (linksT 0 (prune md t)).map
        (fun pc => ((mermaidIds (prune md t)).getD pc.1 [], (mermaidIds (prune md t)).getD pc.2 [])) ∧
    (mermaidFlows md t).map (·.toLabel) = (namesT (prune md t)).tail := by
  unfold mermaidFlows
  match prune md t with
  | .node i n a cs =>
    have g := edgesOf_eq_links (refTreeT [] (.node i n a cs))
    rw [refTreeT_names, refTreeT_links] at g
    exact ⟨(flowsL_ends [] true n 0 cs).trans g, flowsL_labels [] true n 0 cs⟩

example : (mermaidFlows 0 exT).map Flow.text =
    ["0(\"a\") --> 0-0(\"b\")", "0-0 --> 0-0-0(\"d\")", "0-0 --> 0-0-1(\"e\")", "0-0-1 --> 0-0-1-0(\"g\")",
     "0(\"a\") --> 0-1(\"c\")"].map String.toList ∧
    linksT 0 exT = [(0, 1), (1, 2), (1, 3), (3, 4), (0, 5)] := by decide +kernel

/-- every node of a rendering with at least two nodes is shown as a labelled vertex: each non-root
node exactly once as the target of a flow line carrying its ref and name, the root (ref `0`) with
its name on every line that leaves it, and there is such a line -/
theorem mermaid_vertices (md : Nat) (t : Tree) (h : (prune md t).children ≠ []) :
    (mermaidFlows md t).map (fun f => (f.toRef, f.toLabel)) =
      ((mermaidIds (prune md t)).zip (namesT (prune md t))).tail ∧
    (∀ f ∈ mermaidFlows md t,
      f.fromLabel = if f.fromRef = ['0'] then some (prune md t).name else none) ∧
    (∃ f ∈ mermaidFlows md t, f.fromRef = ['0']) := by
  unfold mermaidFlows mermaidIds
  match prune md t, h with
  | .node i n a (.node j m b ds :: cs), _ =>
    refine ⟨flowsL_targets [] true n 0 _, flowsL_from n [] true n 0 _ ⟨fun _ => ⟨rfl, rfl⟩, nofun⟩, ?_⟩
    exact ⟨⟨mermaidRef [], some n, mermaidRef [0], m⟩, List.mem_append_left _ (List.mem_cons_self ..), rfl⟩

example : (prune 2 exT).children ≠ [] := by decide +kernel

/-- K3: a rendering with a single node has no flow line, hence shows no vertex at all -/
theorem mermaid_single_no_vertex : mermaidFlows 0 (.node 0 ['a'] [] []) = [] := by decide +kernel

/-! ## dot -/

/-- one vertex per node, in pre-order, labelled with the node's name (unconditional) -/
theorem dot_vertices_labels (sep : Str) (t : Tree) : (dotVertices sep t).map (·.2) = namesT t :=
  (dotT_tree sep [] none [] t).2.2.1

example : dotVertices ['/'] exT = [("a0", "a"), ("b0", "b"), ("d0", "d"), ("e0", "e"), ("g0", "g"), ("c0", "c")].map
    (fun p => (p.1.toList, p.2.toList)) := by decide +kernel

/-- one edge per parent–child link, joining exactly the ids of the two nodes (unconditional; with
`dot_ids_injective_partial` the edge set identifies the links) -/
theorem dot_edges_exact (sep : Str) (t : Tree) :
    dotEdges sep t =
      (linksT 0 t).map fun pc => ((dotIds sep t).getD pc.1 [], (dotIds sep t).getD pc.2 []) :=
  Render.dot_edges_exact sep t

example : dotEdges ['/'] exT = [("a0", "b0"), ("b0", "d0"), ("b0", "e0"), ("e0", "g0"), ("a0", "c0")].map
    (fun p => (p.1.toList, p.2.toList)) := by decide +kernel

/-- vertex ids (`label ++ str(k)`) are pairwise distinct when sibling names are distinct, the
(one-character) separator occurs in no name and no name ends in a decimal digit -/
theorem dot_ids_injective_partial (c : Char) (t : Tree) (hsib : sibDistinct t = true)
    (hsep : ∀ n ∈ namesT t, c ∉ n) (hdig : ∀ n ∈ namesT t, noDigitEnd n = true) :
    (dotIds [c] t).Nodup := by
  unfold dotIds
  rw [(dotT_seq [c] [] none [] t).1]
  exact idsOf_nodup _ (seqT_paths_nodup c [] t hsib hsep) (fun e he => hdig _ (seqT_labels _ _ t e he))

/-- repeated names across branches: r(p(x), q(x)) gets ids x0, x1 -/
example : let t : Tree := .node 0 ['r'] [] [.node 0 ['p'] [] [.node 0 ['x'] [] []], .node 0 ['q'] [] [.node 0 ['x'] [] []]]
    sibDistinct t = true ∧ (∀ n ∈ namesT t, '/' ∉ n) ∧ (∀ n ∈ namesT t, noDigitEnd n = true) ∧
    dotIds ['/'] t = ["r0", "p0", "x0", "q0", "x1"].map String.toList := by decide +kernel

def DotIdsInjective : Prop :=
  ∀ t : Tree, sibDistinct t = true → (∀ n ∈ namesT t, '/' ∉ n) → (dotIds ['/'] t).Nodup

/-- K2: without the digit hypothesis the ids need not be distinct: 11 nodes named `x` in different branches plus
one `x1` ⇒ two vertices with id `x10` -/
theorem dot_ids_not_injective : ¬ DotIdsInjective :=
  fun h => k2Witness_collides.2.2 (h k2Witness k2Witness_collides.1 k2Witness_collides.2.1)

example : (dotIds ['/'] k2Witness).getD 22 [] = "x10".toList ∧ (dotIds ['/'] k2Witness).getD 23 [] = "x10".toList ∧
    (dotVertices ['/'] k2Witness).getD 22 ([], []) ≠ (dotVertices ['/'] k2Witness).getD 23 ([], []) := by decide +kernel

/-! ## horizontal rendering (`hyield_tree` / `hprint_tree`)

`hplace S inter pad 1 0 t'` lists every node of the rendered tree `t'` (pre-order; the empty slots of a
BinaryNode count as blank leaves) with its depth and the row on which it is placed. -/

/-- `hplace` lists exactly the nodes of the rendered tree, in pre-order, with their depths and leaf
flags (`hnodes` is the obvious structural listing) — so the three theorems below speak about every node -/
theorem h_places_all_nodes (S : HStyle) (inter : Bool) (pad : Nat → Nat) (t : HTree) :
    (hplace S inter pad 1 0 t).map (fun p => (p.depth, p.name, p.isLeaf)) = hnodes 1 t :=
  hplace_nodes S inter pad 1 0 t

example : hnodes 1 (ofTree exT) =
    [(1, ['a'], false), (2, ['b'], false), (3, ['d'], true), (3, ['e'], false), (4, ['g'], true), (2, ['c'], true)] := by
  decide +kernel

/-- column bands: in the rows `hyield_tree` returns, a node of depth `e` is shown at column
`hcol inter pad 1 (e - 1)` of its row — a function of the depth alone (with or without intermediate
node names) — as `─ name ─` / `───` (inner node) or `─ name` up to the end of the row (leaf) -/
theorem h_bands (S : HStyle) (inter : Bool) (md : Nat) (t : HTree) :
    let t' := hprune md t
    let pad := padOf inter t'
    ∀ p ∈ hplace S inter pad 1 0 t',
      1 ≤ p.depth ∧
      ∃ row, (hyieldTree S inter md t)[p.row]? = some row ∧
        hlabel S inter pad p.depth p.name p.isLeaf <+: row.drop (hcol inter pad 1 (p.depth - 1)) ∧
        (p.isLeaf = true → row.drop (hcol inter pad 1 (p.depth - 1)) = hlabel S inter pad p.depth p.name true) :=
  h_bands_hyield S inter md t

example : ("ansi", some exH) ∈ builtinHStyles ∧
    hyieldTree exH true 0 (ofTree exT) =
      ["           /- d", "     /- b -+", "- a -+     \\- e --- g", "     \\- c"].map String.toList ∧
    hplace exH true (padOf true (ofTree exT)) 1 0 (ofTree exT) =
      [⟨1, 2, false, ['a']⟩, ⟨2, 1, false, ['b']⟩, ⟨3, 0, true, ['d']⟩, ⟨3, 2, false, ['e']⟩, ⟨4, 2, true, ['g']⟩,
       ⟨2, 3, true, ['c']⟩] ∧
    (List.range 4).map (hcol true (padOf true (ofTree exT)) 1) = [0, 6, 12, 18] := by decide +kernel

/-- leaves appear top to bottom in pre-order: their rows are strictly increasing -/
theorem h_leaf_order (S : HStyle) (inter : Bool) (md : Nat) (t : HTree) :
    (((hplace S inter (padOf inter (hprune md t)) 1 0 (hprune md t)).filter (·.isLeaf)).map (·.row)).Pairwise
      (· < ·) :=
  h_leaf_order_hyield S inter md t

example : ((hplace exH true (padOf true (ofTree exT)) 1 0 (ofTree exT)).filter (·.isLeaf)).map (·.row) = [0, 2, 3] := by
  decide +kernel

/-- every placement row is a row of the output -/
theorem h_rows_in_range (S : HStyle) (inter : Bool) (md : Nat) (t : HTree) :
    ∀ p ∈ hplace S inter (padOf inter (hprune md t)) 1 0 (hprune md t),
      p.row < (hyieldTree S inter md t).length :=
  hplace_row_lt_hyield S inter md t

/-- the row of an inner node lies between the rows of its first and its last child
(strictly inside when it has at least two child slots); `childRows` are the rows of the children
themselves: `hplace_head_row` gives the row of one child placed at `off`, and `childRows` advances `off` from child
to child as `hplaceL` does -/
theorem h_parent_in_span (S : HStyle) (inter : Bool) (pad : Nat → Nat) (d : Nat) (n : Str) (cs : List HTree)
    (h : cs.any HTree.isReal = true) (f l : Nat)
    (hf : (childRows S inter pad (d + 1) 0 (gapInserted (hblockL S inter pad (d + 1) cs)) cs).head? = some f)
    (hl : (childRows S inter pad (d + 1) 0 (gapInserted (hblockL S inter pad (d + 1) cs)) cs).getLast? = some l) :
    f ≤ (hblock S inter pad d (.node n cs)).2 ∧ (hblock S inter pad d (.node n cs)).2 ≤ l ∧
    (2 ≤ cs.length → f < (hblock S inter pad d (.node n cs)).2 ∧ (hblock S inter pad d (.node n cs)).2 < l) :=
  Render.h_parent_in_span S inter pad d n cs h f l hf hl

example : let cs := [ofTree (.node 0 ['d'] [] []), ofTree (.node 0 ['e'] [] [])]
    cs.any HTree.isReal = true ∧
    childRows exH true (fun _ => 1) 2 0 (gapInserted (hblockL exH true (fun _ => 1) 2 cs)) cs = [0, 2] ∧
    (hblock exH true (fun _ => 1) 1 (.node ['b'] cs)).2 = 1 := by decide +kernel

/-- the `assert len(result) == 2` of `_hprint_branch` can never fail -/
theorem h_gap_assert (S : HStyle) (inter : Bool) (pad : Nat → Nat) (d : Nat) (a b : HTree) :
    gapInserted (hblockL S inter pad d [a, b]) = true →
      ((hblockL S inter pad d [a, b]).flatMap (·.1)).length = 2 :=
  Render.h_gap_assert S inter pad d a b

example : gapInserted (hblockL exH true (fun _ => 1) 2 [.node ['d'] [], .node ['e'] []]) = true := by decide +kernel

/-- decodability of the horizontal form: for every style meeting `hstyleOk` and names without
white space the decoder `hdecode` reads the rendering back — all of the tree that the text shows
(`hExpected`: empty slots and, without intermediate names, the names of inner nodes are blank) -/
theorem h_decodable (S : HStyle) (hS : hstyleOk S = true) (inter : Bool) (md : Nat) (t : HTree)
    (hn : hnamesOk t = true) :
    hdecode S (hyieldTree S inter md t) = some (hExpected inter (hprune md t)) :=
  Render.h_decodable S hS inter md t hn

example : hstyleOk exH = true ∧ hnamesOk (ofTree exT) = true ∧
    hdecode exH (hyieldTree exH true 0 (ofTree exT)) = some (ofTree exT) := by decide +kernel

/-- hence, with intermediate node names, two `Node` trees with the same horizontal rendering are equal -/
theorem h_injective (S : HStyle) (hS : hstyleOk S = true) (t1 t2 : Tree)
    (h1 : hnamesOk (ofTree t1) = true) (h2 : hnamesOk (ofTree t2) = true)
    (h : hyieldTree S true 0 (ofTree t1) = hyieldTree S true 0 (ofTree t2)) : ofTree t1 = ofTree t2 :=
  hyield_injective S hS t1 t2 h1 h2 h

/-- every entry of the generated `HPRINT_STYLES` table is a well-formed style that meets the
decodability side conditions `hstyleOk` — except the pinned "ascii" entry (K4) -/
theorem builtin_hstyles_ok :
    ∀ e ∈ builtinHStyles, ∃ S, e.2 = some S ∧ (hstyleOk S = true ∨ S = asciiPinned) := by decide +kernel

/-- K4: the horizontal form is not decodable in the pinned "ascii" style — two different trees,
identical rows; and that style indeed fails `hstyleOk` -/
theorem h_ascii_not_injective :
    k4Tree1 ≠ k4Tree2 ∧ hyieldTree asciiPinned true 0 k4Tree1 = hyieldTree asciiPinned true 0 k4Tree2 ∧
    hstyleOk asciiPinned = false := by decide +kernel

end C18
