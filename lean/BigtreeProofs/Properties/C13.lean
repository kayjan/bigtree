import BigtreeModel.Relation
import BigtreeProofs.Lemmas.Heap
import BigtreeProofs.Lemmas.Nested
import BigtreeProofs.Lemmas.RelationBuild
import BigtreeProofs.Lemmas.RelationTree
/-!
# C13 — relation, nested-dict and heap-list constructors build exactly the given edges

Models: `BigtreeModel/Relation.lean` (`Rel`, `NDict`, `Heap`). The specification side of the statements is
defined with the lemmas: `Heap.slotOf`, `Heap.specStore` in `Lemmas/Heap.lean`; `Rel.IsRootCand` in
`Lemmas/RelationBuild.lean`; `Rel.rowOf`, `Rel.NonLeafUnique`, `Rel.ChildSpec` in `Lemmas/RelationTree.lean`;
`NDict.name`, `NDict.WF` in `Lemmas/Nested.lean`.
-/
open Paths

namespace C13

/-! ## list_to_binarytree -/

/-- A non-empty list is never refused, and `node_list` ends up heap-shaped: slot `p` holds
    `xs[p]` and points to `2p+1` / `2p+2` exactly when these positions exist. -/
theorem heap_store (xs : List Int) (h : xs ≠ []) :
    Heap.listToStore xs = .ok (Heap.specStore xs) := by
  cases xs with
  | nil => exact absurd rfl h
  | cons x xs => exact Heap.loop_spec xs [x] (List.cons_ne_nil x [])

/-- The element at position `i ≥ 1` is the child of the element at position `(i-1)/2`
    (which is what the Python index expression computes), in the left slot for odd `i`, in the
    right slot for even `i`; and no other slot points to it. -/
theorem heap_parent (xs : List Int) (st : List Heap.Slot) (h : Heap.listToStore xs = .ok st)
    (i : Nat) (h1 : 1 ≤ i) (hi : i < xs.length) :
    Heap.parentIdx i = (i - 1) / 2 ∧
    (∃ s, st[(i - 1) / 2]? = some s ∧ xs[(i - 1) / 2]? = some s.val ∧
      (if i % 2 = 1 then s.left = some i else s.right = some i)) ∧
    (∀ p s, st[p]? = some s → (s.left = some i ∨ s.right = some i) → p = (i - 1) / 2) := by
  have hne : xs ≠ [] := by rintro rfl; exact Nat.not_lt_zero _ hi
  rw [heap_store xs hne] at h
  cases h
  have hpar := Heap.eq_child_parentIdx h1
  rw [← Heap.parentIdx_eq i]
  generalize Heap.parentIdx i = q at hpar ⊢
  have hlt : q < xs.length := by omega
  refine ⟨rfl, ⟨Heap.slotOf xs.length q xs[q], ?_, List.getElem?_eq_getElem hlt, ?_⟩, ?_⟩
  · rw [Heap.specStore_get, List.getElem?_eq_getElem hlt]; rfl
  · rcases hpar with rfl | rfl
    · rw [if_pos (Nat.mul_add_mod 2 q 1)]; exact Heap.slotOf_left.mpr ⟨hi, rfl⟩
    · rw [if_neg (by rw [Nat.mul_add_mod]; decide)]; exact Heap.slotOf_right.mpr ⟨hi, rfl⟩
  · intro p s hs hor
    rw [Heap.specStore_get] at hs
    obtain ⟨v, -, rfl⟩ := Option.map_eq_some_iff.mp hs
    rw [Heap.slotOf_left, Heap.slotOf_right] at hor
    omega

example : Heap.listToStore [5, 3, 8, 1] =
    .ok [⟨5, some 1, some 2⟩, ⟨3, some 3, none⟩, ⟨8, none, none⟩, ⟨1, none, none⟩] := by decide +kernel

/-- The returned tree is the heap-shaped tree read directly off the list. -/
theorem heap_tree (xs : List Int) (h : xs ≠ []) :
    Heap.listToBinary xs = .ok (Heap.heapTree xs xs.length 0) := by
  unfold Heap.listToBinary
  rw [heap_store xs h]
  simp only [Heap.specStore_length, Heap.readBack_spec]

example : Heap.listToBinary [1, 2, 3, 4] = .ok
    (.node 0 ['1'] [] (.node 1 ['2'] [] (.node 3 ['4'] [] .nil .nil) .nil) (.node 2 ['3'] [] .nil .nil)) := by
  decide +kernel

/-- An empty list is refused with `ValueError`. -/
theorem heap_empty_refused : Heap.listToBinary [] = .error .value := rfl

/-! ## nested_dict_to_tree -/

/-- The tree mirrors the nesting exactly: reading the result back as a nested dictionary
    (names, attributes, children in order) gives the input. -/
theorem nested_mirror (d : NDict) (t : Tree) (h : d.toTree = .ok t) : NDict.ofTree t = d :=
  NDict.toTree_mirror d t h

/-- A nested dictionary is accepted exactly when its names are non-empty and sibling names
    are pairwise different (what a `Node` tree can represent). -/
theorem nested_accepted_iff (d : NDict) : (∃ t, d.toTree = .ok t) ↔ NDict.WF d :=
  ⟨fun ⟨t, h⟩ => NDict.toTree_wf d t h, NDict.toTree_accepts d⟩

example : (NDict.mk ['a'] [(['v'], .int 1)] [.mk ['b'] [] [.mk ['a'] [] []], .mk ['c'] [] []]).toTree =
    .ok (.node 0 ['a'] [(['v'], .int 1)] [.node 0 ['b'] [] [.node 0 ['a'] [] []], .node 0 ['c'] [] []]) := by
  decide +kernel

example : NDict.WF (.mk ['a'] [] [.mk ['b'] [] [], .mk ['c'] [] []]) := by
  simp [NDict.WF, NDict.WFL, NDict.name]

example : (NDict.mk ['a'] [] [.mk ['b'] [] [], .mk ['b'] [] []]).toTree = .error .tree := by decide +kernel

/-! ## *_by_relation -/

/-- Whatever the input: if the constructor returns a tree, the children of every node are the
    rows naming it as parent, in row order, with the row's non-null cells as attributes. -/
theorem relation_children_in_row_order (allowDup : Bool) (rows : List Rel.Row) (t : Tree)
    (h : Rel.relToTree allowDup rows = .ok t) :
    ∀ a n, nodeAt a t = some n → Rel.ChildSpec rows n := by
  rw [Rel.relToTree] at h
  by_cases he : rows.isEmpty = true
  · rw [if_pos he] at h; cases h
  rw [if_neg he] at h
  by_cases hd : (!allowDup && Rel.dupChildren rows) = true
  · rw [if_pos hd] at h; cases h
  rw [if_neg hd] at h
  split at h
  · next x _ =>
    by_cases hx : x = []
    · rw [if_pos hx] at h; cases h
    rw [if_neg hx] at h
    cases hb : Rel.build rows (rows.length + 1) x with
    | error e => rw [hb] at h; cases h
    | ok cs => rw [hb] at h; cases h; exact Rel.build_spec rows _ _ _ _ _ hb
  · cases h

/-- Rows that are ANY permutation of the edge list of a tree `T` (sibling names
    pairwise different, names non-empty, the name of a non-leaf carried by no other node —
    leaf names may repeat) are accepted by `relToTree`, whatever `allow_duplicates` is:

    * the root is the unique root candidate (`rootNames rows = [T.name]`, see `root_candidates`);
    * the result has exactly the given edges (`edges` of the result is a permutation of the
      rows, cells without value dropped) — so the fuel `rows.length + 1` sufficed;
    * at every node of the result the children are the rows naming it as parent, in row order,
      each carrying its own row's non-null cells (`ChildSpec`). -/
theorem relation_exact (T : Tree) (hsu : SibUnique T) (hu : Rel.NonLeafUnique T)
    (hne : ∀ b n, nodeAt b T = some n → n.name ≠ []) (rows : List Rel.Row)
    (hperm : rows.Perm (Rel.edges T)) (hrows : rows ≠ []) (allowDup : Bool) :
    Rel.rootNames rows = [T.name] ∧
    ∃ cs, Rel.relToTree allowDup rows = .ok (.node 0 T.name [] cs) ∧
      (Rel.edges (.node 0 T.name [] cs)).Perm (rows.map Rel.norm) ∧
      ∀ a n, nodeAt a (.node 0 T.name [] cs) = some n → Rel.ChildSpec rows n := by
  obtain ⟨hroot, hdup, hch, cs, hcs, hpe⟩ := Rel.rows_of_tree T hsu hu hne [] nofun rows hperm hrows
  have hfind : rows.find? (fun r => r.child = T.name) = none :=
    List.find?_eq_none.mpr fun r hr hc => nomatch hch r hr (of_decide_eq_true hc)
  have hres := Rel.relToTree_ok allowDup hrows hdup hroot (hne [] T rfl) hcs hfind
  exact ⟨hroot, cs, hres, hpe.trans (hperm.symm.map Rel.norm), relation_children_in_row_order _ _ _ hres⟩

/-- The same with a row `(root, no parent, cells)` anywhere among the rows (the documented way to
    give the root attributes): accepted, same root, same edges, and the root carries that row's
    non-null cells. -/
theorem relation_exact_rootrow (T : Tree) (hsu : SibUnique T) (hu : Rel.NonLeafUnique T)
    (hne : ∀ b n, nodeAt b T = some n → n.name ≠ []) (cells : Attrs) (rows : List Rel.Row)
    (hperm : rows.Perm (⟨T.name, none, cells⟩ :: Rel.edges T)) (allowDup : Bool) :
    Rel.rootNames rows = [T.name] ∧
    ∃ cs, Rel.relToTree allowDup rows = .ok (.node 0 T.name (cells.filter fun kv => kv.2 ≠ .null) cs) ∧
      (Rel.edges (.node 0 T.name [] cs)).Perm ((Rel.edges T).map Rel.norm) ∧
      ∀ a n, nodeAt a (.node 0 T.name (cells.filter fun kv => kv.2 ≠ .null) cs) = some n →
        Rel.ChildSpec rows n := by
  have hρ : ⟨T.name, none, cells⟩ ∈ rows := hperm.mem_iff.mpr List.mem_cons_self
  obtain ⟨hroot, hdup, hch, cs, hcs, hpe⟩ := Rel.rows_of_tree T hsu hu hne [⟨T.name, none, cells⟩]
    (fun r hr => by rw [List.mem_singleton.mp hr]; exact ⟨rfl, rfl⟩) rows hperm (List.ne_nil_of_mem hρ)
  -- the root row is the only row naming the root as child
  have hfind : rows.find? (fun r => r.child = T.name) = some ⟨T.name, none, cells⟩ := by
    cases hf : rows.find? (fun r => r.child = T.name) with
    | none => exact absurd (decide_eq_true rfl) (List.find?_eq_none.mp hf _ hρ)
    | some r =>
      have hc := List.find?_some hf
      rw [List.mem_singleton.mp (hch r (List.mem_of_find?_eq_some hf) (of_decide_eq_true hc))]
  have hres := Rel.relToTree_ok allowDup (List.ne_nil_of_mem hρ) hdup hroot (hne [] T rfl) hcs hfind
  exact ⟨hroot, cs, hres, hpe, relation_children_in_row_order _ _ _ hres⟩

example : Rel.relToTree false [⟨['b'], some ['a'], []⟩, ⟨['a'], none, [(['v'], .int 9), (['w'], .null)]⟩] =
    .ok (.node 0 ['a'] [(['v'], .int 9)] [.node 0 ['b'] [] []]) := by decide +kernel

/-- non-vacuity: `a(b(x), c(x, y))` — the leaf name `x` occurs twice -/
def exT : Tree := .node 0 ['a'] []
  [.node 1 ['b'] [] [.node 2 ['x'] [(['v'], .int 1)] []],
   .node 3 ['c'] [] [.node 4 ['x'] [(['v'], .null)] [], .node 5 ['y'] [] []]]

example : SibUnique exT := by simp [exT, SibUnique, SibUniqueL]
example : Rel.NonLeafUnique exT := Rel.nonLeafUnique_of_check exT (by decide +kernel)
example : Rel.edges exT = [⟨['b'], some ['a'], []⟩, ⟨['c'], some ['a'], []⟩, ⟨['x'], some ['b'], [(['v'], .int 1)]⟩,
    ⟨['x'], some ['c'], [(['v'], .null)]⟩, ⟨['y'], some ['c'], []⟩] := by decide +kernel
/-- the rows of `exT` in another order: children come out in ROW order (`c` before `b`, `y` before `x`) -/
example : Rel.relToTree false [⟨['y'], some ['c'], []⟩, ⟨['x'], some ['c'], [(['v'], .null)]⟩, ⟨['c'], some ['a'], []⟩,
    ⟨['x'], some ['b'], [(['v'], .int 1)]⟩, ⟨['b'], some ['a'], []⟩] =
  .ok (.node 0 ['a'] [] [.node 0 ['c'] [] [.node 0 ['y'] [] [], .node 0 ['x'] [] []],
                          .node 0 ['b'] [] [.node 0 ['x'] [(['v'], .int 1)] []]]) := by decide +kernel

/-- the root candidates are: children of rows without parent, and parents that are never a child;
    each is listed once -/
theorem root_candidates (rows : List Rel.Row) (x : Str) :
    (x ∈ Rel.rootNames rows ↔ Rel.IsRootCand rows x) ∧ (Rel.rootNames rows).Nodup :=
  ⟨Rel.mem_rootNames rows x, Rel.nodup_rootNames rows⟩

/-- Zero or several possible roots ⇒ `ValueError`; a child named under two different parents
    that is itself a parent ⇒ `ValueError` (with `allow_duplicates=False`). -/
theorem relation_refused (rows : List Rel.Row) :
    (∀ allowDup, (¬ ∃ x, ∀ y, Rel.IsRootCand rows y ↔ y = x) → Rel.relToTree allowDup rows = .error .value) ∧
    ((∃ r1 ∈ rows, ∃ r2 ∈ rows, ∃ r3 ∈ rows, r1.child = r2.child ∧ r1.parent ≠ r2.parent ∧
        r3.parent = some r1.child) → Rel.relToTree false rows = .error .value) :=
  ⟨fun allowDup h => Rel.refused_of_rootNames allowDup rows fun x hx =>
      h ⟨x, (Rel.rootNames_eq_singleton_iff rows x).mp hx⟩,
    fun h => Rel.refused_of_dupChildren rows ((Rel.dupChildren_iff rows).mpr h)⟩

/-- two roots -/
example : Rel.relToTree true [⟨['b'], some ['a'], []⟩, ⟨['d'], some ['c'], []⟩] = .error .value := by decide +kernel
/-- no root (a cycle) -/
example : Rel.relToTree true [⟨['b'], some ['a'], []⟩, ⟨['a'], some ['b'], []⟩] = .error .value := by decide +kernel
/-- `x` is a parent and occurs under `a` and under `b` -/
example : Rel.relToTree false [⟨['x'], some ['a'], []⟩, ⟨['b'], some ['a'], []⟩, ⟨['x'], some ['b'], []⟩,
    ⟨['y'], some ['x'], []⟩] = .error .value := by decide +kernel

end C13
