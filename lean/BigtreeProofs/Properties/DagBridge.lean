import BigtreeProofs.Lemmas.DagBridgeTransfer
import BigtreeProofs.Lemmas.DagBridgeRun
import BigtreeProofs.Properties.C10
import BigtreeProofs.Properties.C16
import BigtreeProofs.Properties.C17
/-!
# DagBridge — the `DAGNode` store (C10) refines the DAG graphs of C16 / C17

`DagStore.toDag s` (`BigtreeModel/DagBridge.lean`) reads a store as a graph: nodes `0 .. n-1`, the
adjacency lists are the store's `parents` / `children` lists as they are.  The C10 invariant of the
store is the well-formedness hypothesis `Dag.DWF` of every C16 / C17 theorem, so that hypothesis holds in
**every** state reachable by a history of `DAGNode` calls, and those theorems are restated about the
store's own lists; then what one call, and a whole history, does to the edge list of the graph.

Everything is for all stores / histories / arguments; no size bound.
`Desc`, `Linked`, `ChainFromTo`, `edges`, `edgesUp`, `EState`, `asked` are defined in the model file;
`Op.isAssign`, `requested`, `removed` in `Lemmas/DagStoreEdges.lean`, `NoRejConstruct` in `Lemmas/DagBridgeRun.lean`.
-/

namespace DagBridge
open DagStore

/-! ### the concrete history of C10 (`0 → 1 → 2 → 3` plus `0 → 2`, built with both setters, `>>`, `<<`) -/

abbrev demo : DStore := C10.demo

example : edges demo = [(0, 1), (0, 2), (1, 2), (2, 3)] ∧ edgesUp demo = [(0, 1), (1, 2), (0, 2), (2, 3)] := by
  decide +kernel

/-- every node of the demo store is weakly connected to every other: read off the model's own visited set -/
theorem demo_linked (v : Nat) (hv : v < 4) : ∀ u, u < demo.n → Linked demo v u := by
  have h : ∀ v, v < 4 → ∀ u, u < demo.n → u ∈ (Dag.dagRun (toDag demo) v).vis := by decide +kernel
  exact fun u hu => ureach_toDag.1
    (C16.connected_from_of_run (g := toDag demo) (fun u hu => h v hv u (mem_toDag_nodes.1 hu)) u
      (mem_toDag_nodes.2 hu))

/-! ## 1. well-formedness -/

/-- the invariant C10 proves for the store is the hypothesis `Dag.DWF` of C16 / C17 for the graph
read off it (with any attributes) -/
theorem toDag_wf {s : DStore} (hs : DWF s) (attrs : Nat → Attrs) : Dag.DWF (toDag s attrs) :=
  DagStore.toDag_wf hs attrs

example : Dag.DWF (toDag demo) := toDag_wf (C10.dwf_run 4 _ C10.demoOps) _

/-- … and conversely: the store invariant is exactly graph well-formedness plus "nothing is listed
under an id that was never allocated" -/
theorem toDag_wf_iff (s : DStore) (attrs : Nat → Attrs) :
    DWF s ↔ Dag.DWF (toDag s attrs) ∧ ∀ v, s.n ≤ v → s.parents v = [] ∧ s.children v = [] :=
  ⟨fun hs => ⟨DagStore.toDag_wf hs attrs, fun _ hv => ⟨hs.parents_nil hv, hs.children_nil hv⟩⟩,
   fun h => dwf_of_toDag h.1 h.2⟩

-- right to left: a store written down by hand (0 → 2 ← 1; not the result of a history) is `DWF` because its graph is
example : DWF ⟨3, fun _ => [], fun i => if i = 2 then [0, 1] else [], fun i => if i = 0 ∨ i = 1 then [2] else []⟩ :=
  (toDag_wf_iff _ (fun _ => [])).2
    ⟨⟨by decide +kernel, by decide +kernel, by decide +kernel, by decide +kernel, by decide +kernel,
      Dag.acyclic_of_rank id (by decide +kernel) (by decide +kernel)⟩,
     fun v (hv : 3 ≤ v) => ⟨if_neg (Nat.ne_of_gt hv), if_neg fun h => h.elim
       (fun h0 => absurd (h0 ▸ hv) (by decide +kernel)) (fun h1 => absurd (h1 ▸ hv) (by decide +kernel))⟩⟩
-- a symmetric, duplicate-free store with a 2-cycle is not `DWF`, and its graph is not either
example : ¬ Dag.DWF (toDag ⟨2, fun _ => [], fun i => if i = 0 then [1] else if i = 1 then [0] else [],
    fun i => if i = 0 then [1] else if i = 1 then [0] else []⟩) :=
  fun h => h.acyclic 0 (by decide +kernel) (.step (b := 1) (by decide +kernel) (.edge (by decide +kernel)))

/-- **the assumption of C16 / C17 is a theorem**: for every history of `DAGNode` calls from freshly
constructed nodes — every operation, every argument (non-nodes, the node itself, ancestors, repeated
members, tuples, non-iterables), every hook fault — the graph read off the final store is well-formed -/
theorem reachable_wf (k : Nat) (names : Nat → Str) (ops : List Op) (attrs : Nat → Attrs) :
    Dag.DWF (toDag (run true (init k names) ops).1 attrs) :=
  DagStore.toDag_wf (C10.dwf_run k names ops) attrs

/-- … and so is the graph read off every intermediate store -/
theorem reachable_wf_trace (k : Nat) (names : Nat → Str) (ops : List Op) (attrs : Nat → Attrs) :
    ∀ r ∈ trace true (init k names) ops, Dag.DWF (toDag r.1 attrs) :=
  fun r hr => DagStore.toDag_wf (C10.dwf_trace k names ops r hr) attrs

example : Dag.DWF (toDag demo) := reachable_wf 4 _ C10.demoOps _
-- a history with a refused cycle, a hook fault after two insertions, a deletion and a half-built constructor
example : Dag.DWF (toDag (run true (init 4 fun _ => []) (C10.demoOps ++
    [.setChildren 3 (.list [0]) .none, .setParents 3 (.list [0, 1]) .post, .delItem 0 [],
     .construct [] (.list [3]) (.list [0]) .none .none])).1) := reachable_wf 4 _ _ _
-- the outcomes of such a history (here the deletion is `del 1.children`)
example : (run true (init 4 fun _ => []) (C10.demoOps ++
    [.setChildren 3 (.list [0]) .none, .setParents 3 (.list [0, 1]) .post, .delChildren 1,
     .construct [] (.list [3]) (.list [0]) .none .none])).2 = [.ok, .ok, .ok, .ok, .rej, .rej, .ok, .rej] := by decide +kernel

/-! ## 2. vocabulary -/

/-- edge list, directed reachability, weak connectivity and directed paths of the graph are those of
the store's lists (no hypothesis) -/
theorem vocabulary (s : DStore) (attrs : Nat → Attrs) :
    (toDag s attrs).edges = edges s ∧
    (∀ x y, (toDag s attrs).Reach x y ↔ Desc s x y) ∧
    (∀ x y, (toDag s attrs).UReach x y ↔ Linked s x y) ∧
    (∀ u w l, (toDag s attrs).PathFromTo u w l ↔ ChainFromTo s u w l) :=
  ⟨rfl, fun _ _ => reach_toDag, fun _ _ => ureach_toDag, fun _ _ _ => pathFromTo_toDag⟩

example : (toDag demo).edges = [(0, 1), (0, 2), (1, 2), (2, 3)] := by decide +kernel

/-- on a well-formed store the two adjacency tables tell the same story: walking down `children`
lists is walking up `parents` lists (`Anc`, the relation of C10), an edge is a `parents` entry, and
the two edge lists are permutations of each other without repeats -/
theorem store_links {s : DStore} (hs : DWF s) :
    (∀ a b, Desc s a b ↔ Anc s a b) ∧
    (∀ p c, (p, c) ∈ edges s ↔ p ∈ s.parents c) ∧
    (edges s).Nodup ∧ (edges s).Perm (edgesUp s) :=
  ⟨fun _ _ => desc_iff_anc hs.toDWF0, fun _ _ => mem_edges_iff hs.toDWF0, nodup_edges hs.toDWF0,
   edges_perm_edgesUp hs.toDWF0⟩

example : Desc demo 0 3 := .step (b := 2) (by decide +kernel) (.edge (by decide +kernel))

/-! ## 3. transfer: C16 / C17 in every reachable state -/

/-- **C16 `dag_iter_edges` in every reachable state.** For every history and every start node to which
every node is weakly connected (through `parents` / `children` lists, any direction), `dag_iterator`
yields a permutation of the store's edge list: every `(parent, child)` link exactly once. -/
theorem dag_iter_edges_reachable (k : Nat) (names : Nat → Str) (ops : List Op) (attrs : Nat → Attrs) :
    let s := (run true (init k names) ops).1
    ∀ v, v < s.n → (∀ u, u < s.n → Linked s v u) → (Dag.dagIter (toDag s attrs) v).Perm (edges s) := by
  intro s v hv hc
  exact C16.dag_iter_edges (reachable_wf k names ops attrs) (mem_toDag_nodes.2 hv)
    (fun u hu => ureach_toDag.2 (hc u (mem_toDag_nodes.1 hu)))

example : (Dag.dagIter (toDag demo) 3).Perm (edges demo) :=
  dag_iter_edges_reachable 4 _ C10.demoOps _ 3 (by decide +kernel) (demo_linked 3 (by decide +kernel))
example : Dag.dagIter (toDag demo) 3 = [(2, 3), (1, 2), (0, 2), (0, 1)] := by decide +kernel

/-- **C16 `dag_iter_mem` / `dag_iter_nodup` in every reachable state** (no connectivity needed): from any
start node, the pairs yielded are exactly the links `p ∈ parents c` of the start node's weakly connected
component, none twice. -/
theorem dag_iter_mem_reachable (k : Nat) (names : Nat → Str) (ops : List Op) (attrs : Nat → Attrs) :
    let s := (run true (init k names) ops).1
    ∀ v, v < s.n →
      (Dag.dagIter (toDag s attrs) v).Nodup ∧
      ∀ p c, (p, c) ∈ Dag.dagIter (toDag s attrs) v ↔ p ∈ s.parents c ∧ Linked s v p := by
  intro s v hv
  have hw := reachable_wf k names ops attrs
  have hs : DWF s := C10.dwf_run k names ops
  refine ⟨C16.dag_iter_nodup hw (mem_toDag_nodes.2 hv), fun p c => ?_⟩
  rw [C16.dag_iter_mem hw (mem_toDag_nodes.2 hv), edges_toDag, mem_edges_iff hs.toDWF0, ureach_toDag]

-- a history that leaves two components: from node 0 only the links of its component are yielded
example : Dag.dagIter (toDag (run true (init 4 fun _ => []) [.rshift 0 1 .none, .rshift 2 3 .none]).1) 0 = [(0, 1)] := by
  decide +kernel

/-- **C16 `ancestors_eq_reach` in every reachable state**: `v.ancestors` lists exactly the nodes that reach
`v` through the store's `parents` lists (`Anc`, the reachability relation of C10), each once — and it is
the same list as the `ancestors` the loop check of the setters consults (C10's `DagStore.ancestors`). -/
theorem ancestors_reachable (k : Nat) (names : Nat → Str) (ops : List Op) (attrs : Nat → Attrs) :
    let s := (run true (init k names) ops).1
    ∀ v, v < s.n →
      (∀ x, x ∈ Dag.ancestors (toDag s attrs) v ↔ Anc s x v) ∧
      (Dag.ancestors (toDag s attrs) v).Nodup ∧
      Dag.ancestors (toDag s attrs) v = DagStore.ancestors s v := by
  intro s v hv
  have hs : DWF s := C10.dwf_run k names ops
  have h := C16.ancestors_eq_reach (reachable_wf k names ops attrs) (mem_toDag_nodes.2 hv)
  refine ⟨fun x => ?_, h.2, ancestors_agree hs attrs v⟩
  rw [h.1, reach_toDag, desc_iff_anc hs.toDWF0]
  constructor
  · exact fun h => h.2
  · intro ha
    refine ⟨mem_toDag_nodes.2 ?_, ha⟩
    obtain ⟨l, hl⟩ := anc_iff_up.1 ha
    exact hl.lt hs.toDWF0 (by simp) x (by simp)

example : Dag.ancestors (toDag demo) 3 = [0, 1, 2] ∧ DagStore.ancestors demo 3 = [0, 1, 2] := by decide +kernel

/-- **C16 `descendants_eq_reach` in every reachable state**: `v.descendants` lists exactly the nodes
reached from `v` through the `children` lists — equivalently, the nodes `v` is an ancestor of — each once. -/
theorem descendants_reachable (k : Nat) (names : Nat → Str) (ops : List Op) (attrs : Nat → Attrs) :
    let s := (run true (init k names) ops).1
    ∀ v, v < s.n →
      (∀ x, x ∈ Dag.descendants (toDag s attrs) v ↔ Desc s v x) ∧
      (∀ x, x ∈ Dag.descendants (toDag s attrs) v ↔ Anc s v x) ∧
      (Dag.descendants (toDag s attrs) v).Nodup := by
  intro s v hv
  have hs : DWF s := C10.dwf_run k names ops
  have h := C16.descendants_eq_reach (reachable_wf k names ops attrs) (mem_toDag_nodes.2 hv)
  exact ⟨fun x => by rw [h.1, reach_toDag], fun x => by rw [h.1, reach_toDag, desc_iff_anc hs.toDWF0], h.2⟩

example : Dag.descendants (toDag demo) 0 = [1, 2, 3] := by decide +kernel

/-- **C16 `siblings_eq`** on the store's lists (any store): the siblings are, as a set, the other children
of the node's parents. -/
theorem siblings_store (s : DStore) (attrs : Nat → Attrs) (v x : Nat) :
    x ∈ Dag.siblings (toDag s attrs) v ↔ x ≠ v ∧ ∃ p, p ∈ s.parents v ∧ x ∈ s.children p :=
  C16.siblings_eq (toDag s attrs) v x

example : Dag.siblings (toDag demo) 1 = [2] ∧ Dag.siblings (toDag demo) 2 = [1] := by decide +kernel

/-- **C16 `go_to_all_paths` / `go_to_refused_iff` in every reachable state**: when `u.go_to(w)` answers, the
answer lists exactly the directed paths from `u` to `w` through the `children` lists, each once; it raises
exactly when `w` is a different node that is not a descendant of `u`. -/
theorem go_to_reachable (k : Nat) (names : Nat → Str) (ops : List Op) (attrs : Nat → Attrs) :
    let s := (run true (init k names) ops).1
    ∀ u, u < s.n → ∀ w,
      (∀ ps, Dag.goTo (toDag s attrs) u w = some ps → (∀ l, l ∈ ps ↔ ChainFromTo s u w l) ∧ ps.Nodup) ∧
      (Dag.goTo (toDag s attrs) u w = none ↔ u ≠ w ∧ ¬ Desc s u w) := by
  intro s u hu w
  have hw := reachable_wf k names ops attrs
  refine ⟨fun ps h => ?_, ?_⟩
  · have := C16.go_to_all_paths hw (mem_toDag_nodes.2 hu) h
    exact ⟨fun l => by rw [this.1, pathFromTo_toDag], this.2⟩
  · rw [C16.go_to_refused_iff hw (mem_toDag_nodes.2 hu), reach_toDag]

example : Dag.goTo (toDag demo) 0 3 = some [[0, 1, 2, 3], [0, 2, 3]] ∧ Dag.goTo (toDag demo) 3 0 = none := by decide +kernel

/-- **C17 `export_each_edge_once` in every reachable state**: for every history that leaves a weakly
connected store with at least one link, the list, dictionary and DataFrame exports each mention every
link of the store exactly once, and `list_to_dag` of the exported list rebuilds a well-formed DAG with
the same links and nodes. -/
theorem export_reachable (k : Nat) (names : Nat → Str) (ops : List Op) (attrs : Nat → Attrs)
    (sel : Dag.AttrSel) :
    let s := (run true (init k names) ops).1
    (∀ u w, u < s.n → w < s.n → Linked s u w) → edges s ≠ [] → ∀ v, v < s.n →
      (Dag.dagToList (toDag s attrs) v).Perm (edges s) ∧
      (∃ d, Dag.dagToDict (toDag s attrs) sel v = some d ∧ (Dag.dictRel d).Perm (edges s)) ∧
      (Dag.rowsRel (Dag.dagToRows (toDag s attrs) sel v)).Perm (edges s) ∧
      (∃ b, Dag.listToDag (Dag.dagToList (toDag s attrs) v) = .ok b ∧ b.dag.DWF ∧
        (∀ e, e ∈ b.dag.edges ↔ e ∈ edges s) ∧ (∀ x, x ∈ b.dag.nodes ↔ x < s.n)) := by
  intro s hc hne v hv
  have hw := reachable_wf k names ops attrs
  have hconn : (toDag s attrs).Connected :=
    fun u hu w hw' => ureach_toDag.2 (hc u w (mem_toDag_nodes.1 hu) (mem_toDag_nodes.1 hw'))
  have h := C17.export_each_edge_once hw hconn (mem_toDag_nodes.2 hv) hne sel
  obtain ⟨b, hb, hbw, hbe, hbn⟩ := C17.list_roundtrip hw hconn (mem_toDag_nodes.2 hv) hne
  exact ⟨h.1, h.2.1, h.2.2, b, hb, hbw, hbe, fun x => by rw [hbn]; exact mem_toDag_nodes⟩

example : (∀ u w, u < demo.n → w < demo.n → Linked demo u w) ∧ edges demo ≠ [] :=
  ⟨fun u w hu hw => demo_linked u hu w hw, by decide +kernel⟩
example : Dag.dagToList (toDag demo) 1 = [(0, 1), (1, 2), (0, 2), (2, 3)] := by decide +kernel

/-! ## 4. the effect of one call on the edge list of the graph -/

/-- **assignments** (both setters, `>>`, `<<`, the constructor) with any argument and any hook fault:
whatever the outcome, the old edge list is a sublist of the new one — no edge disappears and no two
edges change their relative order — in both readings (out of the `children` lists and out of the
`parents` lists); and when the call is accepted, the requested edges are pairwise distinct and the new
edge list is, up to order, the old one followed by the requested edges that were not there yet. -/
theorem assign_edges {s : DStore} (hs : DWF s) {op : Op} (ha : op.isAssign = true) (attrs : Nat → Attrs) :
    (toDag s attrs).edges.Sublist (toDag (step true s op).1 attrs).edges ∧
    (edgesUp s).Sublist (edgesUp (step true s op).1) ∧
    ((step true s op).2 = .ok →
      (requested s op).Nodup ∧
      (toDag (step true s op).1 attrs).edges.Perm
        ((toDag s attrs).edges ++ (requested s op).filter fun e => decide (e ∉ (toDag s attrs).edges))) :=
  ⟨(step_edges_sublist hs ha).1, (step_edges_sublist hs ha).2,
   fun h => ⟨requested_nodup hs h, step_edges_adds hs ha h⟩⟩

example : (step true demo (.setParents 3 (.list [2, 0, 1]) .none)).2 = .ok ∧
    edges (step true demo (.setParents 3 (.list [2, 0, 1]) .none)).1 = [(0, 1), (0, 2), (0, 3), (1, 2), (1, 3), (2, 3)] ∧
    (requested demo (.setParents 3 (.list [2, 0, 1]) .none)).filter (fun e => decide (e ∉ edges demo))
      = [(0, 3), (1, 3)] := by decide +kernel
-- a constructor call whose children assignment is refused: the new node stays listed by its parent
example : (step true demo (.construct [] (.list [3]) (.list [0]) .none .none)).2 = .rej ∧
    edges (step true demo (.construct [] (.list [3]) (.list [0]) .none .none)).1
      = [(0, 1), (0, 2), (1, 2), (2, 3), (3, 4)] := by decide +kernel

/-- list-exact, accepted `v.children = a`: the new edges `(v, c)` — the members of `a` that did not list
`v` yet, in argument order — are inserted right behind `v`'s old out-edges; nothing else moves -/
theorem setChildren_edges_exact {s : DStore} {v : Nat} (hv : v < s.n) {a : Arg} {f : Fault}
    (h : (setChildren true s v a f).2 = .ok) (attrs : Nat → Attrs) :
    (toDag (setChildren true s v a f).1 attrs).edges =
      (toDag s attrs).edges.filter (fun e => decide (e.1 ≤ v)) ++
      ((a.items.getD []).filter fun c => decide (v ∉ s.parents c)).map (fun c => (v, c)) ++
      (toDag s attrs).edges.filter (fun e => !decide (e.1 ≤ v)) :=
  DagStore.setChildren_edges_exact hv h

example : (setChildren true demo 1 (.tuple [3, 2]) .none).2 = .ok ∧
    edges (setChildren true demo 1 (.tuple [3, 2]) .none).1 = [(0, 1), (0, 2), (1, 2), (1, 3), (2, 3)] := by decide +kernel

/-- list-exact, accepted `v.parents = l`: read off the `parents` lists, the new edges `(p, v)` — the
members of `l` that were not parents of `v` yet, in argument order — sit right behind `v`'s old in-edges;
read off the `children` lists (the graph's edge list), every such `p` gets `v` appended to its out-edges -/
theorem setParents_edges_exact {s : DStore} (hs : DWF s) {v : Nat} (hv : v < s.n) {l : List Nat} {f : Fault}
    (h : (setParents true s v (.list l) f).2 = .ok) (attrs : Nat → Attrs) :
    edgesUp (setParents true s v (.list l) f).1 =
      (edgesUp s).filter (fun e => decide (e.2 ≤ v)) ++
      (l.filter fun p => decide (p ∉ s.parents v)).map (fun p => (p, v)) ++
      (edgesUp s).filter (fun e => !decide (e.2 ≤ v)) ∧
    (toDag (setParents true s v (.list l) f).1 attrs).edges =
      (List.range s.n).flatMap fun p =>
        (s.children p ++ if p ∈ l ∧ p ∉ s.parents v then [v] else []).map fun c => (p, c) :=
  ⟨setParents_edgesUp_exact hv h, DagStore.setParents_edges_exact hs h⟩

example : (setParents true demo 3 (.list [1, 2, 0]) .none).2 = .ok ∧
    edgesUp (setParents true demo 3 (.list [1, 2, 0]) .none).1 = [(0, 1), (1, 2), (0, 2), (2, 3), (1, 3), (0, 3)] := by
  decide +kernel

/-- **deletions** (`del v.children`, `del v[name]`): the new edge list is the old one with exactly the
named edges filtered out — list equality, the remaining edges keep their order -/
theorem delete_edges {s : DStore} (hs : DWF s) {op : Op} (ha : op.isAssign = false) (attrs : Nat → Attrs) :
    (toDag (step true s op).1 attrs).edges =
      (toDag s attrs).edges.filter fun e => decide (e ∉ removed s op) :=
  step_edges_removes hs ha

example : edges (step true demo (.delChildren 0)).1 = [(1, 2), (2, 3)] ∧
    removed demo (.delChildren 0) = [(0, 1), (0, 2)] := by decide +kernel

/-- **refused calls** (any cause — guard, pre-hook, post-hook after the insertions; the constructor, which
is two assignments, excepted): the graph is the one before the call -/
theorem rejected_edges {s : DStore} (hs : DWF s) {op : Op}
    (hop : ∀ nm ps cs fp fc, op ≠ .construct nm ps cs fp fc) (h : (step true s op).2 = .rej)
    (attrs : Nat → Attrs) : toDag (step true s op).1 attrs = toDag s attrs := by
  rw [step_rej_id hs.toDWF0 hop h]

-- a refusal with work to undo: the post-hook fails after the loop has inserted two edges
example : (step true demo (.setParents 3 (.list [0, 1]) .post)).2 = .rej ∧
    (parentsLoop demo 3 [0, 1]).1.parents 3 = [2, 0, 1] := by decide +kernel

/-! ## 5. whole histories, on edge lists alone

`EState` = (number of nodes, names, edge list); `EState.apply g op` is the documented effect of an accepted
call computed WITHOUT the adjacency tables: an assignment appends the asked-for edges that are missing,
`del v.children` drops the edges out of `v`, `del v[name]` drops the edge to the unique child of that name,
the constructor allocates the next id. -/

/-- **one accepted call** (any operation, any argument): node count and names of the new store are those of
the documented effect, and the edge list of the graph read off the new store is, up to order, the edge list
the documented effect computes from the old one -/
theorem step_refines {s : DStore} (hs : DWF s) (op : Op) (h : (step true s op).2 = .ok) (attrs : Nat → Attrs) :
    ((estate s).apply op).n = (step true s op).1.n ∧
    ((estate s).apply op).names = (step true s op).1.names ∧
    (toDag (step true s op).1 attrs).edges.Perm ((estate s).apply op).E :=
  let r := step_ok_rel hs (rel_estate s) op h
  ⟨r.n, r.names, r.perm⟩

example : (step true demo (.delItem 0 [])).2 = .rej ∧
    (step true (run true (init 4 fun i => [Char.ofNat (97 + i)]) C10.demoOps).1 (.delItem 0 ['c'])).2 = .ok ∧
    ((estate (run true (init 4 fun i => [Char.ofNat (97 + i)]) C10.demoOps).1).apply (.delItem 0 ['c'])).E
      = [(0, 1), (1, 2), (2, 3)] := by decide +kernel

/-- **whole histories** in which no constructor call raises (a raising constructor may leave a half-built
node behind, see `assign_edges`): the graph read off the final store has, up to order, exactly the edges
obtained by replaying the documented effects of the accepted calls — refused calls contribute nothing — on
the empty edge list; the replay never looks at an adjacency table -/
theorem run_refines (k : Nat) (names : Nat → Str) (ops : List Op) (attrs : Nat → Attrs)
    (hx : NoRejConstruct (init k names) ops) :
    let r := run true (init k names) ops
    let g := (EState.mk k names []).replay (ops.zip r.2)
    g.n = r.1.n ∧ g.names = r.1.names ∧ (toDag r.1 attrs).edges.Perm g.E := by
  intro r g
  have h0 : Rel (init k names) (EState.mk k names []) :=
    ⟨rfl, rfl, List.Perm.of_eq (List.flatMap_eq_nil_iff.2 fun _ _ => rfl)⟩
  have := run_rel ops (init k names) _ (C10.dwf_init k names) h0 hx
  exact ⟨this.n, this.names, this.perm⟩

example : NoRejConstruct (init 4 fun _ => []) (C10.demoOps ++ [.setChildren 3 (.list [0]) .none, .delChildren 1]) := by
  simp only [NoRejConstruct, C10.demoOps, List.cons_append, List.nil_append]
  refine ⟨?_, ?_, ?_, ?_, ?_, ?_, trivial⟩ <;> (intro _ nm ps cs fp fc e; cases e)
example :
    let ops := C10.demoOps ++ [.setChildren 3 (.list [0]) .none, .delChildren 1]
    ((EState.mk 4 (fun _ => []) []).replay (ops.zip (run true (init 4 fun _ => []) ops).2)).E
      = [(0, 1), (2, 3), (0, 2)] ∧
    edges (run true (init 4 fun _ => []) ops).1 = [(0, 1), (0, 2), (2, 3)] := by decide +kernel

end DagBridge
