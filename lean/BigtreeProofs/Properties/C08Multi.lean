import BigtreeProofs.Properties.C08
import BigtreeProofs.Lemmas.ModifyStrMulti
/-! # C08 - the string layer for separators of any length -/
open Modify
namespace C08

/-- The look-up every (from, to) pair starts with under `with_full_path=True`, and the component walk of
`add_path_to_tree`, for separators of ANY length (`"::"`, `"->"`): a printed full path `sep + sep.join(names)` - with any
run of separator characters in front of or behind it, Python strips a character SET - is cut into exactly the names, and
`find_full_path` returns the node at that address (or nothing when there is none). Names are non-empty and share no
character with the separator (`Store.Free`). The per-flag theorems above are stated for a one-character separator;
this is the string layer they rest on, at full generality. -/
theorem find_full_path_printed_multi (sp : Str) (hsp : sp ≠ []) (t : Tree) (p : List Str)
    (h : ∀ x ∈ t.name :: p, x ≠ [] ∧ Store.Free sp x) (lead trail : Str)
    (hl : ∀ x ∈ lead, x ∈ sp) (ht : ∀ x ∈ trail, x ∈ sp) :
    findFullPath sp t (lead ++ pathName sp (t.name :: p) ++ trail) = .ok ((getRel p t).map (fun x => (p, x))) :=
  findFullPath_printed_multi sp hsp t p h lead trail hl ht

theorem comps_printed_multi (sp : Str) (hsp : sp ≠ []) (n : Str) (ns : List Str)
    (h : ∀ x ∈ n :: ns, x ≠ [] ∧ Store.Free sp x) (lead trail : Str)
    (hl : ∀ x ∈ lead, x ∈ sp) (ht : ∀ x ∈ trail, x ∈ sp) :
    splitOn sp (stripL sp (stripR sp (lead ++ pathName sp (n :: ns) ++ trail))) = n :: ns :=
  comps_pathName_multi_pad sp hsp n ns h lead trail hl ht

-- the hypotheses are met by the example tree with the separator "->" and the look-up computes
example : (∀ x ∈ exTree3.name :: [['b'], ['a']], x ≠ [] ∧ Store.Free ['-', '>'] x) := by
  intro x hx
  simp only [exTree3, Tree.name, List.mem_cons, List.mem_nil_iff, or_false] at hx
  rcases hx with rfl | rfl | rfl <;> exact ⟨by simp, by intro c hc; simp at hc; subst hc; decide⟩
example : (findFullPath ['-', '>'] exTree3 (['>', '-'] ++ pathName ['-', '>'] (exTree3.name :: [['b'], ['a']]) ++ ['-'])).toOption.bind
    (fun o => o.map (fun x => x.2.id)) = some 5 := by decide

end C08
