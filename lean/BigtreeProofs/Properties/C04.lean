import BigtreeModel.Iter
import BigtreeProofs.Lemmas.Iter
/-!
# C04 — traversals visit each node once, in the documented order, honouring filters

Model: `BigtreeModel/Iter.lean` (implementation-shaped `preImpl`, `postImpl`, `levelImpl`,
`zigImpl`, the grouped variants, `inorderImpl`). Specification: gate the tree first (`gateL`
removes exactly the subtrees rooted at nodes that exceed `max_depth` or satisfy the stop
condition), then traverse the obvious way (`pre`, `post`, `layersL`, `alternate`), then filter.
All statements are about node identities (`Tree.id`), for every tree, every start depth `d`,
every filter/stop predicate and every `max_depth` — no bound on size, depth or fan-out.

The words of the last statements that are not in the model file are in `Lemmas/Iter.lean`: `bgate` and
`inorder` (the right-hand side of `inorder_eq`) and `Kept` (of `gate_mem_iff`).
-/

namespace C04
open Iter

/-- pre-order iterator = filter of the pre-order of the gated tree -/
theorem preorder_eq (c : Cfg) (d : Nat) (t : Tree) :
    (preImpl c d t).map Tree.id = (preL (gateL c d [t])).filter c.filt := by
  simpa only [preImplL, List.append_nil] using preImplL_ids c d [t]

/-- post-order iterator = filter of the post-order of the gated tree -/
theorem postorder_eq (c : Cfg) (d : Nat) (t : Tree) :
    (postImpl c d t).map Tree.id = (postL (gateL c d [t])).filter c.filt := by
  simpa only [postImplL, List.append_nil] using postImplL_ids c d [t]

/-- level-order iterator = depth layers of the gated tree, left to right, filtered
    (the fuel `height t` given by the public entry point suffices) -/
theorem levelorder_eq (c : Cfg) (d : Nat) (t : Tree) :
    (levelorder c d t).map Tree.id = ((layersL (gateL c d [t])).flatten).filter c.filt :=
  levelImpl_ids c (height t) d [t] (Nat.le_of_eq (heightL_singleton t))

/-- zigzag iterator = depth layers of the gated tree with every second layer reversed, filtered -/
theorem zigzag_eq (c : Cfg) (d : Nat) (t : Tree) :
    (zigzag c d t).map Tree.id = ((alternate false (layersL (gateL c d [t]))).flatten).filter c.filt :=
  zigImpl_ids c (height t) d false [t] (Nat.le_of_eq (heightL_singleton t))

/-- the grouped level-order flattens to the ungrouped one -/
theorem levelgroup_flatten (c : Cfg) (d : Nat) (t : Tree) :
    (levelordergroup c d t).flatten = levelorder c d t :=
  levelGroup_flatten c (height t) d [t]

/-- the grouped zigzag flattens to the ungrouped one -/
theorem zigzaggroup_flatten (c : Cfg) (d : Nat) (t : Tree) :
    (zigzaggroup c d t).flatten = zigzag c d t :=
  zigGroup_flatten c (height t) d false [t]

/-- group `k` is exactly layer `k` of the gated tree (filtered); there is one group per kept
    layer, plus at most one trailing group (empty: all candidates of that depth were stopped) -/
theorem levelgroup_eq (c : Cfg) (d : Nat) (t : Tree) :
    (levelordergroup c d t).map (·.map Tree.id)
      = ((List.range (levelordergroup c d t).length).map fun k =>
          (layer.layerL k (gateL c d [t])).filter c.filt) ∧
    height.heightL (gateL c d [t]) ≤ (levelordergroup c d t).length ∧
    (levelordergroup c d t).length ≤ height.heightL (gateL c d [t]) + 1 := by
  refine ⟨?_, levelGroup_length c (height t) d [t] (Nat.le_of_eq (heightL_singleton t))⟩
  have := levelGroup_layers c (height t) d [t]
  rwa [layersUpTo, List.map_map] at this

/-- same for zigzag groups, with every second group reversed -/
theorem zigzaggroup_eq (c : Cfg) (d : Nat) (t : Tree) :
    (zigzaggroup c d t).map (·.map Tree.id)
      = (alternate false ((List.range (zigzaggroup c d t).length).map fun k =>
          layer.layerL k (gateL c d [t]))).map (·.filter c.filt) ∧
    height.heightL (gateL c d [t]) ≤ (zigzaggroup c d t).length ∧
    (zigzaggroup c d t).length ≤ height.heightL (gateL c d [t]) + 1 := by
  have hl : (zigzaggroup c d t).length = (levelordergroup c d t).length :=
    zigGroup_length c (height t) d false [t]
  have hz : (zigzaggroup c d t).map (·.map Tree.id) = alternate false ((levelordergroup c d t).map (·.map Tree.id)) :=
    zigGroup_ids c (height t) d false [t]
  rw [hl, hz, levelordergroup, levelGroup_layers, alternate_map_filter]
  exact ⟨rfl, levelGroup_length c (height t) d [t] (Nat.le_of_eq (heightL_singleton t))⟩

/-- in-order on binary trees with empty slots: left subtree, node, right subtree of the tree
    cut at `max_depth`, filtered -/
theorem inorder_eq (filt : Nat → Bool) (md d : Nat) (t : BTree) :
    inorderImpl filt md d t = (inorder (bgate md d t)).filter filt :=
  inorderImpl_eq filt md d t

/-! ### each node exactly once -/

/-- without a filter, pre-order yields exactly the nodes of the gated tree; this is the reference
    listing the other orders are compared with below -/
theorem preorder_perm_nodes (c : Cfg) (d : Nat) (t : Tree) (hall : ∀ i, c.filt i = true) :
    ((preImpl c d t).map Tree.id).Perm (preL (gateL c d [t])) := by
  rw [preorder_eq, List.filter_eq_self.2 (fun i _ => hall i)]

theorem postorder_perm_pre (c : Cfg) (d : Nat) (t : Tree) :
    ((postImpl c d t).map Tree.id).Perm ((preImpl c d t).map Tree.id) := by
  rw [preorder_eq, postorder_eq]
  exact (postL_perm_preL _).filter _

theorem levelorder_perm_pre (c : Cfg) (d : Nat) (t : Tree) :
    ((levelorder c d t).map Tree.id).Perm ((preImpl c d t).map Tree.id) := by
  rw [preorder_eq, levelorder_eq]
  exact (layers_perm_preL _).filter _

theorem zigzag_perm_pre (c : Cfg) (d : Nat) (t : Tree) :
    ((zigzag c d t).map Tree.id).Perm ((preImpl c d t).map Tree.id) := by
  rw [preorder_eq, zigzag_eq]
  exact ((alternate_flatten_perm _ _).trans (layers_perm_preL _)).filter _

/-- distinct identities in the input ⇒ the pre-order iterator yields no node twice; the other iterators
    yield permutations of its output (the `*_perm_pre` theorems above), hence neither do they -/
theorem pre_nodup (c : Cfg) (d : Nat) (t : Tree) (h : (pre t).Nodup) :
    ((preImpl c d t).map Tree.id).Nodup := by
  rw [preorder_eq]
  have h1 : (preL [t]).Nodup := by rwa [preL, preL, List.append_nil]
  exact ((List.filter_sublist).trans (preL_gateL_sublist c d [t])).nodup h1

/-- a filter condition yields exactly the subsequence of nodes satisfying it
    (stated for all four generic iterators) -/
theorem filter_subsequence (c : Cfg) (d : Nat) (t : Tree) :
    let c0 : Cfg := { c with filt := fun _ => true }
    (preImpl c d t).map Tree.id = ((preImpl c0 d t).map Tree.id).filter c.filt ∧
    (postImpl c d t).map Tree.id = ((postImpl c0 d t).map Tree.id).filter c.filt ∧
    (levelorder c d t).map Tree.id = ((levelorder c0 d t).map Tree.id).filter c.filt ∧
    (zigzag c d t).map Tree.id = ((zigzag c0 d t).map Tree.id).filter c.filt := by
  intro c0
  -- `c0` gates like `c`, and its own filter keeps everything
  have hg : gateL c0 d [t] = gateL c d [t] := gateL_congr (c := c) (c' := c0) (fun _ _ => rfl) d [t]
  have hf : ∀ l : List Nat, l.filter c0.filt = l := fun l => List.filter_eq_self.2 (fun _ _ => rfl)
  exact ⟨by rw [preorder_eq, preorder_eq, hg, hf], by rw [postorder_eq, postorder_eq, hg, hf],
    by rw [levelorder_eq, levelorder_eq, hg, hf], by rw [zigzag_eq, zigzag_eq, hg, hf]⟩

/-- a stop condition removes exactly the subtrees rooted at nodes satisfying it and `max_depth`
    keeps exactly the nodes whose depth does not exceed it: a node is in the gated tree iff it
    and all its ancestors up to the start node pass the gate -/
theorem gate_mem_iff (c : Cfg) (d : Nat) (t : Tree) (i : Nat) :
    i ∈ preL (gateL c d [t]) ↔ Kept c d [t] i :=
  mem_preL_gateL c d [t] i

/-- pre-order: a parent precedes all its descendants, subtrees of siblings follow left to right -/
theorem preorder_parent_before_child (i : Nat) (n : Str) (a : Attrs) (cs : List Tree) :
    pre (.node i n a cs) = i :: (cs.map pre).flatten := by
  rw [pre, preL_eq_flatMap, List.flatMap_def]

/-- post-order: all descendants precede the parent, subtrees of siblings left to right -/
theorem postorder_child_before_parent (i : Nat) (n : Str) (a : Attrs) (cs : List Tree) :
    post (.node i n a cs) = (cs.map post).flatten ++ [i] := by
  rw [post, postL_eq_flatMap, List.flatMap_def]

/-! ### non-vacuity: a concrete tree exercising gate, stop and filter -/

private def ex : Tree :=
  .node 0 [] [] [.node 1 [] [] [.node 3 [] [] [], .node 4 [] [] [.node 6 [] [] []]],
                 .node 2 [] [] [.node 5 [] [] []]]
private def exCfg : Cfg := { filt := fun i => i != 3, stop := fun i => i == 2, maxDepth := 3 }

example : (preImpl exCfg 1 ex).map Tree.id = [0, 1, 4] := by decide +kernel
example : (zigzag exCfg 1 ex).map Tree.id = [0, 1, 4] := by decide +kernel
example : (levelordergroup exCfg 1 ex).map (·.map Tree.id) = [[0], [1], [4]] := by decide +kernel
example : (pre ex).Nodup := by decide +kernel
example : Kept exCfg 1 [ex] 4 := (gate_mem_iff exCfg 1 ex 4).1 (by decide +kernel)

end C04
