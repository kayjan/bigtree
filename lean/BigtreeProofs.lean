import BigtreeProofs.Lemmas.ParentFn
import BigtreeProofs.Lemmas.StringsBridge
import BigtreeProofs.Properties.C01
import BigtreeProofs.Properties.Bridge
import BigtreeProofs.Properties.DagBridge
import BigtreeProofs.Properties.BinBridge
import BigtreeProofs.Properties.C02
import BigtreeProofs.Properties.C03
import BigtreeProofs.Properties.C04
import BigtreeProofs.Properties.C05
import BigtreeProofs.Properties.C06
import BigtreeProofs.Properties.C07
import BigtreeProofs.Properties.C07Dag
import BigtreeProofs.Lemmas.ModifyStrMulti
import BigtreeProofs.Properties.C08
import BigtreeProofs.Properties.C08Multi
import BigtreeProofs.Lemmas.SearchStrMulti
import BigtreeProofs.Properties.C09
import BigtreeProofs.Properties.C10
import BigtreeProofs.Properties.C11
import BigtreeProofs.Properties.C12
import BigtreeProofs.Properties.C13
import BigtreeProofs.Properties.C14
import BigtreeProofs.Properties.C15
import BigtreeProofs.Properties.C16
import BigtreeProofs.Properties.C17
import BigtreeProofs.Properties.C18
import BigtreeProofs.Properties.C19
import BigtreeProofs.Properties.C20
